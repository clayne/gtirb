import GtirbProofs.Props.C15
import GtirbProofs.Props.C07
import GtirbProofs.Props.C08
import GtirbProofs.Tables
import GtirbProofs.Props.C11
import GtirbProofs.Props.C19
import GtirbProofs.Props.C14
import GtirbProofs.Lemmas.RunLemmas
import GtirbProofs.Lemmas.Touched
import GtirbProofs.Props.C04
import GtirbProofs.Props.C10Full
import GtirbProofs.Props.C03Full
import GtirbProofs.Props.C01
import GtirbProofs.Props.C02
import GtirbProofs.Props.C17
import GtirbProofs.Props.C18
import GtirbProofs.Props.C05
import GtirbProofs.Props.C06
import GtirbProofs.Props.C12
import GtirbProofs.Props.C13
import GtirbProofs.Props.C16
import GtirbProofs.Props.C05Scopes
import GtirbProofs.Lemmas.RoundTrip
import GtirbProofs.Props.C02Accepts
import GtirbProofs.Props.C01DeepEq
import GtirbProofs.Props.C16Slices
import GtirbProofs.Props.C17Loader
import GtirbProofs.Props.C11Views
import GtirbProofs.Props.C06Sections
import GtirbProofs.Props.C14History
import GtirbProofs.Props.C18Nodes
import GtirbProofs.Props.C01Link
import GtirbProofs.Props.C01Domain
import GtirbProofs.Props.C02Exact
import GtirbProofs.Props.C03NoRollback
import GtirbProofs.Props.C03Scan
import GtirbProofs.Props.C04Frame
import GtirbProofs.Props.C05Kinds
import GtirbProofs.Props.C05Must
import GtirbProofs.Props.C09Errors
import GtirbProofs.Props.C11Keyed
import GtirbProofs.Props.C12General
import GtirbProofs.Props.C13Scopes
import GtirbProofs.Props.C16Extend
import GtirbProofs.Props.C17Bytes
import GtirbProofs.Props.C18Refl
import GtirbProofs.Lemmas.CodecTypingProofs
import GtirbProofs.Props.C14Generations
import GtirbProofs.Props.C03Load
import GtirbProofs.Props.C09Identity
import GtirbProofs.Props.C08Wire
import GtirbProofs.Props.C07Names
import GtirbProofs.Lemmas.LoaderMiss
import GtirbProofs.Lemmas.LoaderXProofs
import GtirbProofs.Props.C17LoaderX
import GtirbProofs.Props.C16Ops
import GtirbProofs.Lemmas.PbWireProofs
import GtirbProofs.Props.C01Wire
import GtirbProofs.Props.C17Wire
import GtirbProofs.Props.C17Truncation
