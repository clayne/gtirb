import GtirbProofs.Props.C17
import GtirbProofs.Props.C02Accepts
/-! C17, lifted from messages to *byte strings*.

The `C17_accepted_*` theorems of Props/C17.lean talk about `fromMsg m`. The property talks
about files. `C17_accepted_bytes_inv` inverts `loadBytes`: whatever byte string is accepted,
with whatever `parse` (protobuf's `ParseFromString`, opaque), has the 8-byte header and its
remainder parses to a message the value-level reader accepts with the same result. So
every guarantee about accepted messages is a guarantee about accepted files
(`C17_accepted_lift` and the restated corollaries `C17_accepted_*_bytes`). -/
namespace Gtirb.Msg
open Gtirb

theorem C17_accepted_bytes_inv (parse : Bytes → Option MIR) (bs : Bytes) (v : IRV)
    (h : loadBytes parse bs = .ok v) :
    bs.take 5 = Generated.magic ∧ (bs.drop 7).take 1 = [UInt8.ofNat Generated.protobufVersion]
      ∧ ∃ m, parse (bs.drop 8) = some m ∧ fromMsg m = .ok v := by
  unfold loadBytes at h
  split at h
  · cases h
  · next h1 =>
    split at h
    · cases h
    · next h2 =>
      split at h
      · cases h
      · next m hp =>
        split at h
        · next v' hm =>
          cases h
          exact ⟨Classical.not_not.1 h1, Classical.not_not.1 h2, m, hp, hm⟩
        · cases h

/-- the same with the file written out: `bs = magic ++ [a, b, version] ++ rest` -/
theorem C17_accepted_bytes_shape (parse : Bytes → Option MIR) (bs : Bytes) (v : IRV)
    (h : loadBytes parse bs = .ok v) :
    ∃ a b rest m, bs = Generated.magic ++ [a, b, UInt8.ofNat Generated.protobufVersion] ++ rest
      ∧ parse rest = some m ∧ fromMsg m = .ok v := by
  obtain ⟨h1, h2, m, hp, hm⟩ := C17_accepted_bytes_inv parse bs v h
  rcases bs with _ | ⟨b0, _ | ⟨b1, _ | ⟨b2, _ | ⟨b3, _ | ⟨b4, _ | ⟨b5, _ | ⟨b6, _ | ⟨b7, rest⟩⟩⟩⟩⟩⟩⟩⟩
  all_goals try (simp [Generated.magic] at h1; done)
  all_goals try (simp at h2; done)
  simp only [List.take_succ_cons, List.take_zero, Generated.magic, List.cons.injEq, and_true] at h1
  simp only [List.drop_succ_cons, List.drop_zero, List.take_succ_cons, List.take_zero,
    List.cons.injEq, and_true] at h2
  obtain ⟨rfl, rfl, rfl, rfl, rfl⟩ := h1
  subst h2
  exact ⟨b5, b6, rest, m, rfl, hp, hm⟩

/-- and conversely: the three conditions are exactly acceptance -/
theorem C17_accepted_bytes_iff (parse : Bytes → Option MIR) (bs : Bytes) (v : IRV) :
    loadBytes parse bs = .ok v ↔
      (bs.take 5 = Generated.magic ∧ (bs.drop 7).take 1 = [UInt8.ofNat Generated.protobufVersion]
        ∧ ∃ m, parse (bs.drop 8) = some m ∧ fromMsg m = .ok v) := by
  constructor
  · exact C17_accepted_bytes_inv parse bs v
  · rintro ⟨h1, h2, m, hp, hm⟩
    unfold loadBytes
    simp only [h1, h2, ne_eq, not_true_eq_false, if_false, hp, hm]

theorem C17_accepted_lift (P : IRV → Prop) (hP : ∀ m v, fromMsg m = .ok v → P v)
    (parse : Bytes → Option MIR) (bs : Bytes) (v : IRV) (h : loadBytes parse bs = .ok v) : P v := by
  obtain ⟨_, _, m, _, hm⟩ := C17_accepted_bytes_inv parse bs v h
  exact hP m v hm

/-- every enum number of an accepted IR is a member of its Python enum: ISA, FileFormat,
ByteOrder per module, DecodeMode per code block, SectionFlag per section, EdgeType per
labelled edge. No side conditions. -/
theorem C17_accepted_enums (m : MIR) (v : IRV) (h : fromMsg m = .ok v) :
    (∀ mod ∈ v.modules,
      pyEnumHas "ISA" mod.isa = true ∧ pyEnumHas "FileFormat" mod.fileFormat = true
      ∧ pyEnumHas "ByteOrder" mod.byteOrder = true
      ∧ ∀ s ∈ mod.sections, (∀ f ∈ s.flags, pyEnumHas "SectionFlag" f = true) ∧
          ∀ x ∈ s.intervals, ∀ b ∈ x.blocks,
            match b with
            | .code _ _ _ dm => pyEnumHas "DecodeMode" dm = true
            | .data _ _ _ => True)
    ∧ (∀ e ∈ v.edges, ∀ l, e.label = some l → pyEnumHas "EdgeType" l.type = true) := by
  obtain ⟨_, _, hmods, hedges, _⟩ := accepted_good h
  refine ⟨fun mv hmv => ?_, fun e he => (hedges e he).2⟩
  obtain ⟨pre, post, hsplit⟩ := List.append_of_mem hmv
  obtain ⟨hen, _, hsecs⟩ := hmods pre mv post hsplit
  refine ⟨hen.1, hen.2.1, hen.2.2, fun s hs => ⟨(hsecs s hs).1.1, fun x hx b hb => ?_⟩⟩
  have := ((hsecs s hs).2 x hx).2.1 b hb
  cases b with
  | code _ _ _ _ => exact this
  | data _ _ _ => trivial

theorem C17_accepted_wf_bytes (parse : Bytes → Option MIR) (bs : Bytes) (v : IRV)
    (h : loadBytes parse bs = .ok v) :
    (∀ u ∈ v.nodeUuids, u.length = 16) ∧ v.version = Generated.protobufVersion ∧
    (∀ mod ∈ v.modules, ∀ s ∈ mod.sections, ∀ x ∈ s.intervals, x.contents.length ≤ x.size) :=
  C17_accepted_lift _ C17_accepted_wf_partial parse bs v h

theorem C17_accepted_refs_bytes (parse : Bytes → Option MIR) (bs : Bytes) (v : IRV)
    (h : loadBytes parse bs = .ok v) :
    (∀ pre mod post, v.modules = pre ++ mod :: post →
      (∀ u, mod.entryPoint = some u → u ∈ pre.flatMap (·.codeUuids) ++ mod.codeUuids)
      ∧ (∀ s ∈ mod.symbols, ∀ u, s.payload = .referent u →
          u ∈ pre.flatMap (·.blockUuids) ++ mod.blockUuids)
      ∧ (∀ s ∈ mod.sections, ∀ x ∈ s.intervals, ∀ e ∈ x.exprs, ∀ u ∈ exprSyms e.expr,
          u ∈ (pre.flatMap fun e => e.symbols.map (·.uuid)) ++ mod.symbols.map (·.uuid)))
    ∧ (∀ e ∈ v.edges,
        e.src ∈ (v.modules.flatMap fun m => m.codeUuids ++ m.proxies)
        ∧ e.dst ∈ (v.modules.flatMap fun m => m.codeUuids ++ m.proxies)
        ∧ (∀ l, e.label = some l → pyEnumHas "EdgeType" l.type = true)) :=
  C17_accepted_lift _ C17_accepted_refs parse bs v h

theorem C17_accepted_sets_bytes (parse : Bytes → Option MIR) (bs : Bytes) (v : IRV)
    (h : loadBytes parse bs = .ok v) :
    v.edges.Nodup
    ∧ (∀ mod ∈ v.modules, ∀ s ∈ mod.sections, s.flags.Nodup ∧
        (∀ f ∈ s.flags, pyEnumHas "SectionFlag" f = true) ∧
        ∀ x ∈ s.intervals, ∀ e ∈ x.exprs, e.attrs.Nodup) :=
  C17_accepted_lift _ C17_accepted_sets parse bs v h

theorem C17_accepted_enums_bytes (parse : Bytes → Option MIR) (bs : Bytes) (v : IRV)
    (h : loadBytes parse bs = .ok v) :
    (∀ mod ∈ v.modules,
      pyEnumHas "ISA" mod.isa = true ∧ pyEnumHas "FileFormat" mod.fileFormat = true
      ∧ pyEnumHas "ByteOrder" mod.byteOrder = true
      ∧ ∀ s ∈ mod.sections, (∀ f ∈ s.flags, pyEnumHas "SectionFlag" f = true) ∧
          ∀ x ∈ s.intervals, ∀ b ∈ x.blocks,
            match b with
            | .code _ _ _ dm => pyEnumHas "DecodeMode" dm = true
            | .data _ _ _ => True)
    ∧ (∀ e ∈ v.edges, ∀ l, e.label = some l → pyEnumHas "EdgeType" l.type = true) :=
  C17_accepted_lift _ C17_accepted_enums parse bs v h

theorem C17_accepted_nodup_bytes_partial (parse : Bytes → Option MIR) (bs : Bytes) (v : IRV)
    (h : loadBytes parse bs = .ok v)
    (hside : ∀ mod ∈ v.modules, ∀ s ∈ mod.sections, ∀ x ∈ s.intervals, x.uuid ∉ x.blockUuids) :
    v.nodeUuids.Nodup :=
  C17_accepted_lift (fun v => (∀ mod ∈ v.modules, ∀ s ∈ mod.sections, ∀ x ∈ s.intervals,
      x.uuid ∉ x.blockUuids) → v.nodeUuids.Nodup) C17_accepted_nodup_partial parse bs v h hside

theorem C17_accepted_wfir_bytes_partial (parse : Bytes → Option MIR) (bs : Bytes) (v : IRV)
    (h : loadBytes parse bs = .ok v)
    (hside : ∀ mod ∈ v.modules, ∀ s ∈ mod.sections, ∀ x ∈ s.intervals, x.uuid ∉ x.blockUuids)
    (hkeys : (v.aux.map (·.key)).Nodup ∧ ∀ mod ∈ v.modules, (mod.aux.map (·.key)).Nodup ∧
      ∀ s ∈ mod.sections, ∀ x ∈ s.intervals, (x.exprs.map (·.key)).Nodup) :
    wfir v = true := by
  obtain ⟨_, _, m, _, hm⟩ := C17_accepted_bytes_inv parse bs v h
  exact C17_accepted_wfir_partial m v hm hside hkeys

/-- "the IR can be saved again": what was accepted from a byte string, saved with any
serializer that `parse` inverts, is accepted again and reproduces itself -/
theorem C17_accepted_reload_bytes_partial (serialize : MIR → Bytes) (parse : Bytes → Option MIR)
    (hps : ∀ m, parse (serialize m) = some m) (bs : Bytes) (v : IRV)
    (h : loadBytes parse bs = .ok v)
    (hside : ∀ mod ∈ v.modules, ∀ s ∈ mod.sections, ∀ x ∈ s.intervals, x.uuid ∉ x.blockUuids)
    (hkeys : (v.aux.map (·.key)).Nodup ∧ ∀ mod ∈ v.modules, (mod.aux.map (·.key)).Nodup ∧
      ∀ s ∈ mod.sections, ∀ x ∈ s.intervals, (x.exprs.map (·.key)).Nodup) :
    loadBytes parse (saveBytes serialize v) = .ok v :=
  loadBytes_ok (hps _)
    (C01_roundtrip v (C17_accepted_wfir_bytes_partial parse bs v h hside hkeys))

section Examples

/-- a toy wire format: the remainder `[k]` parses to `dupMsg` for `k = 7`, nothing else parses -/
def exParse (bs : Bytes) : Option MIR := if bs = [7] then some dupMsg else none

/-- a 9-byte file with non-zero reserved bytes -/
def exFile : Bytes := [71, 84, 73, 82, 66, 0xAA, 0xBB, 4, 7]

theorem loadBytes_exFile : ∃ v, loadBytes exParse exFile = .ok v ∧ fromMsg dupMsg = .ok v := by
  obtain ⟨v, h, _⟩ := C17_accepted_dup_counterexample
  refine ⟨v, ?_, h⟩
  rw [show exFile = Generated.magic ++ [0xAA, 0xBB, UInt8.ofNat Generated.protobufVersion] ++ [7]
    from rfl, loadBytes_header]
  simp only [exParse, if_true, h]

example : ∃ v, loadBytes exParse exFile = .ok v := loadBytes_exFile.imp fun _ h => h.1

example : ∃ v, loadBytes exParse exFile = .ok v ∧ fromMsg dupMsg = .ok v
    ∧ (∀ u ∈ v.nodeUuids, u.length = 16) := by
  obtain ⟨v, h1, h2⟩ := loadBytes_exFile
  exact ⟨v, h1, h2, (C17_accepted_wf_bytes exParse exFile v h1).1⟩

example : ∃ a b rest m, exFile = Generated.magic ++ [a, b, UInt8.ofNat Generated.protobufVersion] ++ rest
    ∧ exParse rest = some m ∧ ∃ v, fromMsg m = .ok v := by
  obtain ⟨v, hv, _⟩ := loadBytes_exFile
  obtain ⟨a, b, rest, m, h1, h2, h3⟩ := C17_accepted_bytes_shape exParse exFile v hv
  exact ⟨a, b, rest, m, h1, h2, _, h3⟩

/-- the enum theorem applied to `exClosedMsg` (two modules, code block with decode mode 1,
flags 1 and 3, labelled edges of types 0 and 5) -/
example : ∃ v, fromMsg exClosedMsg = .ok v ∧ v.modules.length = 2
    ∧ (∀ mod ∈ v.modules, pyEnumHas "ISA" mod.isa = true)
    ∧ (∀ e ∈ v.edges, ∀ l, e.label = some l → pyEnumHas "EdgeType" l.type = true) := by
  obtain ⟨v, hv⟩ := C02_reader_accepts exClosedMsg closedMsg_exClosedMsg
  have := C17_accepted_enums _ _ hv
  exact ⟨v, hv, by rw [(C02_reader_ir _ _ hv).2.2.1]; rfl, fun mod hm => (this.1 mod hm).1, this.2⟩

end Examples

end Gtirb.Msg
