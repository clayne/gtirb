import GtirbProofs.Props.C18
import GtirbProofs.Props.C01DeepEq
/-! C18, reflexivity made exact.

The model's `deepEq` resolves a reference (symbol referent, entry point, expression symbol, edge
endpoint) by looking the UUID up *inside the IR* (`findBlock` / `findSymbol`); one that does not
resolve there makes the comparison `false`, even of an IR with itself.

**This is a deviation of the model from the code, not a property of the code.** Python's
`Symbol.deep_eq` compares `self.referent` with `other.referent` as objects, wherever they live.
`Symbol(referent=free_block)` with a block that belongs to no IR (or to another IR) is legal
through the public API, and the Python `deep_eq` is reflexive on *every* IR.

`C18_refl_iff` makes the deviation exact: the model's `deepEq v v` is `false` **iff**
`RefsResolve v` fails. Hence the model's `deepEq` can coincide with the code's only on IRs whose
references all resolve inside them; every completeness / reflexivity theorem of C18 and the
`deep_eq` clause of C01 assume that (as part of `SelfContained`, which `wfir` implies). For IRs
with references to foreign nodes nothing is proved about `deep_eq` (and the harness does not
generate them for this property). -/
namespace Gtirb.Msg

/-- A statement about the *model*, not the code (see the head of this file). The right-hand side
is `RefsResolve v` written out. -/
theorem C18_refl_iff (v : IRV) :
    deepEq v v = true ↔
      ((∀ m ∈ v.modules, ModuleOk v m) ∧
        ∀ e ∈ v.edges, (v.findBlock e.src).isSome = true ∧ (v.findBlock e.dst).isSome = true) :=
  ⟨deepEq_resolves, fun h => deepEq_of_canon_agree (agree_refl v) h rfl⟩

theorem C18_not_refl_iff (v : IRV) : deepEq v v = false ↔ ¬ RefsResolve v := by
  rw [← Bool.not_eq_true]
  exact not_congr (C18_refl_iff v)

/-- "some reference does not resolve", reference kind by reference kind -/
theorem C18_not_refl_witness (v : IRV) (h : deepEq v v = false) :
    (∃ m ∈ v.modules, ∃ s ∈ m.symbols, ∃ u, s.payload = .referent u
        ∧ u ∉ v.blocks.map (·.uuid) ∧ u ∉ v.proxies)
    ∨ (∃ m ∈ v.modules, ∃ u, m.entryPoint = some u ∧ u ∉ v.blocks.map (·.uuid) ∧ u ∉ v.proxies)
    ∨ (∃ m ∈ v.modules, ∃ s ∈ m.sections, ∃ i ∈ s.intervals, ∃ e ∈ i.exprs, ∃ u ∈ e.expr.syms,
        u ∉ v.symbols.map (·.uuid))
    ∨ (∃ e ∈ v.edges, ∃ u, (u = e.src ∨ u = e.dst) ∧ u ∉ v.blocks.map (·.uuid) ∧ u ∉ v.proxies) := by
  refine Classical.byContradiction fun hc => (C18_not_refl_iff v).1 h ?_
  simp only [not_or, not_exists, not_and] at hc
  obtain ⟨c1, c2, c3, c4⟩ := hc
  have hb : ∀ u, (u ∉ v.blocks.map (·.uuid) → ¬ u ∉ v.proxies) → (v.findBlock u).isSome = true :=
    fun u hu => (findBlock_isSome_iff v u).2
      (Classical.or_iff_not_imp_left.2 fun h1 => Classical.not_not.1 (hu h1))
  exact ⟨fun m hm => ⟨fun s hs i hi e he u hu =>
        (findSymbol_isSome_iff v u).2 (Classical.not_not.1 (c3 m hm s hs i hi e he u hu)),
      fun s hs u hu => hb u (c1 m hm s hs u (PayloadV.mem_refs.1 hu)),
      fun u hu => hb u (c2 m hm u (Option.mem_toList.1 hu))⟩,
    fun e he => ⟨hb _ (c4 e he e.src (.inl rfl)), hb _ (c4 e he e.dst (.inr rfl))⟩⟩

/-- `C18_refl` with the hypothesis actually needed -/
theorem C18_refl' (v : IRV) (h : RefsResolve v) : deepEq v v = true := (C18_refl_iff v).2 h

/-- both sides true: the self-contained `exIR` of Props/C01.lean -/
example : RefsResolve exIR ∧ deepEq exIR exIR = true := by
  have h : RefsResolve exIR := (C01_wfir_selfContained exIR wfir_exIR).refsResolve
  exact ⟨h, C18_refl' exIR h⟩

/-- both sides false: `exDangling` (a symbol whose referent is no node of the IR: legal in
Python, where `deep_eq` of that IR with itself is `True`) -/
example : ¬ RefsResolve exDangling ∧ deepEq exDangling exDangling = false :=
  ⟨(C18_not_refl_iff _).1 deepEq_exDangling_self, deepEq_exDangling_self⟩

/-- `RefsResolve` is strictly weaker than `SelfContained`: an IR with the same block UUID
twice is reflexive under the model's `deepEq` but not self-contained -/
def exTwice : IRV :=
  { uuid := exU 1, version := 4, edges := [], aux := [],
    modules := [
      { uuid := exU 2, name := "m", binaryPath := "", preferredAddr := 0, rebaseDelta := 0,
        fileFormat := 0, isa := 0, byteOrder := 0, entryPoint := none, proxies := [], aux := [],
        sections := [
          { uuid := exU 3, name := "s", flags := [],
            intervals := [
              { uuid := exU 4, addr := none, size := 0, contents := [], exprs := [],
                blocks := [.data (exU 5) 0 0, .data (exU 5) 0 0] }] }],
        symbols := [⟨exU 6, "sym", .referent (exU 5), false⟩] }] }

example : RefsResolve exTwice ∧ ¬ SelfContained exTwice ∧ deepEq exTwice exTwice = true := by
  have h : RefsResolve exTwice := by decide
  exact ⟨h, by decide, C18_refl' _ h⟩

end Gtirb.Msg
