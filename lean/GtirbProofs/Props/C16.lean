import GtirbProofs.Lemmas.WrapperProofs
import GtirbProofs.Props.C03
import GtirbProofs.Props.C04
/-! Property C16: the owning collections refine the built-in list and set.

`ir.modules` supports the full mutable-sequence interface, the node sets (sections, symbols, proxies,
byte_intervals, blocks) the full mutable-set interface, with the resulting contents and exception
types of the corresponding built-in operation on the same elements, except that a node inserted while
owned elsewhere is moved rather than duplicated; a failed operation leaves the collection and its
elements consistent.

`g.kids p s` is the content of collection `s` of parent `p` (`.mods`: the ordered module list; the
other slots are sets, kept as duplicate-free lists whose order has no meaning). Operation by
operation: the content after the wrapper operation is the built-in operation applied to the content
after removing the inserted nodes from their previous owners. For the sets the statements are about
membership, for the module list about the list itself. In the model an operation that raises returns
no new state (`Except.error`): the state is the one before the call, so "a failed operation leaves
the collection consistent" is the statement that the built-in's exceptions are decided by a guard on
the content alone (`C16_builtin_errors_pure`) and that nothing else can be raised
(`C16_error_kinds`). -/
namespace Gtirb.Forest

/-- `add`: the element is in the set afterwards, moved (removed from every other collection), nothing
else changes -/
theorem C16_add_content (g g' : G) (p : Nat) (s : Slot) (v : Nat) (h : ForestInv g) (hop : OpOK g (.add p s v))
    (hs : step g (.add p s v) = .ok g') :
    (∀ x, x ∈ g'.kids p s ↔ x ∈ g.kids p s ∨ x = v) ∧
    (∀ q s', (q ≠ p ∨ s' ≠ s) → ∀ x, x ∈ g'.kids q s' ↔ x ∈ g.kids q s' ∧ x ≠ v) :=
  wr_nodeSetAdd_content h hop.2 hs

theorem C16_discard_content (g g' : G) (p : Nat) (s : Slot) (v : Nat) (h : ForestInv g)
    (hs : step g (.discard p s v) = .ok g') :
    (∀ x, x ∈ g'.kids p s ↔ x ∈ g.kids p s ∧ x ≠ v) ∧
    (∀ q s', (q ≠ p ∨ s' ≠ s) → g'.kids q s' = g.kids q s') := by
  have hk := wr_setDiscard_kids (g := g) (g' := g') (p := p) (s := s) (v := v) hs
  constructor
  · intro x
    rw [hk p s, if_pos ⟨rfl, rfl⟩, mem_erase_nodup (h.nodup p s)]
  · intro q s' hne
    rw [hk q s', if_neg (not_and_of_not_or_not hne)]

theorem C16_discard_absent (g : G) (p : Nat) (s : Slot) (v : Nat) (hv : v ∉ g.kids p s) :
    step g (.discard p s v) = .ok g := by
  show setDiscard g p s v = .ok g
  unfold setDiscard
  rw [if_neg hv]

/-- `remove` = `discard` with `KeyError` for an absent element -/
theorem C16_remove_error (g : G) (p : Nat) (s : Slot) (v : Nat) :
    (v ∉ g.kids p s → step g (.remove p s v) = .error .keyError) ∧
    (v ∈ g.kids p s → step g (.remove p s v) = step g (.discard p s v)) := by
  constructor
  · intro hv; simp only [step, if_neg hv]
  · intro hv; simp only [step, if_pos hv]

theorem C16_pop_empty (g : G) (p : Nat) (s : Slot) (v : Nat) (he : g.kids p s = []) :
    step g (.pop p s v) = .error .keyError := by
  simp [step, he]

/-- `pop` that yields the member `v` = `discard v` -/
theorem C16_pop_member (g : G) (p : Nat) (s : Slot) (v : Nat) (hv : v ∈ g.kids p s) :
    step g (.pop p s v) = step g (.discard p s v) := by
  have hne : ¬ ((g.kids p s).isEmpty = true) := by
    intro hh
    rw [List.isEmpty_iff] at hh
    rw [hh] at hv
    cases hv
  simp only [step, if_neg hne, if_pos hv]

theorem C16_clear_content (g g' : G) (p : Nat) (s : Slot) (order : List Nat) (h : ForestInv g)
    (hs : step g (.clear p s order) = .ok g') :
    g'.kids p s = [] ∧ (∀ q s', (q ≠ p ∨ s' ≠ s) → g'.kids q s' = g.kids q s') := by
  simp only [step] at hs
  split at hs
  · rename_i hsm
    obtain ⟨c1, c2⟩ := wr_foldE_discard_content (h.nodup p s) hs
    refine ⟨?_, c2⟩
    rw [List.eq_nil_iff_forall_not_mem]
    intro x hx
    have := (c1 x).1 hx
    exact this.2 ((sameMembers_mem hsm x).2 this.1)
  · cases hs

/-- `update` / `|=`: union; the arguments are moved, not duplicated -/
theorem C16_update_content (g g' : G) (p : Nat) (s : Slot) (vs : List Nat) (h : ForestInv g)
    (hop : OpOK g (.update p s vs)) (hs : step g (.update p s vs) = .ok g') :
    (∀ x, x ∈ g'.kids p s ↔ x ∈ g.kids p s ∨ x ∈ vs) ∧
    (∀ q s', (q ≠ p ∨ s' ≠ s) → ∀ x, x ∈ g'.kids q s' ↔ x ∈ g.kids q s' ∧ x ∉ vs) := by
  refine wr_moved_content (fun c => c ∈ vs) h (C04_step g g' _ h hop hs) (step_stable hs trivial).kind
    (fun c hc => (hop.2.2 c hc).slot) ?_
  intro c
  rw [update_par h hs]
  constructor
  · intro hc; rw [if_pos hc]
  · intro hc; rw [if_neg hc]

/-- `-=`: difference -/
theorem C16_isub_content (g g' : G) (p : Nat) (s : Slot) (vs : List Nat) (h : ForestInv g)
    (hs : step g (.isub p s vs) = .ok g') :
    (∀ x, x ∈ g'.kids p s ↔ x ∈ g.kids p s ∧ x ∉ vs) ∧
    (∀ q s', (q ≠ p ∨ s' ≠ s) → g'.kids q s' = g.kids q s') :=
  wr_foldE_discard_content (h.nodup p s) hs

/-- `&=`: intersection -/
theorem C16_iand_content (g g' : G) (p : Nat) (s : Slot) (vs order : List Nat) (h : ForestInv g)
    (hs : step g (.iand p s vs order) = .ok g') :
    (∀ x, x ∈ g'.kids p s ↔ x ∈ g.kids p s ∧ x ∈ vs) ∧
    (∀ q s', (q ≠ p ∨ s' ≠ s) → g'.kids q s' = g.kids q s') := by
  simp only [step] at hs
  split at hs
  · rename_i hsm
    obtain ⟨c1, c2⟩ := wr_foldE_discard_content (h.nodup p s) hs
    refine ⟨?_, c2⟩
    intro x
    rw [c1 x, sameMembers_mem hsm x, List.mem_filter]
    by_cases hx : x ∈ vs <;> simp [hx]
  · cases hs

/-- `^=`: symmetric difference (the argument is a set: no duplicates); the added elements are moved -/
theorem C16_ixor_content (g g' : G) (p : Nat) (s : Slot) (vs : List Nat) (h : ForestInv g)
    (hop : OpOK g (.ixor p s vs)) (hvs : vs.Nodup) (hs : step g (.ixor p s vs) = .ok g') :
    (∀ x, x ∈ g'.kids p s ↔ (x ∈ g.kids p s ∧ x ∉ vs) ∨ (x ∉ g.kids p s ∧ x ∈ vs)) ∧
    (∀ q s', (q ≠ p ∨ s' ≠ s) → ∀ x, x ∈ g'.kids q s' ↔ x ∈ g.kids q s' ∧ x ∉ vs) :=
  wr_ixor_content vs g g' h hvs hop.2.2 hs

/-- no operation ever duplicates an element (corollary of C04) -/
theorem C16_nodup (g g' : G) (op : Op) (h : ForestInv g) (hop : OpOK g op) (hs : step g op = .ok g')
    (p : Nat) (s : Slot) : (g'.kids p s).Nodup :=
  (C04_step g g' op h hop hs).nodup p s

/-! ### the module list: built-in list semantics on the content after removing `v` from its previous owner -/

theorem C16_insert_content (g g' : G) (i : Nat) (k : Int) (v : Nat) (h : ForestInv g)
    (hop : OpOK g (.insert i k v)) (hs : step g (.insert i k v) = .ok g') :
    g'.kids i .mods = pyInsert ((g.kids i .mods).erase v) k v ∧
    (∀ j, j ≠ i → g'.kids j .mods = (g.kids j .mods).erase v) ∧
    (∀ q s', s' ≠ .mods → g'.kids q s' = g.kids q s') := by
  have hk := wr_modInsert_kids (k := k) h hop.slot hs
  refine ⟨?_, ?_, ?_⟩
  · rw [hk i .mods, if_pos ⟨rfl, rfl⟩]
  · intro j hj
    rw [hk j .mods, if_neg (fun hh => hj hh.1)]
  · intro q s' hne
    rw [hk q s', if_neg (fun hh => hne hh.2), wr_erase_other_slot h hop.slot q hne]

theorem C16_append_content (g g' : G) (i v : Nat) (h : ForestInv g)
    (hop : OpOK g (.append i v)) (hs : step g (.append i v) = .ok g') :
    g'.kids i .mods = (g.kids i .mods).erase v ++ [v] ∧
    (∀ j, j ≠ i → g'.kids j .mods = (g.kids j .mods).erase v) ∧
    (∀ q s', s' ≠ .mods → g'.kids q s' = g.kids q s') := by
  have := C16_insert_content g g' i (g.kids i .mods).length v h hop hs
  rwa [pyInsert_ge _ _ _ List.erase_sublist.length_le] at this

/-- `extend(vs)` / `+=` with pairwise different arguments: the list is the old list without the
arguments, followed by the arguments in their order; every other list loses the arguments -/
theorem C16_extend_content (g g' : G) (i : Nat) (vs : List Nat) (h : ForestInv g)
    (hop : OpOK g (.extend i vs)) (hvs : vs.Nodup) (hs : step g (.extend i vs) = .ok g') :
    g'.kids i .mods = (g.kids i .mods).filter (fun x => !(x ∈ vs)) ++ vs ∧
    (∀ j, j ≠ i → g'.kids j .mods = (g.kids j .mods).filter (fun x => !(x ∈ vs))) ∧
    (∀ x, x ∈ g'.kids i .mods ↔ x ∈ g.kids i .mods ∨ x ∈ vs) := by
  have hk := wr_extend_content h hop.2.2 hs
  rw [reverse_eraseDups_of_nodup vs hvs] at hk
  exact hk

/-- `del self[k]`: the element at Python index `k` is removed and detached -/
theorem C16_delItem_content (g g' : G) (i : Nat) (k : Int) (hs : step g (.delItem i k) = .ok g') :
    ∃ idx old, pyIndex (g.kids i .mods).length k = some idx ∧ (g.kids i .mods)[idx]? = some old ∧
      g'.kids i .mods = (g.kids i .mods).eraseIdx idx ∧ g'.par old = none ∧
      (∀ c, c ≠ old → g'.par c = g.par c) ∧
      (∀ q s', (q ≠ i ∨ s' ≠ .mods) → g'.kids q s' = g.kids q s') :=
  wr_modDelItem_content hs

/-- `pop(k)` = `del self[k]` when the index is valid -/
theorem C16_listPop_content (g g' : G) (i : Nat) (k : Int) (hs : step g (.listPop i k) = .ok g') :
    ∃ idx old, pyIndex (g.kids i .mods).length k = some idx ∧ (g.kids i .mods)[idx]? = some old ∧
      g'.kids i .mods = (g.kids i .mods).eraseIdx idx ∧ g'.par old = none ∧
      (∀ c, c ≠ old → g'.par c = g.par c) ∧
      (∀ q s', (q ≠ i ∨ s' ≠ .mods) → g'.kids q s' = g.kids q s') := by
  simp only [step] at hs
  split at hs
  · cases hs
  · exact wr_modDelItem_content hs

/-- `IndexError` of `del self[k]`, `pop(k)`, `self[k] = v` -/
theorem C16_delItem_error (g : G) (i : Nat) (k : Int) (hk : pyIndex (g.kids i .mods).length k = none) :
    step g (.delItem i k) = .error .indexError := by
  show modDelItem g i k = _
  unfold modDelItem
  rw [hk]

theorem C16_listPop_error (g : G) (i : Nat) (k : Int) (hk : pyIndex (g.kids i .mods).length k = none) :
    step g (.listPop i k) = .error .indexError := by
  simp only [step]
  rw [hk]

theorem C16_setItem_error (g : G) (i : Nat) (k : Int) (v : Nat) (hk : pyIndex (g.kids i .mods).length k = none) :
    step g (.setItem i k v) = .error .indexError := by
  show modSetItem g i k v = _
  unfold modSetItem
  rw [hk]

/-- Python's index rule: `-len <= k < len`, negative indexes count from the end -/
theorem C16_pyIndex_spec (len : Nat) (k : Int) :
    pyIndex len k = if -(len : Int) ≤ k ∧ k < len then some (k % len).toNat else none :=
  wr_pyIndex_spec len k

theorem C16_pyIndex_empty (k : Int) : pyIndex 0 k = none := by
  rw [wr_pyIndex_spec, if_neg]
  intro hh; omega

theorem C16_pyIndex_lt (len : Nat) (k : Int) (idx : Nat) (hk : pyIndex len k = some idx) : idx < len :=
  pyIndex_lt hk

/-- `self[k] = v`: the element at Python index `k` is replaced by `v` (moved from its previous owner)
and the replaced element is detached -/
theorem C16_setItem_content (g g' : G) (i : Nat) (k : Int) (v : Nat) (h : ForestInv g)
    (hop : OpOK g (.setItem i k v)) (hs : step g (.setItem i k v) = .ok g') :
    ∃ idx old, pyIndex (g.kids i .mods).length k = some idx ∧ (g.kids i .mods)[idx]? = some old ∧
      g'.kids i .mods = (g.kids i .mods).set idx v ∧
      (∀ j, j ≠ i → g'.kids j .mods = (g.kids j .mods).erase v) ∧
      g'.par v = some i ∧ (old ≠ v → g'.par old = none) := by
  obtain ⟨idx, old, h1, h2, _, h4, h5, h6⟩ := wr_modSetItem_content h hop hs
  refine ⟨idx, old, h1, h2, h4, fun j hj => h5 j .mods (.inl hj), ?_, ?_⟩
  · rw [h6 v, if_pos rfl]
  · intro hne
    rw [h6 old, if_neg hne, if_pos rfl]

/-- `self[k] = v` is outside the model exactly in the pattern of the known finding K1: `v` is already
in this list at another position -/
theorem C16_setItem_outside_iff (g : G) (i : Nat) (k : Int) (v : Nat) :
    step g (.setItem i k v) = .error .outside ↔
      ∃ idx old, pyIndex (g.kids i .mods).length k = some idx ∧ (g.kids i .mods)[idx]? = some old ∧
        v ∈ g.kids i .mods ∧ v ≠ old := by
  constructor
  · intro hs
    rcases (ends_modSetItem g i k v).of_error hs with (h1 | h1) | h1 | h1
    · cases h1.1
    · exact h1.2
    · cases h1
    · cases h1.1
  · rintro ⟨idx, old, h1, h2, h3, h4⟩
    show modSetItem g i k v = _
    unfold modSetItem
    rw [h1]
    simp only
    rw [h2]
    simp only
    rw [if_pos ⟨h3, h4⟩]

/-- `remove(v)`: `ValueError` for an absent element -/
theorem C16_listRemove_error (g : G) (i v : Nat) (hv : v ∉ g.kids i .mods) :
    step g (.listRemove i v) = .error .valueError := by
  show modListRemove g i v = _
  unfold modListRemove
  rw [if_neg hv]

theorem C16_listRemove_content (g g' : G) (i v : Nat) (hs : step g (.listRemove i v) = .ok g') :
    g'.kids i .mods = (g.kids i .mods).erase v ∧ g'.par v = none ∧
    (∀ q s', (q ≠ i ∨ s' ≠ .mods) → g'.kids q s' = g.kids q s') := by
  have hk := wr_modListRemove_kids (g := g) (g' := g') (i := i) (v := v) hs
  refine ⟨?_, ?_, ?_⟩
  · rw [hk i .mods, if_pos ⟨rfl, rfl⟩]
  · rw [modListRemove_par hs, if_pos rfl]
  · intro q s' hne
    rw [hk q s', if_neg (not_and_of_not_or_not hne)]

theorem C16_reverse_content (g : G) (i : Nat) :
    step g (.reverse i) = .ok (modReverse g i) ∧
    (modReverse g i).kids i .mods = (g.kids i .mods).reverse ∧
    ∀ p s, (p ≠ i ∨ s ≠ .mods) → (modReverse g i).kids p s = g.kids p s := by
  refine ⟨rfl, ?_, ?_⟩
  · unfold modReverse
    rw [kidsSet_kids, if_pos ⟨rfl, rfl⟩]
  · intro p s hne
    unfold modReverse
    rw [kidsSet_kids, if_neg (not_and_of_not_or_not hne)]

theorem C16_listClear_content (g g' : G) (i : Nat) (hs : step g (.listClear i) = .ok g') :
    g'.kids i .mods = [] ∧ (∀ q s', (q ≠ i ∨ s' ≠ .mods) → g'.kids q s' = g.kids q s') :=
  (orKeyError_modClear (g.kids i .mods) g rfl).of_ok hs

/-- the exceptions an operation can raise: the built-in's `KeyError` / `ValueError` / `IndexError`,
"outside the model" (K1), "ill-formed test input" - never the `KeyError` of `del cache[uuid]` -/
theorem C16_error_kinds (g : G) (op : Op) (e : Exc) (h : ForestInv g) (hc : CacheInv g) (hd : Distinct g)
    (hop : OpOK g op) (hfine : DistinctFine g op) (he : step g op = .error e) :
    e = .keyError ∨ e = .valueError ∨ e = .indexError ∨ e = .outside ∨ e = .badOp := by
  cases e with
  | keyError => exact .inl rfl
  | valueError => exact .inr (.inl rfl)
  | indexError => exact .inr (.inr (.inl rfl))
  | outside => exact .inr (.inr (.inr (.inl rfl)))
  | badOp => exact .inr (.inr (.inr (.inr rfl)))
  | cacheKeyError => exact absurd he (C03_no_cache_keyerror_fine g op h hc hd hop hfine)

/-- the built-in's exceptions are decided by a guard on the content alone (so they are raised before
any mutation): `KeyError` of `remove`/`pop`, `ValueError` of the list's `remove`, `IndexError` of
`del self[k]` / `pop(k)` / `self[k] = v` -/
theorem C16_builtin_errors_pure (g : G) :
    (∀ p s v, step g (.remove p s v) = .error .keyError ↔ v ∉ g.kids p s) ∧
    (∀ p s v, step g (.pop p s v) = .error .keyError ↔ g.kids p s = []) ∧
    (∀ i v, step g (.listRemove i v) = .error .valueError ↔ v ∉ g.kids i .mods) ∧
    (∀ i k, step g (.delItem i k) = .error .indexError ↔ pyIndex (g.kids i .mods).length k = none) ∧
    (∀ i k, step g (.listPop i k) = .error .indexError ↔ pyIndex (g.kids i .mods).length k = none) ∧
    (∀ i k v, step g (.setItem i k v) = .error .indexError ↔ pyIndex (g.kids i .mods).length k = none) := by
  refine ⟨?_, ?_, ?_, ?_, ?_, ?_⟩
  · intro p s v
    refine ⟨?_, (C16_remove_error g p s v).1⟩
    intro hs hv
    rw [(C16_remove_error g p s v).2 hv] at hs
    cases setDiscard_err (g := g) (p := p) (s := s) (v := v) hs
  · intro p s v
    refine ⟨?_, C16_pop_empty g p s v⟩
    intro hs
    simp only [step] at hs
    split at hs
    · rename_i he; exact List.isEmpty_iff.1 he
    · split at hs
      · cases setDiscard_err hs
      · cases hs
  · intro i v
    refine ⟨?_, C16_listRemove_error g i v⟩
    intro hs
    rcases (ends_modListRemove g i v).of_error hs with h1 | h1
    · exact h1.2
    · cases h1
  · intro i k
    refine ⟨?_, C16_delItem_error g i k⟩
    intro hs
    rcases (ends_modDelItem g i k).of_error hs with h1 | h1
    · exact h1.2
    · cases h1
  · intro i k
    refine ⟨?_, C16_listPop_error g i k⟩
    intro hs
    simp only [step] at hs
    split at hs
    · assumption
    · rcases (ends_modDelItem g i k).of_error hs with h1 | h1
      · exact h1.2
      · cases h1
  · intro i k v
    refine ⟨?_, C16_setItem_error g i k v⟩
    intro hs
    rcases (ends_modSetItem g i k v).of_error hs with (h1 | h1) | h1 | h1
    · exact h1.2
    · cases h1.1
    · cases h1
    · cases h1.1

/-- every exception of a collection operation in a consistent forest is either the `KeyError` of
`del cache[uuid]` (excluded by C03) or exactly the built-in's exception on the same content
(`wr_builtinError`, the markers `outside`/`badOp` included); in particular `add`, `discard`, `update`,
`-=`, `^=`, `insert`, `append`, `extend`, `reverse`, `clear` of the list raise nothing else -/
theorem C16_error_exact (g : G) (op : Op) (e : Exc) (h : ForestInv g) (hop : OpOK g op)
    (he : step g op = .error e) : e = .cacheKeyError ∨ wr_builtinError g op e := by
  rcases op.plain_or with hk | ⟨u, rfl⟩ | ⟨k, u, kids, parent, rfl⟩ | ⟨u, nm, pl, parent, rfl⟩ | ⟨i, rfl⟩ |
    ⟨v, nm, rfl⟩ | ⟨v, pl, rfl⟩
  · exact (step_forest h hop hk).of_error he
  · exact .inr trivial
  · exact .inr trivial
  · exact .inr trivial
  · cases he
  · exact .inr trivial
  · exact .inr trivial

/-- where the built-in never raises, the wrapper never raises (under the hypothesis of C03: UUIDs
distinct per IR, also at the moments inside the loops `update`/`extend`/`^=`) -/
theorem C16_never_raises (g : G) (op : Op) (h : ForestInv g) (hc : CacheInv g) (hd : Distinct g)
    (hop : OpOK g op) (hfine : DistinctFine g op) (hnr : wr_neverRaises op = true) :
    ∃ g', step g op = .ok g' := by
  cases hs : step g op with
  | ok g' => exact ⟨g', rfl⟩
  | error e =>
    exfalso
    rcases C16_error_exact g op e h hop hs with h1 | h1
    · rw [h1] at hs
      exact C03_no_cache_keyerror_fine g op h hc hd hop hfine hs
    · cases op <;> first | exact h1 | cases hnr

end Gtirb.Forest
