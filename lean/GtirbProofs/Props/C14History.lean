import GtirbProofs.Props.C14
/-! C14 over whole histories: the one-step theorems of `C14.lean` lifted to arbitrary
sequences of `read` / `.data = v` / `.type_name = s` / `save` on one table. -/
namespace Gtirb.AuxTable
open Gtirb.Codec

inductive Act where
  | read
  | assignData (d : Data)
  | assignType (s : String)
  | save

/-- one action; a failing read / save leaves the table as `read` / `save` leave it -/
def act (lookup : Bytes → Option Nat) (nu : Nat → Bytes) (t : Table) : Act → Table
  | .read => match read lookup t with | .ok (t', _) => t' | .error _ => t
  | .assignData d => assignData t d
  | .assignType s => assignType t s
  | .save => (save lookup nu t).1

def runActs (lookup : Bytes → Option Nat) (nu : Nat → Bytes) (t : Table) (as : List Act) : Table :=
  as.foldl (act lookup nu) t

/-- the raw bytes, while present, are the loaded ones and the value has never been handed out
or replaced -/
def TableInv (name : String) (bs : Bytes) (t : Table) : Prop :=
  ∀ r tn, t.raw = some (r, tn) → r = bs ∧ tn = name ∧ t.data = none

theorem runActs_nil (lookup : Bytes → Option Nat) (nu : Nat → Bytes) (t : Table) :
    runActs lookup nu t [] = t := rfl

theorem runActs_cons (lookup : Bytes → Option Nat) (nu : Nat → Bytes) (t : Table) (a : Act)
    (as : List Act) : runActs lookup nu t (a :: as) = runActs lookup nu (act lookup nu t a) as := rfl

theorem runActs_append (lookup : Bytes → Option Nat) (nu : Nat → Bytes) (t : Table)
    (as bs : List Act) :
    runActs lookup nu t (as ++ bs) = runActs lookup nu (runActs lookup nu t as) bs := by
  simp [runActs, List.foldl_append]

theorem act_read_error {lookup : Bytes → Option Nat} {nu : Nat → Bytes} {t : Table} {e : Err}
    (h : read lookup t = .error e) : act lookup nu t .read = t := by
  simp only [act, h]

theorem act_read_cases (lookup : Bytes → Option Nat) (nu : Nat → Bytes) (t : Table) :
    act lookup nu t .read = t ∨
      ((act lookup nu t .read).raw = none ∧ (act lookup nu t .read).data.isSome) := by
  simp only [act]
  split
  · rename_i t' d h
    obtain ⟨h1, h2, _⟩ := C14_read_drops_raw lookup t t' d h
    exact .inr ⟨h1, Option.isSome_iff_exists.2 ⟨d, h2⟩⟩
  · exact .inl rfl

theorem act_save_cases (lookup : Bytes → Option Nat) (nu : Nat → Bytes) (t : Table) :
    act lookup nu t .save = t ∨
      ((act lookup nu t .save).raw = none ∧ (act lookup nu t .save).data.isSome) := by
  simp only [act]
  rcases C14_save_state lookup nu t with h | ⟨d, h⟩
  · exact .inl h
  · obtain ⟨h1, h2, _⟩ := C14_read_drops_raw lookup t _ d h
    exact .inr ⟨h1, Option.isSome_iff_exists.2 ⟨d, h2⟩⟩

/-- every action keeps raw bytes and data as they are (`assignType` touches neither), or drops
the raw bytes and leaves data behind -/
theorem act_cases (lookup : Bytes → Option Nat) (nu : Nat → Bytes) (t : Table) (a : Act) :
    ((act lookup nu t a).raw = t.raw ∧ (act lookup nu t a).data = t.data) ∨
      ((act lookup nu t a).raw = none ∧ (act lookup nu t a).data.isSome) := by
  have same : ∀ {t' : Table}, t' = t → t'.raw = t.raw ∧ t'.data = t.data := fun h => h ▸ ⟨rfl, rfl⟩
  cases a with
  | read => exact (act_read_cases lookup nu t).imp same id
  | assignData d => exact .inr ⟨rfl, rfl⟩
  | assignType s => exact .inl ⟨rfl, rfl⟩
  | save => exact (act_save_cases lookup nu t).imp same id

theorem TableInv_load (name : String) (bs : Bytes) : TableInv name bs (load name bs) := by
  intro r tn hr
  simp only [load, Option.some.injEq, Prod.mk.injEq] at hr
  exact ⟨hr.1.symm, hr.2.symm, rfl⟩

/-- over any history the raw bytes, while present, are the loaded ones under the loaded name,
and no value has been handed out or stored -/
theorem C14_history_inv (lookup : Bytes → Option Nat) (nu : Nat → Bytes) (name : String)
    (bs : Bytes) (as : List Act) : TableInv name bs (runActs lookup nu (load name bs) as) := by
  refine List.foldlRecOn (motive := TableInv name bs) as (act lookup nu) (TableInv_load name bs)
    fun t h a _ r tn hr => ?_
  rcases act_cases lookup nu t a with ⟨h1, h2⟩ | ⟨h1, _⟩
  · rw [h1] at hr
    rw [h2]
    exact h r tn hr
  · rw [h1] at hr
    cases hr

theorem C14_raw_monotone (lookup : Bytes → Option Nat) (nu : Nat → Bytes) (t : Table)
    (as : List Act) (h : t.raw = none) : (runActs lookup nu t as).raw = none := by
  refine List.foldlRecOn (motive := (·.raw = none)) as (act lookup nu) h fun t h a _ => ?_
  rcases act_cases lookup nu t a with ⟨h1, _⟩ | ⟨h1, _⟩
  · rw [h1, h]
  · exact h1

/-- the raw bytes of any prefix of a history that ends without them are irrelevant: they are
gone at every later point as well -/
theorem C14_raw_monotone_suffix (lookup : Bytes → Option Nat) (nu : Nat → Bytes) (t : Table)
    (as bs : List Act) (h : (runActs lookup nu t as).raw = none) :
    (runActs lookup nu t (as ++ bs)).raw = none := by
  rw [runActs_append]
  exact C14_raw_monotone lookup nu _ bs h

def touches : Act → Bool
  | .read => true
  | .assignData _ => true
  | _ => false

theorem runActs_untouched (lookup : Bytes → Option Nat) (nu : Nat → Bytes) (name : String)
    (bs : Bytes) (as : List Act) (hq : ∀ a ∈ as, touches a = false)
    (hn : ∀ a ∈ as, ∀ s, a = .assignType s → s = name) :
    runActs lookup nu (load name bs) as = load name bs := by
  refine List.foldlRecOn (motive := (· = load name bs)) as (act lookup nu) rfl fun t h a ha => ?_
  subst h
  cases a with
  | read => exact absurd (hq _ ha) (by simp [touches])
  | assignData d => exact absurd (hq _ ha) (by simp [touches])
  | assignType s =>
    rw [hn _ ha s rfl]
    rfl
  | save => simp [act, C14_untouched]

/-- clause 1 over histories: as long as no action read or replaced the value and every type
name assigned is the loaded one, `save` writes the loaded bytes under the loaded name, whatever
saves and same-name type assignments happened -/
theorem C14_untouched_history (lookup : Bytes → Option Nat) (nu : Nat → Bytes) (name : String)
    (bs : Bytes) (as : List Act) (hq : ∀ a ∈ as, touches a = false)
    (hn : ∀ a ∈ as, ∀ s, a = .assignType s → s = name) :
    (save lookup nu (runActs lookup nu (load name bs) as)).2 = .ok (name, bs) := by
  rw [runActs_untouched lookup nu name bs as hq hn, C14_untouched]

theorem history_raw (lookup : Bytes → Option Nat) (nu : Nat → Bytes) (name : String) (bs : Bytes)
    (as : List Act) (t : Table) (ht : t = runActs lookup nu (load name bs) as)
    (hraw : t.raw.isSome) : t.raw = some (bs, name) := by
  have hinv := C14_history_inv lookup nu name bs as
  rw [← ht] at hinv
  cases hr : t.raw with
  | none =>
    rw [hr] at hraw
    cases hraw
  | some p =>
    obtain ⟨rfl, rfl, _⟩ := hinv p.1 p.2 hr
    rfl

/-- a stronger form of clause 1 that looks at the state only: after ANY history (reads that
failed, type names that were changed and changed back, ...), if the raw bytes are still there
and the current type name is the loaded one, `save` writes the loaded bytes under the loaded
name and leaves the table as it is -/
theorem C14_untouched_state (lookup : Bytes → Option Nat) (nu : Nat → Bytes) (name : String)
    (bs : Bytes) (as : List Act) (t : Table) (ht : t = runActs lookup nu (load name bs) as)
    (hraw : t.raw.isSome) (hname : t.typeName = name) :
    save lookup nu t = (t, .ok (name, bs)) := by
  unfold save
  simp [history_raw lookup nu name bs as t ht hraw, hname]

/-- ... and when the current type name differs from the loaded one, `save` decodes the loaded
bytes under the LOADED name and encodes under the current one (the history form of `C14_retype`) -/
theorem C14_retyped_state (lookup : Bytes → Option Nat) (nu : Nat → Bytes) (name : String)
    (bs : Bytes) (as : List Act) (t : Table) (ht : t = runActs lookup nu (load name bs) as)
    (hraw : t.raw.isSome) (hname : t.typeName ≠ name) :
    (save lookup nu t).2 =
      (match decodeTop lookup name bs with
       | .ok d => (match encodeTop nu t.typeName d with
                   | .ok out => .ok (t.typeName, out)
                   | .error e => .error e)
       | .error e => .error e) := by
  unfold save
  simp only [history_raw lookup nu name bs as t ht hraw, if_neg hname, read]
  cases decodeTop lookup name bs with
  | error e => rfl
  | ok d =>
    simp only
    cases encodeTop nu t.typeName d <;> rfl

/-- clause 2 over histories: after any history, if the raw bytes are gone then `save` writes
exactly the encoding of the current data under the current name (or the corresponding error) -/
theorem C14_current_history (lookup : Bytes → Option Nat) (nu : Nat → Bytes) (name : String)
    (bs : Bytes) (as : List Act) (t : Table) (_ht : t = runActs lookup nu (load name bs) as)
    (hraw : t.raw = none) (d : Data) (hd : t.data = some d) :
    (save lookup nu t).2 =
      (match encodeTop nu t.typeName d with
       | .ok out => .ok (t.typeName, out)
       | .error e => .error e) := by
  rw [C14_current_full lookup nu t d hraw hd]
  cases encodeTop nu t.typeName d <;> rfl

/-- the `hd` hypothesis of `C14_current_history` is always met: in a history that starts with a
load, a table without raw bytes has data -/
theorem C14_history_has_data (lookup : Bytes → Option Nat) (nu : Nat → Bytes) (name : String)
    (bs : Bytes) (as : List Act) (hraw : (runActs lookup nu (load name bs) as).raw = none) :
    ∃ d, (runActs lookup nu (load name bs) as).data = some d := by
  refine Option.isSome_iff_exists.mp (List.foldlRecOn (motive := fun t => t.raw = none → t.data.isSome)
    as (act lookup nu) (fun h => by simp [load] at h) (fun t h a _ hr => ?_) hraw)
  rcases act_cases lookup nu t a with ⟨h1, h2⟩ | ⟨_, h2⟩
  · rw [h2]
    exact h (h1 ▸ hr)
  · exact h2

theorem C14_touched_drops (lookup : Bytes → Option Nat) (nu : Nat → Bytes) (t : Table) (d : Data) :
    (act lookup nu t (.assignData d)).raw = none := rfl

theorem C14_read_ok_drops (lookup : Bytes → Option Nat) (nu : Nat → Bytes) (t t' : Table)
    (d : Data) (h : read lookup t = .ok (t', d)) : (act lookup nu t .read).raw = none := by
  simp only [act, h]
  exact (C14_read_drops_raw lookup t t' d h).1

/-- a history containing an `assignData`, or a `read` that succeeded, ends without raw bytes -/
theorem C14_touched_history (lookup : Bytes → Option Nat) (nu : Nat → Bytes) (t : Table)
    (as bs : List Act) (a : Act)
    (ha : (∃ d, a = .assignData d) ∨
      (a = .read ∧ ∃ t' d, read lookup (runActs lookup nu t as) = .ok (t', d))) :
    (runActs lookup nu t (as ++ a :: bs)).raw = none := by
  rw [runActs_append, runActs_cons]
  apply C14_raw_monotone
  rcases ha with ⟨d, rfl⟩ | ⟨rfl, t', d, h⟩
  · exact C14_touched_drops lookup nu _ d
  · exact C14_read_ok_drops lookup nu _ t' d h

section Examples

/-- save, same-name retype, save, save: the loaded bytes, also under a malformed name -/
example : (save (fun _ => none) (fun _ => [])
    (runActs (fun _ => none) (fun _ => []) (load "mapping<<" [1, 2, 3])
      [.save, .assignType "mapping<<", .save, .save])).2 = .ok ("mapping<<", [1, 2, 3]) :=
  C14_untouched_history _ _ _ _ _ (by simp [touches]) (by simp)

/-- a failing read (malformed name) does not drop the bytes: the state form applies -/
example : save (fun _ => none) (fun _ => [])
    (runActs (fun _ => none) (fun _ => []) (load "mapping<<" [1, 2, 3]) [.read, .save]) =
    (runActs (fun _ => none) (fun _ => []) (load "mapping<<" [1, 2, 3]) [.read, .save],
      .ok ("mapping<<", [1, 2, 3])) := by
  have hp : TypeName.parseType "mapping<<".toList = none :=
    Option.isNone_iff_eq_none.1 (by decide +kernel)
  have hd : decodeTop (fun _ => none) "mapping<<" [1, 2, 3] = .error .typeName := by
    simp only [decodeTop, hp]
  have hr : runActs (fun _ => none) (fun _ => []) (load "mapping<<" [1, 2, 3]) [.read, .save] =
      load "mapping<<" [1, 2, 3] := by
    simp only [runActs, List.foldl_cons, List.foldl_nil, act_read_error (read_load_error hd)]
    simp only [act, C14_untouched]
  exact C14_untouched_state _ _ "mapping<<" [1, 2, 3] [.read, .save] _ rfl (by rw [hr]; rfl)
    (by rw [hr]; rfl)

/-- assign, retype, save: the raw bytes are gone and stay gone -/
example (v : Val) (s : String) (as : List Act) :
    (runActs (fun _ => none) (fun _ => []) (load "uint8_t" [7])
      ([.save] ++ .assignData (.val v) :: (.assignType s :: as))).raw = none :=
  C14_touched_history _ _ _ _ _ _ (.inl ⟨_, rfl⟩)

end Examples

end Gtirb.AuxTable
