import GtirbProofs.Props.C05
import GtirbProofs.Props.C06
/-! C05 / C06 / C12 at module and IR scope.

`Module.byte_blocks_on(addrs) = chain(s.byte_blocks_on(addrs) for s in self.sections)`
and `IR.… = chain(m.… for m in self.modules)`: a chain over the list of all
sections of the scope, every section lookup refreshing the lazy indexes it
visits. In the model: `chain (fun d s => secBlocksOn d s r) d sections`.

The generic part (`C05_chain_*`) is about any chain of lookups that keep `DInv`
and the structure (`strip`) and answer as a function of the structure; it speaks
of answers as sets, since the order inside a member's answer depends on the lazy
state. The scope theorems instantiate it with the four section lookups. -/
namespace Gtirb.Index

theorem C05_chain_inv (f : D → Nat → D × List Nat) (hf : ∀ d x, DInv d → DInv (f d x).1)
    (d : D) (xs : List Nat) (h : DInv d) : DInv (chain f d xs).1 :=
  chainP_inv (I := DInv) hf xs d h

theorem C05_chain_inv_strip (f : D → Nat → D × List Nat)
    (hf : ∀ d x, DInv d → DInv (f d x).1 ∧ strip (f d x).1 = strip d)
    (d : D) (xs : List Nat) (h : DInv d) :
    DInv (chain f d xs).1 ∧ strip (chain f d xs).1 = strip d :=
  chainP_keeps hf d xs h

theorem C05_chain_strip (f : D → Nat → D × List Nat)
    (hf : ∀ d x, DInv d → DInv (f d x).1 ∧ strip (f d x).1 = strip d)
    (d : D) (xs : List Nat) (h : DInv d) : strip (chain f d xs).1 = strip d :=
  (chainP_keeps hf d xs h).2

/-- the answer of a chain is the concatenation of the answers each member gives
on the ORIGINAL state (as sets): earlier lookups of the chain do not influence
later ones -/
theorem C05_chain_mem (f : D → Nat → D × List Nat)
    (hinv : ∀ d x, DInv d → DInv (f d x).1 ∧ strip (f d x).1 = strip d)
    (hans : ∀ d d' x, DInv d → DInv d' → strip d = strip d' → ∀ b, b ∈ (f d x).2 ↔ b ∈ (f d' x).2)
    (d : D) (xs : List Nat) (h : DInv d) (b : Nat) :
    b ∈ (chain f d xs).2 ↔ ∃ x ∈ xs, b ∈ (f d x).2 :=
  chainP_lookup_mem hinv hans d xs h b

theorem C05_chain_nodup (f : D → Nat → D × List Nat)
    (hinv : ∀ d x, DInv d → DInv (f d x).1 ∧ strip (f d x).1 = strip d)
    (hans : ∀ d d' x, DInv d → DInv d' → strip d = strip d' → ∀ b, b ∈ (f d x).2 ↔ b ∈ (f d' x).2)
    (hnd : ∀ d x, DInv d → (f d x).2.Nodup)
    (d : D) (xs : List Nat) (h : DInv d)
    (hdis : ∀ x y b, x ≠ y → b ∈ (f d x).2 → b ∉ (f d y).2) (hxs : xs.Nodup) :
    (chain f d xs).2.Nodup :=
  chainP_lookup_nodup hinv hans hnd d xs h hdis hxs

theorem C05_chain_append (f : D → Nat → D × List Nat) (d : D) (xs ys : List Nat) :
    chain f d (xs ++ ys) =
      ((chain f (chain f d xs).1 ys).1, (chain f d xs).2 ++ (chain f (chain f d xs).1 ys).2) :=
  chainP_append f d xs ys

/-- the nested chain of the code (`IR` chains over modules, each `Module` over
its sections) -/
def chainL (f : D → Nat → D × List Nat) (d : D) (xss : List (List Nat)) : D × List Nat :=
  xss.foldl (fun acc xs => let (d', r) := chain f acc.1 xs; (d', acc.2 ++ r)) (d, [])

/-- IR scope is a flat chain over all sections of all modules: the nested chain
equals (state and answer list) the chain over the flattened list -/
theorem C05_chain_flatten (f : D → Nat → D × List Nat) (d : D) (xss : List (List Nat)) :
    chainL f d xss = chain f d xss.flatten :=
  chainP_flatten f d xss

theorem secBlocksOn_keeps (r : Rng) (d : D) (s : Nat) (h : DInv d) :
    DInv (secBlocksOn d s r).1 ∧ strip (secBlocksOn d s r).1 = strip d := (secBlocksOn_spec h s r).1
theorem secBlocksAt_keeps (r : Rng) (d : D) (s : Nat) (h : DInv d) :
    DInv (secBlocksAt d s r).1 ∧ strip (secBlocksAt d s r).1 = strip d := (secBlocksAt_spec h s r).1
theorem secBisOn_keeps (r : Rng) (d : D) (s : Nat) (h : DInv d) :
    DInv (secBisOn d s r).1 ∧ strip (secBisOn d s r).1 = strip d := getSec_keeps h s
theorem secBisAt_keeps (r : Rng) (d : D) (s : Nat) (h : DInv d) :
    DInv (secBisAt d s r).1 ∧ strip (secBisAt d s r).1 = strip d := getSec_keeps h s

theorem secBlocksOn_congr (r : Rng) (d d' : D) (s : Nat) (h : DInv d) (h' : DInv d')
    (hs : strip d = strip d') (b : Nat) : b ∈ (secBlocksOn d s r).2 ↔ b ∈ (secBlocksOn d' s r).2 :=
  C12_answer_of_strip d d' (.sbon s r) h h' hs b
theorem secBlocksAt_congr (r : Rng) (d d' : D) (s : Nat) (h : DInv d) (h' : DInv d')
    (hs : strip d = strip d') (b : Nat) : b ∈ (secBlocksAt d s r).2 ↔ b ∈ (secBlocksAt d' s r).2 :=
  C12_answer_of_strip d d' (.sbat s r) h h' hs b
theorem secBisOn_congr (r : Rng) (d d' : D) (s : Nat) (h : DInv d) (h' : DInv d')
    (hs : strip d = strip d') (b : Nat) : b ∈ (secBisOn d s r).2 ↔ b ∈ (secBisOn d' s r).2 :=
  C12_answer_of_strip d d' (.sbison s r) h h' hs b
theorem secBisAt_congr (r : Rng) (d d' : D) (s : Nat) (h : DInv d) (h' : DInv d')
    (hs : strip d = strip d') (b : Nat) : b ∈ (secBisAt d s r).2 ↔ b ∈ (secBisAt d' s r).2 :=
  C12_answer_of_strip d d' (.sbisat s r) h h' hs b

theorem exists_mem_congr {ss : List Nat} {p q : Nat → Prop} (h : ∀ s ∈ ss, (p s ↔ q s)) :
    (∃ s ∈ ss, p s) ↔ ∃ s ∈ ss, q s :=
  exists_congr fun s => and_congr_right (h s)

theorem exists_mem_drop {ss : List Nat} {p q : Nat → Prop} (hp : ∀ s ∈ ss, p s) :
    (∃ s ∈ ss, p s ∧ q s) ↔ ∃ s ∈ ss, q s :=
  exists_mem_congr fun s hs => and_iff_right (hp s hs)

theorem bisOf_ids_disjoint {d : D} (h : DInv d) {p p' : BI → Bool} {s s' x : Nat} (hne : s ≠ s')
    (hx : x ∈ ((d.bisOf s).filter p).map (·.id)) : x ∉ ((d.bisOf s').filter p').map (·.id) := by
  intro hx'
  obtain ⟨y, hy, hid⟩ := List.mem_map.1 hx
  obtain ⟨y', hy', hid'⟩ := List.mem_map.1 hx'
  have hm := mem_bisOf.1 (List.mem_filter.1 hy).1
  have hm' := mem_bisOf.1 (List.mem_filter.1 hy').1
  cases List.inj_of_nodup_map h.bi_ids _ hm.1 _ hm'.1 (hid.trans hid'.symm)
  exact hne (Option.some.inj (hm.2.symm.trans hm'.2))

/-- two sections share no reported block: a block has one interval, an interval one section -/
theorem sections_disjoint {d : D} (h : DInv d) {g : Nat → List Nat}
    (hown : ∀ {x b}, b ∈ g x → ∃ blk ∈ d.blks, blk.bi = some x ∧ blk.id = b) {r : Rng} {s s' b : Nat}
    (hne : s ≠ s') (hb : ∃ x, x ∈ scanBisOn d s r ∧ b ∈ g x) (hb' : ∃ x, x ∈ scanBisOn d s' r ∧ b ∈ g x) :
    False := by
  obtain ⟨x, hx, hbx⟩ := hb
  obtain ⟨x', hx', hbx'⟩ := hb'
  cases owner_unique h (hown hbx) (hown hbx')
  exact bisOf_ids_disjoint h hne hx hx'

theorem scope_on_iff {d : D} {ss : List Nat} {r : Rng} (h : DInv d) {b : Nat} :
    b ∈ (chain (fun d s => secBlocksOn d s r) d ss).2 ↔ ∃ s ∈ ss, b ∈ (secBlocksOn d s r).2 :=
  C05_chain_mem _ (secBlocksOn_keeps r) (secBlocksOn_congr r) d ss h b

theorem scope_at_iff {d : D} {ss : List Nat} {r : Rng} (h : DInv d) {b : Nat} :
    b ∈ (chain (fun d s => secBlocksAt d s r) d ss).2 ↔ ∃ s ∈ ss, b ∈ (secBlocksAt d s r).2 :=
  C05_chain_mem _ (secBlocksAt_keeps r) (secBlocksAt_congr r) d ss h b

/-- without hypotheses on the section ids: an id that names no section
contributes nothing -/
theorem C05_scope_on_any (d : D) (ss : List Nat) (r : Rng) (h : DInv d) (b : Nat) :
    b ∈ (chain (fun d s => secBlocksOn d s r) d ss).2 ↔
      ∃ s ∈ ss, (d.sec? s).isSome ∧ ∃ x, x ∈ scanBisOn d s r ∧ b ∈ scanBlocksOn d x r := by
  rw [scope_on_iff h]
  simp only [C05_section_on_any d _ r h b]

theorem C05_scope_at_any (d : D) (ss : List Nat) (r : Rng) (h : DInv d) (b : Nat) :
    b ∈ (chain (fun d s => secBlocksAt d s r) d ss).2 ↔
      ∃ s ∈ ss, (d.sec? s).isSome ∧ ∃ x, x ∈ scanBisOn d s r ∧ b ∈ scanBlocksAt d x r := by
  rw [scope_at_iff h]
  simp only [C05_section_at_any d _ r h b]

/-- module / IR scope, exact characterisation: the union, over the sections of
the scope and their intervals that are 'on' the query, of the qualifying blocks
of that interval. `hss`: the scope lists existing sections (false of the model
otherwise, see the example at the end). -/
theorem C05_scope_on (d : D) (ss : List Nat) (r : Rng) (h : DInv d)
    (hss : ∀ s ∈ ss, (d.sec? s).isSome) (b : Nat) :
    b ∈ (chain (fun d s => secBlocksOn d s r) d ss).2 ↔
      ∃ s ∈ ss, ∃ x, x ∈ scanBisOn d s r ∧ b ∈ scanBlocksOn d x r := by
  rw [C05_scope_on_any d ss r h b, exists_mem_drop hss]

theorem C05_scope_at (d : D) (ss : List Nat) (r : Rng) (h : DInv d)
    (hss : ∀ s ∈ ss, (d.sec? s).isSome) (b : Nat) :
    b ∈ (chain (fun d s => secBlocksAt d s r) d ss).2 ↔
      ∃ s ∈ ss, ∃ x, x ∈ scanBisOn d s r ∧ b ∈ scanBlocksAt d x r := by
  rw [C05_scope_at_any d ss r h b, exists_mem_drop hss]

/-- each block once, when the sections of the scope are pairwise distinct (an
interval belongs to one section, a block to one interval) -/
theorem C05_scope_on_nodup (d : D) (ss : List Nat) (r : Rng) (h : DInv d) (hnd : ss.Nodup) :
    (chain (fun d s => secBlocksOn d s r) d ss).2.Nodup := by
  refine C05_chain_nodup _ (secBlocksOn_keeps r) (secBlocksOn_congr r)
    (fun d s hd => C05_section_on_nodup d s r hd) d ss h (fun s s' b hne hb hb' => ?_) hnd
  exact sections_disjoint h scanBlocksOn_owner hne ((C05_section_on_any d s r h b).1 hb).2
    ((C05_section_on_any d s' r h b).1 hb').2

theorem C05_scope_at_nodup (d : D) (ss : List Nat) (r : Rng) (h : DInv d) (hnd : ss.Nodup) :
    (chain (fun d s => secBlocksAt d s r) d ss).2.Nodup := by
  refine C05_chain_nodup _ (secBlocksAt_keeps r) (secBlocksAt_congr r)
    (fun d s hd => C05_section_at_nodup d s r hd) d ss h (fun s s' b hne hb hb' => ?_) hnd
  exact sections_disjoint h scanBlocksAt_owner hne ((C05_section_at_any d s r h b).1 hb).2
    ((C05_section_at_any d s' r h b).1 hb').2

theorem C06_scope_bis_on_any (d : D) (ss : List Nat) (r : Rng) (h : DInv d) (x : Nat) :
    x ∈ (chain (fun d s => secBisOn d s r) d ss).2 ↔
      ∃ s ∈ ss, (d.sec? s).isSome ∧ x ∈ scanBisOn d s r := by
  rw [C05_chain_mem _ (secBisOn_keeps r) (secBisOn_congr r) d ss h x]
  simp only [C06_bis_on_any d _ r h x]

theorem C06_scope_bis_at_any (d : D) (ss : List Nat) (r : Rng) (h : DInv d) (x : Nat) :
    x ∈ (chain (fun d s => secBisAt d s r) d ss).2 ↔
      ∃ s ∈ ss, (d.sec? s).isSome ∧ x ∈ scanBisAt d s r := by
  rw [C05_chain_mem _ (secBisAt_keeps r) (secBisAt_congr r) d ss h x]
  simp only [C06_bis_at_any d _ r h x]

theorem C06_scope_bis_on (d : D) (ss : List Nat) (r : Rng) (h : DInv d)
    (hss : ∀ s ∈ ss, (d.sec? s).isSome) (x : Nat) :
    x ∈ (chain (fun d s => secBisOn d s r) d ss).2 ↔ ∃ s ∈ ss, x ∈ scanBisOn d s r := by
  rw [C06_scope_bis_on_any d ss r h x, exists_mem_drop hss]

theorem C06_scope_bis_at (d : D) (ss : List Nat) (r : Rng) (h : DInv d)
    (hss : ∀ s ∈ ss, (d.sec? s).isSome) (x : Nat) :
    x ∈ (chain (fun d s => secBisAt d s r) d ss).2 ↔ ∃ s ∈ ss, x ∈ scanBisAt d s r := by
  rw [C06_scope_bis_at_any d ss r h x, exists_mem_drop hss]

/-- each interval once, when the sections of the scope are pairwise distinct -/
theorem C06_scope_bis_on_nodup (d : D) (ss : List Nat) (r : Rng) (h : DInv d) (hnd : ss.Nodup) :
    (chain (fun d s => secBisOn d s r) d ss).2.Nodup := by
  refine C05_chain_nodup (fun d s => secBisOn d s r) (secBisOn_keeps r)
    (secBisOn_congr r) (fun d s hd => nodup_secBisOn hd s r) d ss h ?_ hnd
  intro s s' x hne hx hx'
  exact bisOf_ids_disjoint h hne ((C06_bis_on_any d s r h x).1 hx).2 ((C06_bis_on_any d s' r h x).1 hx').2

theorem C06_scope_bis_at_nodup (d : D) (ss : List Nat) (r : Rng) (h : DInv d) (hnd : ss.Nodup) :
    (chain (fun d s => secBisAt d s r) d ss).2.Nodup := by
  refine C05_chain_nodup (fun d s => secBisAt d s r) (secBisAt_keeps r)
    (secBisAt_congr r) (fun d s hd => nodup_secBisAt hd s r) d ss h ?_ hnd
  intro s s' x hne hx hx'
  exact bisOf_ids_disjoint h hne ((C06_bis_at_any d s r h x).1 hx).2 ((C06_bis_at_any d s' r h x).1 hx').2

/-- upper side: everything reported is a qualifying block of an interval of an
(existing) section of the scope -/
theorem C05_scope_on_sound (d : D) (ss : List Nat) (r : Rng) (h : DInv d) (b : Nat)
    (hb : b ∈ (chain (fun d s => secBlocksOn d s r) d ss).2) :
    ∃ s ∈ ss, (d.sec? s).isSome ∧ ∃ y ∈ d.bisOf s, b ∈ scanBlocksOn d y.id r := by
  obtain ⟨s, hs, hb'⟩ := (scope_on_iff h).1 hb
  exact ⟨s, hs, ((C05_section_on_any d s r h b).1 hb').1, C05_section_on_sound d s r h b hb'⟩

theorem C05_scope_at_sound (d : D) (ss : List Nat) (r : Rng) (h : DInv d) (b : Nat)
    (hb : b ∈ (chain (fun d s => secBlocksAt d s r) d ss).2) :
    ∃ s ∈ ss, (d.sec? s).isSome ∧ ∃ y ∈ d.bisOf s, b ∈ scanBlocksAt d y.id r := by
  obtain ⟨s, hs, hb'⟩ := (scope_at_iff h).1 hb
  exact ⟨s, hs, ((C05_section_at_any d s r h b).1 hb').1, C05_section_at_sound d s r h b hb'⟩

/-- lower side: a qualifying block whose interval is itself 'on' the query is
reported, whatever else the scope contains -/
theorem C05_scope_on_complete (d : D) (ss : List Nat) (r : Rng) (h : DInv d) (s : Nat) (hs : s ∈ ss)
    (hsome : (d.sec? s).isSome) (x b : Nat) (hx : x ∈ scanBisOn d s r)
    (hb : b ∈ scanBlocksOn d x r) : b ∈ (chain (fun d s => secBlocksOn d s r) d ss).2 :=
  (C05_scope_on_any d ss r h b).2 ⟨s, hs, hsome, x, hx, hb⟩

theorem C05_scope_at_complete (d : D) (ss : List Nat) (r : Rng) (h : DInv d) (s : Nat) (hs : s ∈ ss)
    (hsome : (d.sec? s).isSome) (x b : Nat) (hx : x ∈ scanBisOn d s r)
    (hb : b ∈ scanBlocksAt d x r) : b ∈ (chain (fun d s => secBlocksAt d s r) d ss).2 :=
  (C05_scope_at_any d ss r h b).2 ⟨s, hs, hsome, x, hx, hb⟩

/-- a block within its interval's declared extent that is 'on' the query is
always reported at module / IR scope -/
theorem C05_scope_on_inside (d : D) (ss : List Nat) (r : Rng) (h : DInv d) (s : Nat) (hs : s ∈ ss)
    (hsome : (d.sec? s).isSome) (y : BI) (blk : Blk) (hy : y ∈ d.bisOf s)
    (hblk : blk ∈ d.blocksOf y.id) (hin : blk.offset + blk.size ≤ y.size)
    (hb : blk.id ∈ scanBlocksOn d y.id r) :
    blk.id ∈ (chain (fun d s => secBlocksOn d s r) d ss).2 :=
  (scope_on_iff h).2 ⟨s, hs, C05_section_on_inside d s r h hsome y blk hy hblk hin hb⟩

/-- any chain of structure-preserving lookups is unobservable by later queries -/
theorem C12_chain_lookup_unobservable (f : D → Nat → D × List Nat)
    (hf : ∀ d x, DInv d → DInv (f d x).1 ∧ strip (f d x).1 = strip d)
    (d : D) (xs : List Nat) (q : Query) (h : DInv d) :
    sameAnswer (runQuery (chain f d xs).1 q).2 (runQuery d q).2 :=
  C12_answer_of_strip _ _ q (C05_chain_inv_strip f hf d xs h).1 h (C05_chain_inv_strip f hf d xs h).2

theorem C12_scope_lookup_unobservable (d : D) (ss : List Nat) (r : Rng) (q : Query) (h : DInv d) :
    sameAnswer (runQuery (chain (fun d s => secBlocksOn d s r) d ss).1 q).2 (runQuery d q).2 :=
  C12_chain_lookup_unobservable _ (secBlocksOn_keeps r) d ss q h

theorem C12_scope_lookup_unobservable_at (d : D) (ss : List Nat) (r : Rng) (q : Query) (h : DInv d) :
    sameAnswer (runQuery (chain (fun d s => secBlocksAt d s r) d ss).1 q).2 (runQuery d q).2 :=
  C12_chain_lookup_unobservable _ (secBlocksAt_keeps r) d ss q h

theorem C12_scope_lookup_unobservable_bis_on (d : D) (ss : List Nat) (r : Rng) (q : Query) (h : DInv d) :
    sameAnswer (runQuery (chain (fun d s => secBisOn d s r) d ss).1 q).2 (runQuery d q).2 :=
  C12_chain_lookup_unobservable _ (secBisOn_keeps r) d ss q h

theorem C12_scope_lookup_unobservable_bis_at (d : D) (ss : List Nat) (r : Rng) (q : Query) (h : DInv d) :
    sameAnswer (runQuery (chain (fun d s => secBisAt d s r) d ss).1 q).2 (runQuery d q).2 :=
  C12_chain_lookup_unobservable _ (secBisAt_keeps r) d ss q h

/-- a scope lookup is also unobservable by a later scope lookup -/
theorem C12_scope_then_scope (d : D) (ss ss' : List Nat) (r r' : Rng) (h : DInv d) (b : Nat) :
    b ∈ (chain (fun d s => secBlocksOn d s r') (chain (fun d s => secBlocksOn d s r) d ss).1 ss').2 ↔
      b ∈ (chain (fun d s => secBlocksOn d s r') d ss').2 := by
  have hk := C05_chain_inv_strip (fun d s => secBlocksOn d s r) (secBlocksOn_keeps r) d ss h
  rw [C05_scope_on_any _ ss' r' hk.1 b, C05_scope_on_any d ss' r' h b]
  simp only [sec?_of_strip hk.2, scanBisOn_of_strip hk.2, scanBlocksOn_of_strip hk.2]

/-- blocks 1, 2 (overlapping) in interval 10 of section 20; block 3 and the
zero-sized block 4 in interval 11 of section 21; block 5 in the address-less
interval 12 of section 21 -/
def exS0 : D :=
  { blks := [⟨1, true, 0, 8, none⟩, ⟨2, false, 4, 8, none⟩, ⟨3, true, 0, 4, none⟩,
             ⟨4, true, 2, 0, none⟩, ⟨5, false, 0, 4, none⟩],
    bis := [{ id := 10, addr := some 100, size := 32, sec := none },
            { id := 11, addr := some 200, size := 16, sec := none },
            { id := 12, addr := none, size := 16, sec := none }],
    secs := [{ id := 20 }, { id := 21 }] }

def exSActs : List Act :=
  [.edit (.blkMove 1 (some 10) true), .edit (.blkMove 2 (some 10) true),
   .edit (.blkMove 3 (some 11) true), .edit (.blkMove 4 (some 11) true),
   .edit (.blkMove 5 (some 12) true),
   .edit (.biMove 10 (some 20) true), .edit (.biMove 11 (some 21) true),
   .edit (.biMove 12 (some 21) true),
   .look (.sbon 20 ⟨0, 1000, 1⟩), .edit (.blkSet 1 1 8), .edit (.biSet 11 (some 204) 16)]

def exS : D := exec exS0 exSActs

theorem exS0_inv : DInv exS0 :=
  dinv_of_unbuilt (by decide) (by decide) (by decide) (by decide) (by decide)

theorem exS_inv : DInv exS := C12_exec_inv exS0 exS0_inv exSActs

/-- `exS`, evaluated. Section 20 carries a built index with no pending event, section 21 none at
all with three pending events, interval 10 a built block index with two pending events. -/
theorem exS_val : exS =
    { blks := [⟨1, true, 1, 8, some 10⟩, ⟨2, false, 4, 8, some 10⟩, ⟨3, true, 0, 4, some 11⟩,
               ⟨4, true, 2, 0, some 11⟩, ⟨5, false, 0, 4, some 12⟩],
      bis := [{ id := 10, addr := some 100, size := 32, sec := some 20,
                lz := { tree := some [⟨0, 9, 1⟩, ⟨4, 13, 2⟩],
                        events := [(false, ⟨0, 9, 1⟩), (true, ⟨1, 10, 1⟩)] } },
              { id := 11, addr := some 204, size := 16, sec := some 21,
                lz := { events := [(true, ⟨0, 5, 3⟩), (true, ⟨2, 3, 4⟩)] } },
              { id := 12, addr := none, size := 16, sec := some 21,
                lz := { events := [(true, ⟨0, 5, 5⟩)] } }],
      secs := [{ id := 20, lz := { tree := some [⟨100, 133, 10⟩] } },
               { id := 21, lz := { events := [(true, ⟨200, 217, 11⟩),
                   (false, ⟨200, 217, 11⟩), (true, ⟨204, 221, 11⟩)] } }] } := rfl

/-- the three lazy states of `exS_val`, as the chains below meet (and refresh) them -/
example : (exS.sec? 20).map (fun s => (s.lz.tree.isSome, s.lz.events.length)) = some (true, 0) ∧
    (exS.sec? 21).map (fun s => (s.lz.tree.isSome, s.lz.events.length)) = some (false, 3) ∧
    (exS.bi? 10).map (fun x => (x.lz.tree.isSome, x.lz.events.length)) = some (true, 2) := by rw [exS_val]; decide

example : (chain (fun d s => secBlocksOn d s ⟨0, 1000, 1⟩) exS [20, 21]).2 = [1, 2, 3] ∧
    (chain (fun d s => secBlocksAt d s ⟨0, 1000, 1⟩) exS [20, 21]).2 = [1, 2, 3, 4] ∧
    (chain (fun d s => secBisOn d s ⟨0, 1000, 1⟩) exS [20, 21]).2 = [10, 11] ∧
    (chain (fun d s => secBisAt d s ⟨0, 1000, 1⟩) exS [20, 21]).2 = [10, 11] := by rw [exS_val]; decide

/-- only section 21 is hit -/
example : (chain (fun d s => secBlocksOn d s ⟨204, 206, 1⟩) exS [20, 21]).2 = [3] ∧
    (chain (fun d s => secBlocksAt d s ⟨204, 207, 2⟩) exS [20, 21]).2 = [3, 4] := by rw [exS_val]; decide

example (b : Nat) : b ∈ (chain (fun d s => secBlocksOn d s ⟨0, 1000, 1⟩) exS [20, 21]).2 ↔
    ∃ s ∈ [20, 21], ∃ x, x ∈ scanBisOn exS s ⟨0, 1000, 1⟩ ∧ b ∈ scanBlocksOn exS x ⟨0, 1000, 1⟩ :=
  C05_scope_on exS [20, 21] ⟨0, 1000, 1⟩ exS_inv (by rw [exS_val]; decide) b

example : (chain (fun d s => secBlocksOn d s ⟨0, 1000, 1⟩) exS [20, 21]).2.Nodup :=
  C05_scope_on_nodup exS [20, 21] ⟨0, 1000, 1⟩ exS_inv (by decide)

/-- `_nodup` needs pairwise distinct sections: a section listed twice is
reported twice -/
example : (chain (fun d s => secBlocksOn d s ⟨0, 1000, 1⟩) exS [20, 20]).2 = [1, 2, 1, 2] := by rw [exS_val]; decide

/-- `C05_scope_on` / `C06_scope_bis_on` need the listed sections to exist: after
moving interval 10 to the non-existing section 99 the chain over `[99]` answers
nothing, the scan finds the interval and its blocks -/
example : (chain (fun d s => secBlocksOn d s ⟨0, 1000, 1⟩) (biMove exS 10 (some 99) true) [99]).2 = [] ∧
    (chain (fun d s => secBisOn d s ⟨0, 1000, 1⟩) (biMove exS 10 (some 99) true) [99]).2 = [] ∧
    scanBisOn (biMove exS 10 (some 99) true) 99 ⟨0, 1000, 1⟩ = [10] ∧
    scanBlocksOn (biMove exS 10 (some 99) true) 10 ⟨0, 1000, 1⟩ = [1, 2] := by rw [exS_val]; decide

/-- the nested (IR over modules over sections) chain is the flat one -/
example : chainL (fun d s => secBlocksOn d s ⟨0, 1000, 1⟩) exS [[20], [21]] =
    chain (fun d s => secBlocksOn d s ⟨0, 1000, 1⟩) exS [20, 21] :=
  C05_chain_flatten (fun d s => secBlocksOn d s ⟨0, 1000, 1⟩) exS [[20], [21]]

/-- a scope lookup does not change what a later lookup answers -/
example : sameAnswer
    (runQuery (chain (fun d s => secBlocksOn d s ⟨0, 1000, 1⟩) exS [20, 21]).1 (.sbat 21 ⟨200, 210, 1⟩)).2
    (runQuery exS (.sbat 21 ⟨200, 210, 1⟩)).2 :=
  C12_scope_lookup_unobservable exS [20, 21] ⟨0, 1000, 1⟩ (.sbat 21 ⟨200, 210, 1⟩) exS_inv

end Gtirb.Index
