import GtirbModel.Skel
import GtirbProofs.Lemmas.LinkProofs
import GtirbProofs.Props.C17Loader
import GtirbProofs.Props.C04
/-! C01 (link): the two models of the protobuf reader agree on the messages the value-level
reader accepts.

* `Proto.fromMsg : MIR → Except Err IRV` (values; `GtirbModel/Proto.lean`)
* `Loader.load : G → SkIR → Except LErr (G × Nat)` (object graph; `GtirbModel/Loader.lean`), run on the
  skeleton `Loader.skelOf m` of the message (`GtirbModel/Skel.lean`).

(A) `C01_link_accepts`: whenever `fromMsg` accepts a message, the message has a skeleton and `load`
    accepts it (no `DeserializationError`, no exception out of the object graph).
(B) `C01_link_shape`: the graph `load` builds is the structure the message states, read back from the
    IR node through the owning collections - in message order at every level (`setAdd`, `blkUpdate`
    and `modAppend` append).

The definitions of the read-back (`readBlocks` … `readModule`, `skShape`) are in
`Lemmas/LinkProofs.lean`; they are restated below by `rfl`.

Finding (checked by evaluation below, `dupMsg`): `fromMsg` accepts a message in which a block carries
the UUID of its own interval (`Proto.decodeInterval` checks the interval's freshness before, and
registers it after, its blocks), so "accepted ⟹ node UUIDs pairwise distinct" does not hold as
such; `C01_link_nodup_partial` proves it under the side condition that excludes exactly this. (A) and
(B) hold regardless: `load` registers an interval after its blocks, too. -/
namespace Gtirb.Loader
open Gtirb.Forest
open Gtirb.Msg (MIR IRV fromMsg)

example (g : G) (x : Nat) : readBlocks g x = (g.kids x .blocks).map fun b => (g.uuid b, g.kind b == Kind.code) := rfl
example (g : G) (x : Nat) : readInterval g x = ⟨g.uuid x, readBlocks g x⟩ := rfl
example (g : G) (s : Nat) : readSection g s = ⟨g.uuid s, (g.kids s .bis).map (readInterval g)⟩ := rfl
example (g : G) (y : Nat) : readPayload g y =
    match g.payload y with | .none => .none | .int n => .int n | .block b => .ref (g.uuid b) := rfl
example (g : G) (y : Nat) : readSymbol g y = ⟨g.uuid y, g.name y, readPayload g y⟩ := rfl
example (g : G) (m : Nat) : readModule g m =
    (g.uuid m, (g.kids m .proxies).map g.uuid, (g.kids m .secs).map (readSection g),
     (g.kids m .syms).map (readSymbol g)) := rfl
example (m : SkModule) : skShape m = (m.uuid, m.proxies, m.sections, m.symbols) := rfl

/-- `uuid.UUID(bytes=b).int` is injective on byte strings of one length -/
theorem C01_link_natOfBytes_inj (a b : Bytes) (hl : a.length = b.length) (h : natOfBytes a = natOfBytes b) :
    a = b := natOfBytes_inj a b hl h

theorem C01_link_skeleton (m : MIR) (v : IRV) (h : fromMsg m = .ok v) : ∃ sk, skelOf m = some sk :=
  skelOf_exists h

theorem C01_link_accepts (m : MIR) (v : IRV) (h : fromMsg m = .ok v) :
    ∃ sk, skelOf m = some sk ∧ ∃ g ir, load {} sk = .ok (g, ir) := by
  obtain ⟨sk, hs⟩ := skelOf_exists h
  obtain ⟨g, hl, _⟩ := load_link h hs
  exact ⟨sk, hs, g, 0, hl⟩

/-- contrapositive of `C01_link_accepts` -/
theorem C01_link_rejects (m : MIR) (sk : SkIR) (e : LErr) (hs : skelOf m = some sk)
    (hl : load {} sk = .error e) : ∃ e', fromMsg m = .error e' := by
  cases hf : fromMsg m with
  | error e' => exact ⟨e', rfl⟩
  | ok v =>
    obtain ⟨g, hl', _⟩ := load_link hf hs
    rw [hl] at hl'
    cases hl'

theorem C01_link_shape (m : MIR) (v : IRV) (h : fromMsg m = .ok v) (sk : SkIR) (hs : skelOf m = some sk)
    (g : G) (ir : Nat) (hl : load {} sk = .ok (g, ir)) :
    g.uuid ir = sk.uuid ∧ (g.kids ir .mods).map (readModule g) = sk.modules.map skShape := by
  obtain ⟨g0, hl0, hu, hsh⟩ := load_link h hs
  rw [hl] at hl0
  cases hl0
  exact ⟨hu, hsh⟩

/-! ### node UUIDs

The skeleton of `dupMsg` below has `nodeUuids = [1, 2, 4, 9, 9, 7]`. A block carrying its interval's UUID is the
only duplicate the value-level reader lets through (cf. `Msg.fromMsg_nodup` for the same side condition on the
value). -/

/-- pairwise distinct node UUIDs unless a block carries its interval's UUID
(`SkIR.noSelf sk`: for every interval `x` of the skeleton, `x.uuid ∉ x.blocks.map (·.1)`) -/
theorem C01_link_nodup_partial (m : MIR) (v : IRV) (h : fromMsg m = .ok v) (sk : SkIR) (hs : skelOf m = some sk)
    (hside : sk.noSelf) : sk.nodeUuids.Nodup := (missIR_iff sk).1 ⟨missIR_of_fromMsg h hs, hside⟩

/-- hence (C17): under that side condition the nodes of the loaded graph have pairwise distinct UUIDs and
the UUID table of the new IR is exact -/
theorem C01_link_table_exact_partial (m : MIR) (v : IRV) (h : fromMsg m = .ok v) (sk : SkIR)
    (hs : skelOf m = some sk) (hside : sk.noSelf) (g : G) (ir : Nat) (hl : load {} sk = .ok (g, ir)) :
    (∀ a b, a < g.n → b < g.n → g.uuid a = g.uuid b → a = b) ∧
    ∀ u x, g.cache ir u = some x ↔ (x < g.n ∧ irOf g x = some ir ∧ g.uuid x = u) := by
  have hf : ForestInv ({} : G) := C04_init
  obtain ⟨h1, h2⟩ := C17_load_exact_nodup {} g sk ir hf hl (C01_link_nodup_partial m v h sk hs hside)
  exact ⟨fun a b ha hb hab => h1 a b (Nat.zero_le _) ha (Nat.zero_le _) hb hab, h2⟩

deriving instance DecidableEq for SkInterval
deriving instance DecidableEq for SkSection
deriving instance DecidableEq for SkPayload
deriving instance DecidableEq for SkSymbol
deriving instance DecidableEq for SkModule
deriving instance DecidableEq for SkIR

def lkU (k : UInt8) : Bytes := List.replicate 15 0 ++ [k]

/-- one module, a proxy, one section, one interval with a code and a data block, an `addrConst`
expression, two symbols (one with value 0, one referring to the code block), an entry point, one CFG edge -/
def exLinkMsg : MIR :=
  { uuid := lkU 1, version := Generated.protobufVersion, auxData := [],
    cfg := ⟨[], [⟨lkU 5, lkU 3, some ⟨false, true, 0⟩⟩]⟩,
    modules := [
      { uuid := lkU 2, binaryPath := "/bin/x", preferredAddr := 0, rebaseDelta := 0,
        fileFormat := 2, isa := 3, name := "m1", byteOrder := 2, entryPoint := lkU 5,
        proxies := [lkU 3], auxData := [],
        sections := [
          { uuid := lkU 4, name := ".text", sectionFlags := [1],
            byteIntervals := [
              { uuid := lkU 9, hasAddress := true, address := 4096, size := 8, contents := [1, 2, 3, 4],
                blocks := [⟨0, some (.code ⟨lkU 5, 4, 0⟩)⟩, ⟨4, some (.data ⟨lkU 7, 4⟩)⟩],
                symbolicExpressions := [(0, ⟨some (.addrConst (-8) (lkU 11)), [1]⟩)] }] }],
        symbols := [⟨lkU 10, some (.value 0), "zero", false⟩,
                    ⟨lkU 11, some (.referentUuid (lkU 5)), "main", false⟩] }] }

def linkOK (m : MIR) : Bool :=
  match skelOf m with
  | some sk =>
    match load {} sk with
    | .ok (g, ir) => decide (g.uuid ir = sk.uuid ∧ (g.kids ir .mods).map (readModule g) = sk.modules.map skShape)
    | .error _ => false
  | none => false

theorem exLinkMsg_accepted : (fromMsg exLinkMsg).toOption.isSome = true := by decide

theorem skelOf_exLinkMsg : skelOf exLinkMsg = some
    { uuid := 1,
      modules := [{ uuid := 2, proxies := [3],
                    sections := [⟨4, [⟨9, [(5, true), (7, false)]⟩]⟩],
                    symbols := [⟨10, 0, .int 0⟩, ⟨11, 1, .ref 5⟩],
                    entry := some 5, exprSyms := [11] }],
      edges := [(5, 3)] } := by decide

example : skelOf exLinkMsg = some
    { uuid := 1,
      modules := [{ uuid := 2, proxies := [3],
                    sections := [⟨4, [⟨9, [(5, true), (7, false)]⟩]⟩],
                    symbols := [⟨10, 0, .int 0⟩, ⟨11, 1, .ref 5⟩],
                    entry := some 5, exprSyms := [11] }],
      edges := [(5, 3)] } := skelOf_exLinkMsg

example : linkOK exLinkMsg = true := by
  simp only [linkOK, skelOf_exLinkMsg]
  decide

/-- non-vacuity: the theorems apply to `exLinkMsg` -/
example : ∃ v sk g ir, fromMsg exLinkMsg = .ok v ∧ skelOf exLinkMsg = some sk ∧ load {} sk = .ok (g, ir) ∧
    g.uuid ir = sk.uuid ∧ (g.kids ir .mods).map (readModule g) = sk.modules.map skShape ∧
    sk.nodeUuids.Nodup := by
  cases hf : fromMsg exLinkMsg with
  | error e => have := exLinkMsg_accepted; rw [hf] at this; cases this
  | ok v =>
    obtain ⟨sk, hs, g, ir, hl⟩ := C01_link_accepts _ v hf
    obtain ⟨h1, h2⟩ := C01_link_shape _ v hf sk hs g ir hl
    refine ⟨v, sk, g, ir, rfl, hs, hl, h1, h2, C01_link_nodup_partial _ v hf sk hs ?_⟩
    rw [skelOf_exLinkMsg] at hs
    cases hs
    intro md hmd s hs' x hx
    simp only [List.mem_cons, List.not_mem_nil, or_false] at hmd
    subst hmd
    simp only [List.mem_cons, List.not_mem_nil, or_false] at hs'
    subst hs'
    simp only [List.mem_cons, List.not_mem_nil, or_false] at hx
    subst hx
    unfold SkInterval.noSelf
    decide

/-- the counterexample to unconditional distinctness: the first block of the interval carries the
interval's UUID -/
def dupMsg : MIR :=
  { uuid := lkU 1, version := Generated.protobufVersion, auxData := [], cfg := ⟨[], []⟩,
    modules := [
      { uuid := lkU 2, binaryPath := "", preferredAddr := 0, rebaseDelta := 0,
        fileFormat := 0, isa := 0, name := "m", byteOrder := 0, entryPoint := [],
        proxies := [], auxData := [],
        sections := [
          { uuid := lkU 4, name := "s", sectionFlags := [],
            byteIntervals := [
              { uuid := lkU 9, hasAddress := false, address := 0, size := 4, contents := [],
                symbolicExpressions := [],
                blocks := [⟨0, some (.code ⟨lkU 9, 1, 0⟩)⟩, ⟨1, some (.data ⟨lkU 7, 1⟩)⟩] }] }],
        symbols := [] }] }

/-- `fromMsg` accepts `dupMsg`, its skeleton's node UUIDs are not pairwise distinct, and the two models
still agree on it -/
theorem C01_link_nodup_counterexample :
    (fromMsg dupMsg).toOption.isSome = true ∧
    (skelOf dupMsg).map (fun sk => (sk.nodeUuids, decide sk.nodeUuids.Nodup)) = some ([1, 2, 4, 9, 9, 7], false) ∧
    linkOK dupMsg = true := by decide

end Gtirb.Loader
