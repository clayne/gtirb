import GtirbModel.LoaderRefs
import GtirbProofs.Lemmas.LoaderRefsProofs
import GtirbProofs.Props.C03Load
/-! Property C09 at the level of the staged decoder: "symbol referents, module entry points, CFG edge
endpoints and the symbols of symbolic expressions are the very objects reachable through the containment
tree".

`Loader.load` checks entry points, expression symbols and edge ends and drops them; `LoaderRefs.loadR` does
the same steps and keeps the node each reference resolved to (in the table as filled so far).

1. `C09_loadR_load`: `loadR` projects onto `load`, so every theorem about `load` transfers.
2. What the recorded nodes are: `C09_loadR_sound` (any message), `C09_loadR_identity` (pairwise distinct node
   UUIDs).
3. `C09_load_referent_identity`: the same for symbol referents, which `load` itself stores (`G.payload`).
4. The error class of a reference fault: `C09_fault_entry`, `C09_fault_exprSym`, `C09_fault_referent`,
   `C09_fault_edge_iff`; resolution steps never raise anything but `.deser` (`resolve_error`). -/
namespace Gtirb.Loader
open Gtirb.Forest

inductive Forall2 {α β : Type} (R : α → β → Prop) : List α → List β → Prop
  | nil : Forall2 R [] []
  | cons {a : α} {b : β} {as : List α} {bs : List β} : R a b → Forall2 R as bs → Forall2 R (a :: as) (b :: bs)

theorem Forall2.imp {α β : Type} {R R' : α → β → Prop} {as : List α} {bs : List β} (h : Forall2 R as bs)
    (hi : ∀ a b, R a b → R' a b) : Forall2 R' as bs := by
  induction h with
  | nil => exact .nil
  | cons h _ ih => exact .cons (hi _ _ h) ih

theorem Forall2.append {α β : Type} {R : α → β → Prop} {as as' : List α} {bs bs' : List β}
    (h : Forall2 R as bs) (h' : Forall2 R as' bs') : Forall2 R (as ++ as') (bs ++ bs') := by
  induction h with
  | nil => exact h'
  | cons h _ ih => exact .cons h ih

theorem Forall2.length_eq {α β : Type} {R : α → β → Prop} {as : List α} {bs : List β} (h : Forall2 R as bs) :
    as.length = bs.length := by
  induction h with
  | nil => rfl
  | cons _ _ ih => simp [ih]

theorem Forall2.mem_right {α β : Type} {R : α → β → Prop} {as : List α} {bs : List β} (h : Forall2 R as bs) :
    ∀ b, b ∈ bs → ∃ a, a ∈ as ∧ R a b := by
  induction h with
  | nil => intro b hb; cases hb
  | cons h _ ih =>
    intro b hb
    rcases List.mem_cons.1 hb with rfl | hb
    · exact ⟨_, List.mem_cons_self, h⟩
    · obtain ⟨a, ha, hr⟩ := ih b hb
      exact ⟨a, List.mem_cons_of_mem _ ha, hr⟩

theorem Forall2.map_right {α β γ : Type} {R : α → β → Prop} {R' : α → γ → Prop} {f : β → γ} {as : List α}
    {bs : List β} (h : Forall2 R as bs) (hf : ∀ a b, R a b → R' a (f b)) : Forall2 R' as (bs.map f) := by
  induction h with
  | nil => exact .nil
  | cons h _ ih => exact .cons (hf _ _ h) ih

theorem Forall2.map_left {α β γ : Type} {R : α → β → Prop} {R' : γ → β → Prop} {f : α → γ} {as : List α}
    {bs : List β} (h : Forall2 R as bs) (hf : ∀ a b, R a b → R' (f a) b) : Forall2 R' (as.map f) bs := by
  induction h with
  | nil => exact .nil
  | cons h _ ih => exact .cons (hf _ _ h) ih

theorem Forall2.of_forall {α β : Type} {R : α → β → Prop} (f : α → β) : ∀ {as : List α}, (∀ a, a ∈ as → R a (f a)) →
    Forall2 R as (as.map f)
  | [], _ => .nil
  | a :: _, h => .cons (h a List.mem_cons_self) (Forall2.of_forall f fun b hb => h b (List.mem_cons_of_mem _ hb))

theorem resolve_error {g : G} {ir : Nat} {ok : Kind → Bool} {u : Nat} {e : LErr} (h : resolve g ir ok u = .error e) :
    e = .deser := by
  rw [resolve_eq] at h
  rcases refKind_cases g ir ok u with ⟨h1, _⟩ | ⟨h1, _⟩
  · rw [h1] at h; cases h
  · rw [h1] at h; cases h; rfl

theorem decodeModuleR_proj (g : G) (ir : Nat) (m : SkModule) :
    (decodeModuleR g ir m).map (fun r => (r.1, r.2.1)) = decodeModule g ir m := by
  unfold decodeModuleR decodeModule
  simp only [resolve_eq, resolveAll_eq]
  cases fromProto g ir .module m.uuid with
  | error e => rfl
  | ok r =>
    obtain ⟨g1, v, fresh⟩ := r
    cases fresh
    · rfl
    · simp only [Bool.not_true, Bool.false_eq_true, if_false]
      cases decodeAttach decodeProxy ir v .proxies (cacheSet g1 ir m.uuid v) m.proxies with
      | error e => rfl
      | ok g4 =>
        simp only []
        cases decodeAttach decodeSection ir v .secs g4 m.sections with
        | error e => rfl
        | ok g6 =>
          simp only []
          -- whatever the entry point recorded, the rest agrees
          have rest : ∀ es : List (Nat × Nat),
              (match decodeAttach decodeSymbol ir v .syms g6 m.symbols with
                | .error e => (.error e : Except LErr (G × Nat × Refs))
                | .ok g8 =>
                  match (checkAll g8 ir (fun k => k == Kind.symbol) m.exprSyms).map
                      fun _ => m.exprSyms.map (answer g8 ir) with
                  | .error e => .error e
                  | .ok ns => .ok (g8, v, { entries := es, exprSyms := ns.map (fun n => (v, n)) })).map
                (fun r : G × Nat × Refs => (r.1, r.2.1)) =
              (match decodeAttach decodeSymbol ir v .syms g6 m.symbols with
                | .error e => (.error e : Except LErr (G × Nat))
                | .ok g8 =>
                  match checkAll g8 ir (fun k => k == Kind.symbol) m.exprSyms with
                  | .error e => .error e
                  | .ok _ => .ok (g8, v)) := by
            intro es
            cases decodeAttach decodeSymbol ir v .syms g6 m.symbols with
            | error e => rfl
            | ok g8 =>
              simp only []
              cases checkAll g8 ir (fun k => k == Kind.symbol) m.exprSyms <;> rfl
          cases m.entry with
          | none => exact rest []
          | some u =>
            simp only []
            cases refKind g6 ir (fun k => k == Kind.code) u with
            | error e => rfl
            | ok _ => exact rest _

theorem decodeModulesR_proj (ir : Nat) : ∀ (ms : List SkModule) (g : G),
    (decodeModulesR ir g ms).map (fun r => r.1) = decodeModules ir g ms
  | [], _ => rfl
  | m :: ms, g => by
    simp only [decodeModulesR, decodeModules]
    rw [← decodeModuleR_proj g ir m]
    cases decodeModuleR g ir m with
    | error e => rfl
    | ok r =>
      obtain ⟨g1, v, r1⟩ := r
      simp only [Except.map]
      cases liftE (modAppend g1 ir v) with
      | error e => rfl
      | ok g2 =>
        simp only []
        rw [← decodeModulesR_proj ir ms g2]
        cases decodeModulesR ir g2 ms with
        | error e => rfl
        | ok r2 => rfl

/-- **(1)** `loadR` performs the steps of `load`: forgetting the records gives `load` (same state, same IR, same
error) -/
theorem C09_loadR_load (g : G) (m : SkIR) : (loadR g m).map (fun r => (r.1, r.2.1)) = load g m := by
  unfold loadR load
  simp only []
  rw [← decodeModulesR_proj g.n m.modules (mkIR g m.uuid)]
  cases decodeModulesR g.n (mkIR g m.uuid) m.modules with
  | error e => rfl
  | ok r =>
    obtain ⟨g2, r⟩ := r
    simp only [Except.map, resolveEdges_eq]
    cases checkAll g2 g.n (fun k => k == Kind.code || k == Kind.proxy) (m.edges.flatMap fun e => [e.1, e.2]) <;> rfl

theorem loadR_ok_load {g g' : G} {m : SkIR} {ir : Nat} {r : Refs} (h : loadR g m = .ok (g', ir, r)) :
    load g m = .ok (g', ir) := by
  rw [← C09_loadR_load, h]; rfl

theorem load_ok_loadR {g g' : G} {m : SkIR} {ir : Nat} (h : load g m = .ok (g', ir)) :
    ∃ r, loadR g m = .ok (g', ir, r) := by
  have := C09_loadR_load g m
  rw [h] at this
  cases hr : loadR g m with
  | error e => rw [hr] at this; cases this
  | ok x =>
    obtain ⟨g1, i1, r⟩ := x
    rw [hr] at this
    injection this with this
    injection this with h1 h2
    subst h1; subst h2
    exact ⟨r, rfl⟩

def entryOf (md : SkModule) : Option (Nat × Nat) := md.entry.map fun u => (md.uuid, u)

def exprsOf (md : SkModule) : List (Nat × Nat) := md.exprSyms.map fun u => (md.uuid, u)

theorem decodeModuleR_hit {g : G} {ir v : Nat} {m : SkModule} (hc : g.cache ir m.uuid = some v)
    (hk : g.kind v = .module) : decodeModuleR g ir m = .ok (g, v, {}) := by
  unfold decodeModuleR fromProto
  simp only [hc, hk, if_true]
  rfl

theorem decodeModuleR_of {g g4 g6 g8 : G} {ir : Nat} {m : SkModule} (hc : g.cache ir m.uuid = none)
    (hr : ModRun g ir m g4 g6 g8) (hent : ∀ u, m.entry = some u → refKind g6 ir (fun k => k == Kind.code) u = .ok ())
    (hchk : checkAll g8 ir (fun k => k == Kind.symbol) m.exprSyms = .ok ()) :
    decodeModuleR g ir m = .ok (g8, g.n, ⟨m.entry.toList.map fun u => (g.n, answer g6 ir u),
      (m.exprSyms.map (answer g8 ir)).map fun n => (g.n, n), []⟩) := by
  have hs : (alloc g Kind.module m.uuid).2 = g.n := rfl
  unfold decodeModuleR fromProto
  rw [hc]
  simp only [hs, Bool.not_true, Bool.false_eq_true, if_false, hr.proxies, hr.sections, hr.symbols, resolve_eq,
    resolveAll_eq, hchk]
  cases he : m.entry with
  | none => rfl
  | some u =>
    simp only [hent u he]
    rfl

theorem decodeModuleR_spec {g0 : G} (R : Nat → Prop) (g : G) (m : SkModule) (g' : G) (v : Nat) (r : Refs)
    (hm : Mid g0 g) (hc : AllCov g0.n g R) (h : decodeModuleR g g0.n m = .ok (g', v, r)) :
    decodeModule g g0.n m = .ok (g', v) ∧ r.edges = [] ∧
    ((r.entries = [] ∧ r.exprSyms = [] ∧ ∃ n, g.cache g0.n m.uuid = some n) ∨
     (g.cache g0.n m.uuid = none ∧ New g0 g' (· = .module) m.uuid v ∧
      Forall2 (fun u p => p.1 = v ∧ New g0 g' (· = .code) u p.2) m.entry.toList r.entries ∧
      Forall2 (fun u p => p.1 = v ∧ New g0 g' (· = .symbol) u p.2) m.exprSyms r.exprSyms)) := by
  have hproj : decodeModule g g0.n m = .ok (g', v) := by
    rw [← decodeModuleR_proj, h]; rfl
  refine ⟨hproj, ?_⟩
  rcases decodeModule_cases hproj with ⟨rfl, hcv, hkv⟩ | ⟨hno, rfl, g4, g6, hr, hent, hchk⟩
  · rw [decodeModuleR_hit hcv hkv] at h
    cases h
    exact ⟨rfl, .inl ⟨rfl, rfl, _, hcv⟩⟩
  · have st := modStages (S := fun _ => True) hm hc (fun _ _ => trivial) hr
    rw [decodeModuleR_of hno hr hent hchk] at h
    cases h
    refine ⟨rfl, .inr ⟨hno, ⟨Nat.le_of_lt hm.lt, st.at8.lt, st.at8.kind, hr.uuid⟩, ?_, ?_⟩⟩
    · refine .of_forall _ fun u hu => ⟨rfl, ?_⟩
      obtain ⟨_, hr6⟩ := refKind_cases g6 g0.n (fun k => k == Kind.code) u |>.resolve_right
        (fun hbad => by rw [hent u (Option.mem_toList.1 hu)] at hbad; cases hbad.1)
      exact ((New.of_entry (ok := fun k => k == Kind.code) st.at6.mid hr6.answer.1 hr6.answer.2).of_grows
        st.step68.grows).imp
        (fun k hk => by simpa using hk)
    · refine (Forall2.of_forall _ fun u hu => ?_).map_right fun u n hn => ⟨rfl, hn⟩
      obtain ⟨_, hall⟩ := (checkAll_cases g' g0.n (fun k => k == Kind.symbol) m.exprSyms).resolve_right
        (fun hbad => by rw [hchk] at hbad; cases hbad.1)
      exact (New.of_entry (ok := fun k => k == Kind.symbol) st.at8.mid (hall u hu).answer.1 (hall u hu).answer.2).imp
        (fun k hk => by simpa using hk)

theorem decodeModulesR_cons {g0 : G} {m : SkModule} {ms : List SkModule} {g g' : G} {r : Refs} (hm : Mid g0 g)
    (ha : AllAtt g0 g) (h : decodeModulesR g0.n g (m :: ms) = .ok (g', r)) :
    ∃ g1 v r1 g2 r2, decodeModuleR g g0.n m = .ok (g1, v, r1) ∧ modAppend g1 g0.n v = .ok g2 ∧
      decodeModulesR g0.n g2 ms = .ok (g', r2) ∧ r = r1.append r2 ∧ Mid g0 g2 ∧ AllAtt g0 g2 ∧ Grows g1 g' ∧
      Stable g1 g2 := by
  simp only [decodeModulesR] at h
  split at h
  · cases h
  · rename_i g1 v r1 hdm
    split at h
    · cases h
    · rename_i g2 happ
      split at h
      · cases h
      · rename_i g3 r2 hrest
        cases h
        have hdm' : decodeModule g g0.n m = .ok (g1, v) := by rw [← decodeModuleR_proj, hdm]; rfl
        have d := decodeModule_ok _ g m g1 v hm (ha.cov hm) hdm'
        obtain ⟨m2, a2⟩ := modAppend_outer d.mid d.new d.lt d.kind d.cov (liftE_ok happ)
        have hst := modAppend_stable (liftE_ok happ)
        exact ⟨g1, v, r1, g2, r2, hdm, liftE_ok happ, hrest, rfl, m2, a2,
          hst.grows.trans (decodeModules_grows g0.n ms g2 g' (by rw [← decodeModulesR_proj, hrest]; rfl)), hst⟩

theorem filterMap_entryOf_cons (md : SkModule) (ms : List SkModule) :
    (md :: ms).filterMap entryOf = md.entry.toList.map (fun u => (md.uuid, u)) ++ ms.filterMap entryOf := by
  rw [List.filterMap_cons]
  unfold entryOf
  cases md.entry <;> rfl

/-- the records of the modules, for any message: they are, in message order, the references of the module messages
`ds` that were really decoded (the others found their UUID in the table), resolved to new nodes of the right kinds
and UUIDs; with pairwise distinct module UUIDs every module message is decoded -/
theorem decodeModulesR_records {g0 : G} : ∀ (ms : List SkModule) (g g' : G) (r : Refs), Mid g0 g → AllAtt g0 g →
    decodeModulesR g0.n g ms = .ok (g', r) →
    r.edges = [] ∧ ∃ ds, ds.Sublist ms ∧
      Forall2 (fun (q p : Nat × Nat) => New g0 g' (· = .module) q.1 p.1 ∧ New g0 g' (· = .code) q.2 p.2)
        (ds.filterMap entryOf) r.entries ∧
      Forall2 (fun (q p : Nat × Nat) => New g0 g' (· = .module) q.1 p.1 ∧ New g0 g' (· = .symbol) q.2 p.2)
        (ds.flatMap exprsOf) r.exprSyms ∧
      ∀ done : List Nat, (∀ x, g0.n ≤ x → x < g.n → g.kind x = .module → g.uuid x ∈ done) →
        (∀ m, m ∈ ms → m.uuid ∉ done) → (ms.map (·.uuid)).Nodup → ds = ms := by
  intro ms
  induction ms with
  | nil =>
    intro g g' r _ _ h
    cases h
    exact ⟨rfl, [], .slnil, .nil, .nil, fun _ _ _ _ => rfl⟩
  | cons m ms ih =>
    intro g g' r hm ha h
    obtain ⟨g1, v, r1, g2, r2, hdm, _, hrest, rfl, m2, a2, hg, hst⟩ := decodeModulesR_cons hm ha h
    obtain ⟨hdm', he1, hspec⟩ := decodeModuleR_spec _ g m g1 v r1 hm (ha.cov hm) hdm
    obtain ⟨he2, ds, hsub, i1, i2, hall⟩ := ih g2 g' r2 m2 a2 hrest
    refine ⟨by show r1.edges ++ r2.edges = []; rw [he1, he2]; rfl, ?_⟩
    -- with distinct module UUIDs the message is decoded and the rest sees `m.uuid :: done`
    have hstep : ∀ done : List Nat, (∀ x, g0.n ≤ x → x < g.n → g.kind x = .module → g.uuid x ∈ done) →
        (∀ m', m' ∈ m :: ms → m'.uuid ∉ done) → ((m :: ms).map (·.uuid)).Nodup →
        g.cache g0.n m.uuid = none ∧ ds = ms := by
      intro done hmods hnot hnd
      obtain ⟨hfresh, hmods2, hnot2, hnd2⟩ := modules_done_step hm hmods hnot hnd hdm' hst
      exact ⟨hfresh, hall (m.uuid :: done) hmods2 hnot2 hnd2⟩
    rcases hspec with ⟨e1, e2, n, hcn⟩ | ⟨_, hv, f1, f2⟩
    · refine ⟨ds, .cons _ hsub, ?_, ?_, ?_⟩
      · show Forall2 _ _ (r1.entries ++ r2.entries); rw [e1]; exact i1
      · show Forall2 _ _ (r1.exprSyms ++ r2.exprSyms); rw [e2]; exact i2
      · intro done hmods hnot hnd
        rw [(hstep done hmods hnot hnd).1] at hcn; cases hcn
    · refine ⟨m :: ds, .cons_cons _ hsub, ?_, ?_, ?_⟩
      · rw [filterMap_entryOf_cons]
        refine Forall2.append (f1.map_left ?_) i1
        rintro u p ⟨hp1, hp2⟩
        exact ⟨by rw [hp1]; exact hv.of_grows hg, hp2.of_grows hg⟩
      · rw [List.flatMap_cons]
        refine Forall2.append ?_ i2
        unfold exprsOf
        refine f2.map_left ?_
        rintro u p ⟨hp1, hp2⟩
        exact ⟨by rw [hp1]; exact hv.of_grows hg, hp2.of_grows hg⟩
      · intro done hmods hnot hnd
        rw [(hstep done hmods hnot hnd).2]

theorem moduleUuids_sublist (ms : List SkModule) : (ms.map (·.uuid)).Sublist (ms.flatMap SkModule.nodeUuids) := by
  induction ms with
  | nil => exact List.Sublist.slnil
  | cons m ms ih =>
    rw [List.map_cons, List.flatMap_cons]
    show (m.uuid :: ms.map (·.uuid)).Sublist ((m.uuid :: _) ++ _)
    rw [List.cons_append]
    exact List.Sublist.cons_cons _ (ih.trans (List.sublist_append_right _ _))

theorem moduleUuids_nodup {m : SkIR} (h : m.nodeUuids.Nodup) : (m.modules.map (·.uuid)).Nodup := by
  unfold SkIR.nodeUuids at h
  exact (moduleUuids_sublist m.modules).nodup (List.nodup_cons.1 h).2

theorem IsLoaded.lookup {g g' : G} {m : SkIR} {ir : Nat} (hf : ForestInv g) (hl : load g m = .ok (g', ir))
    (hnd : m.nodeUuids.Nodup) {K : Kind → Prop} {u n : Nat} (h : IsLoaded g g' K u n) :
    getByUuid g' ir u = some n := by
  have hir : ir = g.n := (load_ok hf hl).1
  exact ((C17_load_exact_nodup g g' m ir hf hl hnd).2 u n).2 ⟨h.lt, by rw [hir]; exact h.att, h.uuid⟩

def codeOrProxy (k : Kind) : Prop := k = .code ∨ k = .proxy

theorem loadR_unfold {g g' : G} {m : SkIR} {ir : Nat} {r : Refs} (hl : loadR g m = .ok (g', ir, r)) :
    ∃ r0, decodeModulesR g.n (mkIR g m.uuid) m.modules = .ok (g', r0) ∧ ir = g.n ∧
      resolveEdges g' g.n (fun k => k == Kind.code || k == Kind.proxy) m.edges = .ok r.edges ∧
      r.entries = r0.entries ∧ r.exprSyms = r0.exprSyms := by
  unfold loadR at hl
  simp only [] at hl
  split at hl
  · cases hl
  · rename_i g2 r0 hdm
    split at hl
    · cases hl
    · rename_i es hes
      cases hl
      exact ⟨r0, hdm, rfl, hes, rfl, rfl⟩

/-- the recorded edge ends: resolved in the final state, so they are what the final table answers - for any
message -/
theorem loadR_edges {g g' : G} {m : SkIR} {ir : Nat} {r : Refs} (hf : ForestInv g)
    (hl : loadR g m = .ok (g', ir, r)) :
    Forall2 (fun (e p : Nat × Nat) =>
        (IsLoaded g g' codeOrProxy e.1 p.1 ∧ getByUuid g' ir e.1 = some p.1) ∧
        (IsLoaded g g' codeOrProxy e.2 p.2 ∧ getByUuid g' ir e.2 = some p.2)) m.edges r.edges := by
  obtain ⟨_, hm, ha, _⟩ := load_ok hf (loadR_ok_load hl)
  obtain ⟨r0, _, rfl, hes, _, _⟩ := loadR_unfold hl
  rw [resolveEdges_eq] at hes
  rcases checkAll_cases g' g.n (fun k => k == Kind.code || k == Kind.proxy) (m.edges.flatMap fun e => [e.1, e.2]) with
    ⟨a1, hall⟩ | ⟨a1, _⟩
  · rw [a1] at hes
    rw [← Except.ok.inj hes]
    have lk : ∀ u, u ∈ (m.edges.flatMap fun e => [e.1, e.2]) →
        IsLoaded g g' codeOrProxy u (answer g' g.n u) ∧ getByUuid g' g.n u = some (answer g' g.n u) := fun u hu =>
      ⟨IsLoaded.of_new ha ((New.of_entry (ok := fun k => k == Kind.code || k == Kind.proxy) hm (hall u hu).answer.1
        (hall u hu).answer.2).imp (fun k hk => by simpa [codeOrProxy] using hk)), (hall u hu).answer.1⟩
    exact .of_forall _ fun e he =>
      ⟨lk e.1 (List.mem_flatMap.2 ⟨e, he, List.mem_cons_self⟩),
        lk e.2 (List.mem_flatMap.2 ⟨e, he, List.mem_cons_of_mem _ List.mem_cons_self⟩)⟩
  · rw [a1] at hes; cases hes

/-- **(2), any message** (duplicated UUIDs included). Every node `loadR` recorded is, in the final state, an
allocated node created by this load, of the required kind (module / code / symbol / code-or-proxy), carrying the
UUID the message names, attached to the loaded IR. Edge ends are resolved last, so they are moreover exactly
what the final table answers. For entry points and expression symbols the final table may answer *another*
node of that UUID when UUIDs are duplicated (`C09_entry_moved_example`); kind and UUID were fixed at
resolution time and never change. -/
theorem C09_loadR_sound (g g' : G) (m : SkIR) (ir : Nat) (r : Refs) (hf : ForestInv g)
    (hl : loadR g m = .ok (g', ir, r)) :
    ir = g.n ∧
    (∀ p, p ∈ r.entries → ∃ md, md ∈ m.modules ∧ ∃ u, md.entry = some u ∧
      IsLoaded g g' (· = .module) md.uuid p.1 ∧ IsLoaded g g' (· = .code) u p.2) ∧
    (∀ p, p ∈ r.exprSyms → ∃ md, md ∈ m.modules ∧ ∃ u, u ∈ md.exprSyms ∧
      IsLoaded g g' (· = .module) md.uuid p.1 ∧ IsLoaded g g' (· = .symbol) u p.2) ∧
    Forall2 (fun (e p : Nat × Nat) =>
        (IsLoaded g g' codeOrProxy e.1 p.1 ∧ getByUuid g' ir e.1 = some p.1) ∧
        (IsLoaded g g' codeOrProxy e.2 p.2 ∧ getByUuid g' ir e.2 = some p.2)) m.edges r.edges := by
  have hedges := loadR_edges hf hl
  obtain ⟨_, _, ha, _⟩ := load_ok hf (loadR_ok_load hl)
  obtain ⟨r0, hdm, rfl, _, e1, e2⟩ := loadR_unfold hl
  obtain ⟨m1, a1⟩ := mid_mkIR hf m.uuid
  obtain ⟨_, ds, hsub, i1, i2, _⟩ := decodeModulesR_records m.modules _ _ r0 m1 a1 hdm
  refine ⟨rfl, ?_, ?_, hedges⟩
  · intro p hp
    rw [e1] at hp
    obtain ⟨q, hq, n1, n2⟩ := i1.mem_right p hp
    obtain ⟨md, hmd, hqe⟩ := List.mem_filterMap.1 hq
    unfold entryOf at hqe
    cases hent : md.entry with
    | none => rw [hent] at hqe; cases hqe
    | some u =>
      rw [hent] at hqe
      cases hqe
      exact ⟨md, hsub.subset hmd, u, hent, IsLoaded.of_new ha n1, IsLoaded.of_new ha n2⟩
  · intro p hp
    rw [e2] at hp
    obtain ⟨q, hq, n1, n2⟩ := i2.mem_right p hp
    obtain ⟨md, hmd, hqe⟩ := List.mem_flatMap.1 hq
    obtain ⟨u, hu, rfl⟩ := List.mem_map.1 hqe
    exact ⟨md, hsub.subset hmd, u, hu, IsLoaded.of_new ha n1, IsLoaded.of_new ha n2⟩

/-- **(2), pairwise distinct node UUIDs: reference identity.** The records are complete - one per entry point,
per expression symbol (in message order) and per edge of the message - and every recorded node IS the object the
loaded IR's table answers for the UUID the message names (`getByUuid g' ir u`), an allocated node of the
required kind attached to the loaded IR. -/
theorem C09_loadR_identity (g g' : G) (m : SkIR) (ir : Nat) (r : Refs) (hf : ForestInv g)
    (hl : loadR g m = .ok (g', ir, r)) (hnd : m.nodeUuids.Nodup) :
    Forall2 (fun (q p : Nat × Nat) =>
        (IsLoaded g g' (· = .module) q.1 p.1 ∧ getByUuid g' ir q.1 = some p.1) ∧
        (IsLoaded g g' (· = .code) q.2 p.2 ∧ getByUuid g' ir q.2 = some p.2))
      (m.modules.filterMap entryOf) r.entries ∧
    Forall2 (fun (q p : Nat × Nat) =>
        (IsLoaded g g' (· = .module) q.1 p.1 ∧ getByUuid g' ir q.1 = some p.1) ∧
        (IsLoaded g g' (· = .symbol) q.2 p.2 ∧ getByUuid g' ir q.2 = some p.2))
      (m.modules.flatMap exprsOf) r.exprSyms ∧
    Forall2 (fun (e p : Nat × Nat) =>
        (IsLoaded g g' codeOrProxy e.1 p.1 ∧ getByUuid g' ir e.1 = some p.1) ∧
        (IsLoaded g g' codeOrProxy e.2 p.2 ∧ getByUuid g' ir e.2 = some p.2)) m.edges r.edges := by
  have hedges := loadR_edges hf hl
  have hload := loadR_ok_load hl
  obtain ⟨_, _, ha, _⟩ := load_ok hf hload
  obtain ⟨r0, hdm, _, _, e1, e2⟩ := loadR_unfold hl
  obtain ⟨m1, a1⟩ := mid_mkIR hf m.uuid
  obtain ⟨_, ds, _, i1, i2, hall⟩ := decodeModulesR_records m.modules _ _ r0 m1 a1 hdm
  rw [hall [] (mkIR_no_modules g m.uuid) (fun _ _ h => by cases h) (moduleUuids_nodup hnd)] at i1 i2
  have lk : ∀ {P u v}, New g g' P u v → IsLoaded g g' P u v ∧ getByUuid g' ir u = some v :=
    fun n => ⟨IsLoaded.of_new ha n, (IsLoaded.of_new ha n).lookup hf hload hnd⟩
  rw [e1, e2]
  exact ⟨i1.imp fun _ _ ⟨n1, n2⟩ => ⟨lk n1, lk n2⟩, i2.imp fun _ _ ⟨n1, n2⟩ => ⟨lk n1, lk n2⟩, hedges⟩

/-- what `Symbol._from_protobuf` stores as payload of a fresh symbol: the referent is looked up in the table
(`kind`: the kinds at that moment) -/
def resolvePayload (cache : Nat → Option Nat) (kind : Nat → Kind) : SkPayload → Except LErr Payload
  | .none => .ok .none
  | .int n => .ok (.int n)
  | .ref u =>
    match cache u with
    | some b => if isBlock (kind b) then .ok (.block b) else .error .deser
    | none => .error .deser

theorem decodeSymbol_fresh_eq {g : G} {ir : Nat} (x : SkSymbol) (h : g.cache ir x.uuid = none) :
    decodeSymbol g ir x =
      match resolvePayload (g.cache ir) (alloc g .symbol x.uuid).1.kind x.payload with
      | .error e => .error e
      | .ok pl => .ok (symState g ir x.uuid x.name pl, g.n) := by
  show onFresh g ir .symbol x.uuid _ = _
  rw [onFresh_miss _ _ h]
  unfold resolvePayload
  cases x.payload <;> rfl

def SymRefsOK (g0 : G) (S : SkSymbol → Prop) (g : G) : Prop :=
  ∀ y b, g0.n ≤ y → y < g.n → g.kind y = .symbol → g.payload y = .block b →
    ∃ s, S s ∧ s.uuid = g.uuid y ∧ s.payload = .ref (g.uuid b)

theorem SymRefsOK.of_stable {g0 : G} {S : SkSymbol → Prop} {g g' : G} (h : SymRefsOK g0 S g) (hs : Stable g g')
    (hp : g'.payload = g.payload) : SymRefsOK g0 S g' := by
  intro y b hy hlt hk hpl
  rw [hs.n] at hlt; rw [hs.kind] at hk; rw [hp] at hpl; rw [hs.uuid]
  exact h y b hy hlt hk hpl

theorem SymRefsOK.of_alloc {g0 : G} {S : SkSymbol → Prop} {g g' : G} (hm : Mid g0 g) (h : SymRefsOK g0 S g)
    (k : Kind) (u : Nat) (hn : g'.n = g.n + 1) (hkind : g'.kind = (alloc g k u).1.kind)
    (huuid : g'.uuid = (alloc g k u).1.uuid) (hpl : ∀ x, x ≠ g.n → g'.payload x = g.payload x)
    (hnew : k = .symbol → ∀ b, g'.payload g.n = .block b →
      b < g.n ∧ ∃ s, S s ∧ s.uuid = u ∧ s.payload = .ref (g.uuid b)) : SymRefsOK g0 S g' := by
  intro y b hy hlt hk hplb
  rw [hkind] at hk
  rw [huuid]
  by_cases hyn : y = g.n
  · subst hyn
    simp only [alloc_kind, if_true] at hk
    obtain ⟨hb, s, hs, hsu, hsp⟩ := hnew hk b hplb
    refine ⟨s, hs, by simp [hsu], ?_⟩
    simp only [alloc_uuid, if_neg (Nat.ne_of_lt hb)]
    exact hsp
  · simp only [alloc_kind, if_neg hyn] at hk
    rw [hpl y hyn] at hplb
    have hylt : y < g.n := by omega
    obtain ⟨_, hb, _⟩ := hm.refs y b hy hylt hk hplb
    obtain ⟨s, hs, hsu, hsp⟩ := h y b hy hylt hk hplb
    refine ⟨s, hs, ?_, ?_⟩
    · simp only [alloc_uuid, if_neg hyn]; exact hsu
    · simp only [alloc_uuid, if_neg (Nat.ne_of_lt hb)]; exact hsp

theorem lstep_symRefs {g0 g g' : G} {S : SkSymbol → Prop} (hm : Mid g0 g) (h : LStep g0 S g g')
    (hp : SymRefsOK g0 S g) : SymRefsOK g0 S g' := by
  cases h with
  | alloc k u _ hk => exact hp.of_alloc hm k u rfl rfl rfl (fun _ _ => rfl) (fun h => absurd h hk)
  | reg _ _ _ => exact hp
  | regInterval _ _ =>
    obtain ⟨c, e⟩ := (cache_setAll_only _ (cache_walkI _ _) _).idxOC
    rw [cache_addInterval_eq, e]; exact hp
  | add _ _ _ _ _ h => exact hp.of_stable (setAdd_stable h) (setAdd_payload h)
  | blk _ _ _ _ _ h => exact hp.of_stable (blkUpdate_stable h) (blkUpdate_payload h)
  | append _ _ _ _ h => exact hp.of_stable (modAppend_stable h) (modAppend_payload h)
  | @symbol _ x _ hS h =>
    rcases decodeSymbol_cases h with ⟨rfl, _, _⟩ | ⟨_, _, pl, hres, rfl⟩
    · exact hp
    · refine hp.of_alloc hm .symbol x.uuid rfl rfl rfl (fun y hy => if_neg hy) ?_
      intro _ b hb
      have e : pl = .block b := (if_pos rfl).symm.trans hb
      subst e
      obtain ⟨u, hu, hcu, _, _⟩ := hres.of_block
      obtain ⟨_, e2, e3⟩ := hm.entries _ _ hcu
      exact ⟨e2, x, hS, rfl, by rw [hu, e3]⟩

def blockKind (k : Kind) : Prop := k = .code ∨ k = .data ∨ k = .proxy

/-- **(3) symbol referents**, in the form of the other three reference kinds. The referent `b` stored in a
symbol `y` created by the load is an allocated code / data / proxy block created by this load and attached to
the loaded IR; the symbol was made from a symbol message with `y`'s UUID whose payload names `b`'s UUID; and if
the node UUIDs of the message are pairwise distinct, `b` and `y` ARE what the loaded IR's table answers for these
UUIDs. (Any message for the first two parts: a duplicated UUID can only make the final table answer another
node.) -/
theorem C09_load_referent_identity (g g' : G) (m : SkIR) (ir : Nat) (hf : ForestInv g)
    (hl : load g m = .ok (g', ir)) :
    ∀ y, g.n ≤ y → y < g'.n → g'.kind y = .symbol → ∀ b, g'.payload y = .block b →
      IsLoaded g g' blockKind (g'.uuid b) b ∧
      (∃ md, md ∈ m.modules ∧ ∃ s, s ∈ md.symbols ∧ s.uuid = g'.uuid y ∧ s.payload = .ref (g'.uuid b)) ∧
      (m.nodeUuids.Nodup → getByUuid g' ir (g'.uuid b) = some b ∧ getByUuid g' ir (g'.uuid y) = some y) := by
  intro y hy hlt hk b hb
  obtain ⟨hbk, hbi⟩ := C17_load_referents g g' m ir hf hl y hy hlt hk b hb
  obtain ⟨hir, hm, ha, _⟩ := load_ok hf hl
  obtain ⟨hb0, hbn, _⟩ := hm.refs y b hy hlt hk hb
  have lb : IsLoaded g g' blockKind (g'.uuid b) b := ⟨hb0, hbn, hbk, rfl, by rw [← hir]; exact hbi⟩
  have ly : IsLoaded g g' (· = .symbol) (g'.uuid y) y := ⟨hy, hlt, hk, rfl, ha y hy hlt⟩
  have hP : SymRefsOK g (fun s => ∃ md, md ∈ m.modules ∧ s ∈ md.symbols) g' := by
    refine load_keeps (fun _ _ => lstep_symRefs) hf ?_ hl
    intro y' b' hy' hlt' hk' _
    rw [(mkIR_new g m.uuid hy' hlt').2.1] at hk'; cases hk'
  obtain ⟨s, ⟨md, hmd, hs⟩, hsu, hsp⟩ := hP y b hy hlt hk hb
  exact ⟨lb, ⟨md, hmd, s, hs, hsu, hsp⟩, fun hnd => ⟨lb.lookup hf hl hnd, ly.lookup hf hl hnd⟩⟩

theorem decodeAttach_append {α : Type} (dec : G → Nat → α → Except LErr (G × Nat)) (ir p : Nat) (s : Slot) :
    ∀ (xs ys : List α) (g : G), decodeAttach dec ir p s g (xs ++ ys) =
      match decodeAttach dec ir p s g xs with
      | .error e => .error e
      | .ok g' => decodeAttach dec ir p s g' ys
  | [], ys, g => rfl
  | x :: xs, ys, g => by
    simp only [List.cons_append, decodeAttach]
    cases dec g ir x with
    | error e => rfl
    | ok r =>
      obtain ⟨g1, v⟩ := r
      simp only []
      cases liftE (setAdd g1 p s v) with
      | error e => rfl
      | ok g2 => exact decodeAttach_append dec ir p s xs ys g2

theorem decodeModules_append (ir : Nat) : ∀ (xs ys : List SkModule) (g : G), decodeModules ir g (xs ++ ys) =
      match decodeModules ir g xs with
      | .error e => .error e
      | .ok g' => decodeModules ir g' ys
  | [], ys, g => rfl
  | x :: xs, ys, g => by
    simp only [List.cons_append, decodeModules]
    cases decodeModule g ir x with
    | error e => rfl
    | ok r =>
      obtain ⟨g1, v⟩ := r
      simp only []
      cases liftE (modAppend g1 ir v) with
      | error e => rfl
      | ok g2 => exact decodeModules_append ir xs ys g2

theorem load_error_at {g : G} {m : SkIR} {pre post : List SkModule} {md : SkModule} {g1 : G} {e : LErr}
    (hsplit : m.modules = pre ++ md :: post) (hpre : decodeModules g.n (mkIR g m.uuid) pre = .ok g1)
    (herr : decodeModule g1 g.n md = .error e) : load g m = .error e := by
  unfold load
  simp only []
  rw [hsplit, decodeModules_append, hpre]
  simp only [decodeModules, herr]

theorem decodeModule_fresh_eq {g : G} {ir : Nat} (m : SkModule) (h : g.cache ir m.uuid = none) :
    decodeModule g ir m =
      match moduleHead g ir m with
      | .error e => .error e
      | .ok g6 =>
        match (match m.entry with
               | none => (.ok () : Except LErr Unit)
               | some u => refKind g6 ir (fun k => k == Kind.code) u) with
        | .error e => .error e
        | .ok _ =>
          match decodeAttach decodeSymbol ir g.n .syms g6 m.symbols with
          | .error e => .error e
          | .ok g8 =>
            match checkAll g8 ir (fun k => k == Kind.symbol) m.exprSyms with
            | .error e => .error e
            | .ok _ => .ok (g8, g.n) := by
  show onFresh g ir .module m.uuid _ = _
  rw [onFresh_miss _ _ h]
  unfold moduleHead
  dsimp only
  cases decodeAttach decodeProxy ir g.n .proxies (cacheSet (alloc g .module m.uuid).1 ir m.uuid g.n) m.proxies with
  | error e => rfl
  | ok g4 => rfl

theorem entryCheck_ok {g6 : G} {ir : Nat} {md : SkModule}
    (hentry : ∀ w, md.entry = some w → RefResolves g6 ir (fun k => k == Kind.code) w) :
    (match md.entry with
      | none => (.ok () : Except LErr Unit)
      | some u => refKind g6 ir (fun k => k == Kind.code) u) = .ok () := by
  cases hent : md.entry with
  | none => rfl
  | some w => exact ((refKind_cases g6 ir _ w).resolve_right fun h => h.2 (hentry w hent)).1

/-- the entry point of a module message names a UUID that, when it is resolved, has no table entry or an entry
that is not a code block: the load raises `DeserializationError` -/
theorem C09_fault_entry (g : G) (m : SkIR) (pre post : List SkModule) (md : SkModule) (g1 g6 : G) (u : Nat)
    (hsplit : m.modules = pre ++ md :: post) (hpre : decodeModules g.n (mkIR g m.uuid) pre = .ok g1)
    (hfresh : g1.cache g.n md.uuid = none) (hhead : moduleHead g1 g.n md = .ok g6)
    (hu : md.entry = some u) (hbad : ¬ RefResolves g6 g.n (fun k => k == Kind.code) u) :
    load g m = .error .deser := by
  apply load_error_at hsplit hpre
  rw [decodeModule_fresh_eq md hfresh, hhead, hu]
  simp only []
  rw [((refKind_cases g6 g.n _ u).resolve_left fun h => hbad h.2).1]

/-- a symbolic expression of a module message uses a symbol UUID that, when it is resolved (after the module's
symbols are decoded), has no table entry or an entry that is not a symbol -/
theorem C09_fault_exprSym (g : G) (m : SkIR) (pre post : List SkModule) (md : SkModule) (g1 g6 g8 : G) (u : Nat)
    (hsplit : m.modules = pre ++ md :: post) (hpre : decodeModules g.n (mkIR g m.uuid) pre = .ok g1)
    (hfresh : g1.cache g.n md.uuid = none) (hhead : moduleHead g1 g.n md = .ok g6)
    (hentry : ∀ w, md.entry = some w → RefResolves g6 g.n (fun k => k == Kind.code) w)
    (hsyms : decodeAttach decodeSymbol g.n g1.n .syms g6 md.symbols = .ok g8)
    (hu : u ∈ md.exprSyms) (hbad : ¬ RefResolves g8 g.n (fun k => k == Kind.symbol) u) :
    load g m = .error .deser := by
  apply load_error_at hsplit hpre
  rw [decodeModule_fresh_eq md hfresh, hhead]
  simp only []
  have he := entryCheck_ok hentry
  rw [he, hsyms]
  simp only []
  rw [((checkAll_cases g8 g.n (fun k => k == Kind.symbol) md.exprSyms).resolve_left fun h => hbad (h.2 u hu)).1]

/-- the step that resolves a referent: only `DeserializationError`, exactly when the table has no entry that is
a block (`decodeSymbol_fresh_eq`: this is the step `decodeSymbol` runs on a fresh symbol message) -/
theorem resolvePayload_error_iff (cache : Nat → Option Nat) (kind : Nat → Kind) (u : Nat) :
    (resolvePayload cache kind (.ref u) = .error .deser ↔ ¬ ∃ b, cache u = some b ∧ isBlock (kind b) = true) ∧
    (∀ p e, resolvePayload cache kind p = .error e → e = .deser) := by
  refine ⟨?_, ?_⟩
  · unfold resolvePayload
    simp only []
    cases hc : cache u with
    | none => exact ⟨fun _ ⟨b, h, _⟩ => (by cases h), fun _ => rfl⟩
    | some b =>
      simp only []
      by_cases hk : isBlock (kind b) = true
      · rw [if_pos hk]
        exact ⟨fun h => (by cases h), fun h => absurd ⟨b, rfl, hk⟩ h⟩
      · rw [if_neg hk]
        refine ⟨fun _ => ?_, fun _ => rfl⟩
        rintro ⟨b', h, hk'⟩
        cases h; exact hk hk'
  · intro p e h
    unfold resolvePayload at h
    cases p with
    | none => cases h
    | int n => cases h
    | ref u =>
      simp only [] at h
      cases hc : cache u with
      | none => rw [hc] at h; cases h; rfl
      | some b =>
        rw [hc] at h
        simp only [] at h
        by_cases hk : isBlock (kind b) = true
        · rw [if_pos hk] at h; cases h
        · rw [if_neg hk] at h; cases h; rfl

/-- a fresh symbol message names a referent UUID that, when it is resolved, has no table entry or an entry that
is not a code / data / proxy block -/
theorem C09_fault_referent (g : G) (m : SkIR) (pre post : List SkModule) (md : SkModule) (g1 g6 gs : G)
    (spre spost : List SkSymbol) (s : SkSymbol) (u : Nat)
    (hsplit : m.modules = pre ++ md :: post) (hpre : decodeModules g.n (mkIR g m.uuid) pre = .ok g1)
    (hfresh : g1.cache g.n md.uuid = none) (hhead : moduleHead g1 g.n md = .ok g6)
    (hentry : ∀ w, md.entry = some w → RefResolves g6 g.n (fun k => k == Kind.code) w)
    (hssplit : md.symbols = spre ++ s :: spost)
    (hspre : decodeAttach decodeSymbol g.n g1.n .syms g6 spre = .ok gs)
    (hsfresh : gs.cache g.n s.uuid = none) (hu : s.payload = .ref u)
    (hbad : ¬ RefResolves gs g.n isBlock u) :
    load g m = .error .deser := by
  apply load_error_at hsplit hpre
  rw [decodeModule_fresh_eq md hfresh, hhead]
  simp only []
  have he := entryCheck_ok hentry
  have hsym : decodeSymbol gs g.n s = .error .deser := by
    rw [decodeSymbol_fresh_eq s hsfresh, hu, (resolvePayload_error_iff _ _ u).1.2]
    rintro ⟨b, hc, hk⟩
    rw [alloc_kind] at hk
    split at hk
    · cases hk
    · exact hbad ⟨b, hc, hk⟩
  rw [he, hssplit, decodeAttach_append, hspre]
  simp only [decodeAttach, hsym]

/-- CFG edges are resolved last: once the modules are decoded, the load succeeds iff every edge end resolves
to a code block or proxy block, fails with `DeserializationError` iff one does not, and fails with nothing else -/
theorem C09_fault_edge_iff (g : G) (m : SkIR) (g2 : G)
    (hmods : decodeModules g.n (mkIR g m.uuid) m.modules = .ok g2) :
    (load g m = .error .deser ↔
      ∃ e, e ∈ m.edges ∧ ∃ u, u ∈ [e.1, e.2] ∧ ¬ RefResolves g2 g.n (fun k => k == Kind.code || k == Kind.proxy) u) ∧
    (load g m = .ok (g2, g.n) ↔
      ∀ e, e ∈ m.edges → ∀ u, u ∈ [e.1, e.2] → RefResolves g2 g.n (fun k => k == Kind.code || k == Kind.proxy) u) ∧
    (∀ e, load g m = .error e → e = .deser) := by
  have hl : load g m = match checkAll g2 g.n (fun k => k == Kind.code || k == Kind.proxy)
      (m.edges.flatMap fun e => [e.1, e.2]) with
      | .error e => .error e
      | .ok _ => .ok (g2, g.n) := by
    unfold load
    simp only []
    rw [hmods]
    rfl
  rw [hl]
  have hmem : ∀ u, u ∈ (m.edges.flatMap fun e => [e.1, e.2]) ↔ ∃ e, e ∈ m.edges ∧ u ∈ [e.1, e.2] := fun u =>
    List.mem_flatMap
  rcases checkAll_cases g2 g.n (fun k => k == Kind.code || k == Kind.proxy) (m.edges.flatMap fun e => [e.1, e.2]) with
    ⟨a2, hall⟩ | ⟨a2, u, hu, hbad⟩
  · rw [a2]
    refine ⟨⟨fun h => (by cases h), ?_⟩, ⟨fun _ e he u hu => hall u ((hmem u).2 ⟨e, he, hu⟩), fun _ => rfl⟩,
      fun e h => (by cases h)⟩
    rintro ⟨e, he, u, hu, hbad⟩
    exact absurd (hall u ((hmem u).2 ⟨e, he, hu⟩)) hbad
  · rw [a2]
    obtain ⟨e, he, hue⟩ := (hmem u).1 hu
    refine ⟨⟨fun _ => ⟨e, he, u, hue, hbad⟩, fun _ => rfl⟩, ⟨fun h => (by cases h), ?_⟩, fun e h => (by cases h; rfl)⟩
    intro hall
    exact absurd (hall e he u hue) hbad

/-! ### non-vacuity and examples

`skFull` (`C03Load.lean`): proxy 20 (node 2); section 30 / interval 31 with code block 32 (node 5) and data block
33 (node 6); symbols 40 (node 7, referent 32), 41 (node 8, referent 20), 42 (value); entry point 32; an
expression using symbol 40; an edge 32 -> 20. -/

def refsOf (r : Except LErr (G × Nat × Refs)) : Option (Nat × Refs) :=
  match r with
  | .ok (_, ir, r) => some (ir, r)
  | .error _ => none

def isDeser {α : Type} (r : Except LErr α) : Bool :=
  match r with
  | .error .deser => true
  | _ => false

/-- what `loadR` records for `skFull`: the entry point of module node 1 is code block node 5, its expression uses
symbol node 7, the edge joins node 5 and proxy node 2; the symbols 7 and 8 hold the referents 5 and 2 -/
theorem skFull_refs :
    refsOf (loadR {} skFull) = some (0, { entries := [(1, 5)], exprSyms := [(1, 7)], edges := [(5, 2)] }) ∧
    (match loadR {} skFull with
      | .ok (g, _, _) => some (g.payload 7, g.payload 8, g.payload 9)
      | .error _ => none) = some (.block 5, .block 2, .int 5) := by decide

/-- `C09_loadR_identity` and `C09_load_referent_identity` are not vacuous: `skFull` is accepted, has an entry
point, an expression symbol, an edge and two referents, and pairwise distinct node UUIDs -/
example : ∃ g' ir r, loadR {} skFull = .ok (g', ir, r) ∧ r.entries = [(1, 5)] ∧ r.exprSyms = [(1, 7)] ∧
    r.edges = [(5, 2)] ∧
    getByUuid g' ir 10 = some 1 ∧ getByUuid g' ir 32 = some 5 ∧ getByUuid g' ir 40 = some 7 ∧
    getByUuid g' ir 20 = some 2 ∧ IsLoaded {} g' (· = .code) 32 5 ∧ IsLoaded {} g' (· = .symbol) 40 7 ∧
    IsLoaded {} g' codeOrProxy 20 2 := by
  cases h : loadR {} skFull with
  | error e => have := skFull_refs.1; rw [h] at this; cases this
  | ok x =>
    obtain ⟨g', ir, r⟩ := x
    have hs := skFull_refs.1
    rw [h] at hs
    simp only [refsOf, Option.some.injEq, Prod.mk.injEq] at hs
    obtain ⟨rfl, rfl⟩ := hs
    obtain ⟨i1, i2, i3⟩ := C09_loadR_identity {} g' skFull 0 _ C04_init h skFull_nodup
    -- the three lists have one element each
    have e1 : skFull.modules.filterMap entryOf = [(10, 32)] := by decide
    have e2 : skFull.modules.flatMap exprsOf = [(10, 40)] := by decide
    rw [e1] at i1; rw [e2] at i2
    cases i1 with
    | cons a1 _ =>
      cases i2 with
      | cons a2 _ =>
        have i3' : Forall2 _ [(32, 20)] [(5, 2)] := i3
        cases i3' with
        | cons a3 _ =>
          exact ⟨g', 0, _, rfl, rfl, rfl, rfl, a1.1.2, a1.2.2, a2.2.2, a3.2.2, a1.2.1, a2.2.1, a3.2.1⟩

/-- the referents of `skFull`, through `C09_load_referent_identity`: symbol node 7 refers to node 5, which is the
table's answer for UUID 32, the UUID the symbol message 40 names -/
example : ∃ g' ir, load {} skFull = .ok (g', ir) ∧ g'.payload 7 = .block 5 ∧
    IsLoaded {} g' blockKind (g'.uuid 5) 5 ∧ getByUuid g' ir (g'.uuid 5) = some 5 ∧
    ∃ md, md ∈ skFull.modules ∧ ∃ s, s ∈ md.symbols ∧ s.uuid = g'.uuid 7 ∧ s.payload = .ref (g'.uuid 5) := by
  cases h : loadR {} skFull with
  | error e => have := skFull_refs.1; rw [h] at this; cases this
  | ok x =>
    obtain ⟨g', ir, r⟩ := x
    have hp := skFull_refs.2
    rw [h] at hp
    simp only [Option.some.injEq, Prod.mk.injEq] at hp
    have hl := loadR_ok_load h
    have hk : g'.kind 7 = .symbol ∧ 7 < g'.n := by
      have hs : (match loadR {} skFull with
          | .ok (g, _, _) => decide (g.kind 7 = .symbol ∧ 7 < g.n)
          | .error _ => false) = true := by decide
      rw [h] at hs
      simpa using hs
    obtain ⟨a, b, c⟩ := C09_load_referent_identity {} g' skFull ir C04_init hl 7 (Nat.zero_le _) hk.2 hk.1 5 hp.1
    exact ⟨g', ir, hl, hp.1, a, (c skFull_nodup).1, b⟩

/-- a message with a duplicated UUID in which the final table does NOT answer the recorded entry point: module 10
has code block 32 (node 4) as entry point and as referent of symbol 40; module 11 re-uses section 30 - moving it
out of the IR deletes the keys 30, 31, 32 - and then declares another code block with UUID 32 (node 9), which is
created fresh and registered last -/
def skMoved : SkIR :=
  { uuid := 1, edges := [],
    modules := [{ uuid := 10, proxies := [], symbols := [{ uuid := 40, name := 1, payload := .ref 32 }],
                  entry := some 32, exprSyms := [40],
                  sections := [{ uuid := 30, intervals := [{ uuid := 31, blocks := [(32, true)] }] }] },
                { uuid := 11, proxies := [], symbols := [], entry := none, exprSyms := [],
                  sections := [{ uuid := 30, intervals := [] },
                               { uuid := 35, intervals := [{ uuid := 36, blocks := [(32, true)] }] }] }] }

/-- accepted; the recorded entry point of module node 1 is node 4 and symbol node 5 refers to node 4; node 4 and
node 9 are both code blocks with UUID 32 attached to the loaded IR (as `C09_loadR_sound` says of node 4); but the
final table answers node 9 for UUID 32. So `getByUuid g' ir u = some n` needs the distinctness hypothesis of
`C09_loadR_identity`; kind, UUID and membership in the IR do not. -/
theorem C09_entry_moved_example :
    (match loadR {} skMoved with
      | .ok (g, ir, r) => some (r.entries, r.exprSyms, g.payload 5, getByUuid g ir 32)
      | .error _ => none) = some ([(1, 4)], [(1, 5)], .block 4, some 9) ∧
    (match loadR {} skMoved with
      | .ok (g, _, _) => some (g.kind 4, g.kind 9, g.uuid 4, g.uuid 9)
      | .error _ => none) = some (.code, .code, 32, 32) ∧
    (match loadR {} skMoved with
      | .ok (g, _, _) => some (irOf g 4, irOf g 9)
      | .error _ => none) = some (some 0, some 0) := by
  decide

/-! reference faults: each of the four kinds, "no entry" and "entry of the wrong kind" -/

def skBadEntry : SkIR := { skFull with modules := skFull.modules.map fun md => { md with entry := some 99 } }
/-- the entry point names the data block 33 -/
def skBadEntryKind : SkIR := { skFull with modules := skFull.modules.map fun md => { md with entry := some 33 } }
def skBadExpr : SkIR := { skFull with modules := skFull.modules.map fun md => { md with exprSyms := [40, 99] } }
/-- an expression uses the code block 32 as a symbol -/
def skBadExprKind : SkIR := { skFull with modules := skFull.modules.map fun md => { md with exprSyms := [32] } }
def skBadRef : SkIR :=
  { skFull with modules := skFull.modules.map fun md =>
      { md with symbols := md.symbols ++ [{ uuid := 43, name := 9, payload := .ref 99 }] } }
/-- a symbol refers to the section 30 -/
def skBadRefKind : SkIR :=
  { skFull with modules := skFull.modules.map fun md =>
      { md with symbols := md.symbols ++ [{ uuid := 43, name := 9, payload := .ref 30 }] } }
def skBadEdge : SkIR := { skFull with edges := [(32, 20), (99, 32)] }
/-- an edge ends in the data block 33 -/
def skBadEdgeKind : SkIR := { skFull with edges := [(32, 33)] }

/-- every reference fault is a `DeserializationError` (never an exception of the object graph, never success);
in `skBadExpr` the entry point and the first expression symbol resolve and the load still fails with
`DeserializationError` for a later reference - which is why, for the references resolved in the middle of the
load, "fault iff `load = .error .deser`" holds per resolution step (`refKind_cases`, `checkAll_cases`,
`resolvePayload_error_iff`) and as an implication for the whole load (`C09_fault_entry`, `C09_fault_exprSym`,
`C09_fault_referent`), and as an equivalence only for the edges, which are resolved last (`C09_fault_edge_iff`) -/
theorem C09_fault_examples :
    isDeser (load {} skBadEntry) = true ∧ isDeser (load {} skBadEntryKind) = true ∧
    isDeser (load {} skBadExpr) = true ∧ isDeser (load {} skBadExprKind) = true ∧
    isDeser (load {} skBadRef) = true ∧ isDeser (load {} skBadRefKind) = true ∧
    isDeser (load {} skBadEdge) = true ∧ isDeser (load {} skBadEdgeKind) = true := by decide

def resolvesB (g : G) (ir : Nat) (ok : Kind → Bool) (u : Nat) : Bool :=
  match g.cache ir u with
  | some n => ok (g.kind n)
  | none => false

theorem resolves_iff (g : G) (ir : Nat) (ok : Kind → Bool) (u : Nat) :
    RefResolves g ir ok u ↔ resolvesB g ir ok u = true := by
  unfold RefResolves resolvesB
  cases g.cache ir u with
  | none => simp
  | some n => simp

/-- the hypotheses of `C09_fault_entry` are satisfiable: the module head of `skBadEntryKind` decodes, and in the
state reached UUID 33 resolves to a data block -/
example : load {} skBadEntryKind = .error .deser := by
  have key : (match skBadEntryKind.modules with
      | [md] =>
        (match moduleHead (mkIR {} 1) 0 md with
          | .ok g6 => resolvesB g6 0 (fun k => k == Kind.data) 33 && !resolvesB g6 0 (fun k => k == Kind.code) 33
          | .error _ => false)
      | _ => false) = true := by decide
  have hmods : ∃ md, skBadEntryKind.modules = [md] ∧ md.entry = some 33 ∧ md.uuid = 10 :=
    ⟨_, rfl, rfl, rfl⟩
  obtain ⟨md, hmd, hent, hmu⟩ := hmods
  rw [hmd] at key
  simp only [] at key
  cases h : moduleHead (mkIR ({} : G) 1) 0 md with
  | error e => rw [h] at key; cases key
  | ok g6 =>
    rw [h] at key
    simp only [Bool.and_eq_true, Bool.not_eq_true'] at key
    refine C09_fault_entry {} skBadEntryKind [] [] md (mkIR {} 1) g6 33 hmd rfl ?_ h hent ?_
    · rw [hmu]; rfl
    · rw [resolves_iff, key.2]; simp

/-- the hypothesis of `C09_fault_edge_iff` is satisfiable, on an accepted and on a rejected message -/
example : (∃ g2, decodeModules 0 (mkIR {} 1) skFull.modules = .ok g2) ∧
    (∃ g2, decodeModules 0 (mkIR {} 1) skBadEdge.modules = .ok g2) := by
  have key : (match decodeModules 0 (mkIR {} 1) skFull.modules with
      | .ok _ => true
      | .error _ => false) = true := by decide
  cases h : decodeModules 0 (mkIR ({} : G) 1) skFull.modules with
  | error e => rw [h] at key; cases key
  | ok g2 => exact ⟨⟨g2, rfl⟩, ⟨g2, h⟩⟩

end Gtirb.Loader
