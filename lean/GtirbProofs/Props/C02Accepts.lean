import GtirbProofs.Lemmas.RoundTrip
import GtirbProofs.Props.C02
/-! C02, reader direction, acceptance half: loading any schema-valid, referentially closed
message (`closedMsg`, GtirbModel/MsgWF.lean), whoever wrote it, succeeds. Together with the
`C02_reader_*` field lemmas: the load yields an IR whose every attribute equals the
corresponding message field. `closedMsg` is linked to `wfir` (the image of the writer on a
self-contained IR is closed), and the one thing it excludes beyond plain closure, a forward
reference to a later module, is shown to be rejected by the reader (known finding K5). -/
namespace Gtirb.Msg
open Gtirb

/-- every schema-valid, referentially closed message is accepted -/
theorem C02_reader_accepts (m : MIR) (h : closedMsg m = true) : ∃ v, fromMsg m = .ok v :=
  ⟨_, fromMsg_ok_iff.2 ⟨chkMsg_of_closed h, rfl⟩⟩

/-- and what it yields carries the message's fields -/
theorem C02_reader_accepts_fields (m : MIR) (h : closedMsg m = true) :
    ∃ v, fromMsg m = .ok v ∧ v.uuid = m.uuid ∧ v.version = m.version
      ∧ v.modules.length = m.modules.length := by
  obtain ⟨v, hv⟩ := C02_reader_accepts m h
  obtain ⟨h1, h2, h3, _⟩ := C02_reader_ir m v hv
  exact ⟨v, hv, h1, h2, h3⟩

/-- the image of the writer on a self-contained IR is closed (links `closedMsg` to `wfir`) -/
theorem C02_toMsg_closed (v : IRV) (h : wfir v = true) : closedMsg (toMsg v) = true :=
  closedMsg_toMsg h

/-- with `C01_roundtrip`'s hypothesis the acceptance theorem applies to what the writer emits -/
theorem C02_reader_accepts_writer (v : IRV) (h : wfir v = true) : ∃ v', fromMsg (toMsg v) = .ok v' :=
  C02_reader_accepts _ (C02_toMsg_closed v h)

/-! ### a concrete closed message that no `toMsg` produces -/

def accU (k : UInt8) : U := List.replicate 15 0 ++ [k]

/-- two modules; an interval (`has_address` false with a stale `address`) holding a code and a
data block and two expressions; duplicate section flags; symbols with value 0, a referent
and no payload; a symbol of the second module referring to a proxy of the first; an entry
point; edges with and without label, one of them listed twice; a vertex list that names
nothing -/
def exClosedMsg : MIR :=
  { uuid := accU 1, version := Generated.protobufVersion, auxData := [("k", ⟨"string", []⟩), ("k", ⟨"x", [1]⟩)],
    cfg := ⟨[], [⟨accU 5, accU 3, none⟩, ⟨accU 5, accU 5, some ⟨false, false, 0⟩⟩,
                 ⟨accU 5, accU 3, none⟩, ⟨accU 3, accU 23, some ⟨true, true, 5⟩⟩]⟩,
    modules := [
      { uuid := accU 2, binaryPath := "/bin/x", preferredAddr := 0, rebaseDelta := -4,
        fileFormat := 2, isa := 3, name := "m1", byteOrder := 2, entryPoint := accU 5,
        proxies := [accU 3], auxData := [],
        sections := [
          { uuid := accU 4, name := ".text", sectionFlags := [1, 3, 1],
            byteIntervals := [
              { uuid := accU 9, hasAddress := false, address := 77, size := 8, contents := [1, 2, 3, 4],
                blocks := [⟨0, some (.code ⟨accU 5, 4, 1⟩)⟩, ⟨0, some (.data ⟨accU 7, 8⟩)⟩],
                symbolicExpressions := [(0, ⟨some (.addrConst (-8) (accU 11)), [1, 9999, 1]⟩),
                                        (4, ⟨some (.addrAddr 2 0 (accU 10) (accU 11)), []⟩)] }] }],
        symbols := [⟨accU 10, some (.value 0), "zero", false⟩,
                    ⟨accU 11, some (.referentUuid (accU 7)), "blk", true⟩,
                    ⟨accU 13, none, "nothing", false⟩] },
      { uuid := accU 20, binaryPath := "", preferredAddr := 4096, rebaseDelta := 0,
        fileFormat := 0, isa := 0, name := "", byteOrder := 0, entryPoint := [],
        proxies := [accU 23], auxData := [], sections := [],
        symbols := [⟨accU 21, some (.referentUuid (accU 3)), "cross", false⟩] }] }

theorem closedMsg_exClosedMsg : closedMsg exClosedMsg = true := by decide +kernel

example : closedMsg exClosedMsg = true := closedMsg_exClosedMsg

/-- the hypothesis is satisfiable: the theorem applies to `exClosedMsg` -/
example : ∃ v, fromMsg exClosedMsg = .ok v := C02_reader_accepts exClosedMsg closedMsg_exClosedMsg

/-- two modules; module 0's symbol refers to a data block of module 1 -/
def k5Msg : MIR :=
  { uuid := accU 1, version := Generated.protobufVersion, auxData := [], cfg := ⟨[], []⟩,
    modules := [
      { uuid := accU 2, binaryPath := "", preferredAddr := 0, rebaseDelta := 0,
        fileFormat := 0, isa := 0, name := "m0", byteOrder := 0, entryPoint := [],
        proxies := [], auxData := [], sections := [],
        symbols := [⟨accU 3, some (.referentUuid (accU 7)), "forward", false⟩] },
      { uuid := accU 4, binaryPath := "", preferredAddr := 0, rebaseDelta := 0,
        fileFormat := 0, isa := 0, name := "m1", byteOrder := 0, entryPoint := [],
        proxies := [], auxData := [],
        sections := [
          { uuid := accU 5, name := "s", sectionFlags := [],
            byteIntervals := [
              { uuid := accU 6, hasAddress := false, address := 0, size := 0, contents := [],
                symbolicExpressions := [], blocks := [⟨0, some (.data ⟨accU 7, 0⟩)⟩] }] }],
        symbols := [] }] }

theorem closedMsg_k5Msg : closedMsg k5Msg = false := by decide +kernel

/-- forward references are exactly what `closedMsg` excludes beyond plain closure: in `k5Msg`
every reference names a node of the message (and everything else `closedMsg` asks for holds:
swapping the two modules gives a closed message), yet the staged reader rejects it -/
theorem C02_forward_reference_rejected :
    ∃ m : MIR, (∀ u ∈ m.refUuids, u ∈ m.nodeUuids) ∧ m.refUuids ≠ []
      ∧ closedMsg m = false
      ∧ closedMsg { m with modules := m.modules.reverse } = true
      ∧ fromMsg m = .error .deserializationError :=
  ⟨k5Msg, by decide, by decide, closedMsg_k5Msg, by decide +kernel,
    eq_error_of_eval (by decide +kernel)⟩

end Gtirb.Msg
