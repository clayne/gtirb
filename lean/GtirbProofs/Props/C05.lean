import GtirbProofs.Props.C12
/-! C05: block lookups equal a fresh scan. At byte-interval scope
`*_on_offset / *_at_offset / *_on / *_at` return each qualifying block exactly
once and nothing else. At section scope the result is the union, over the
section's intervals that are themselves 'on' the query, of the qualifying
blocks of that interval. -/
namespace Gtirb.Index

/-- Intended statement without `hx`; it is false of the model when blocks point
to an interval id that is not in `d.bis` (e.g. after `blkMove b (some 99)`): the
lookup on the non-existing interval answers `[]`, the scan finds the blocks. -/
theorem C05_on_offset (d : D) (x : Nat) (r : Rng) (h : DInv d) (hx : (d.bi? x).isSome) :
    (∀ b, b ∈ (biBlocksOnOffset d x r).2 ↔ b ∈ scanBlocksOnOffset d x r) ∧
      (biBlocksOnOffset d x r).2.Nodup := by
  refine ⟨fun b => ?_, nodup_biBlocksOnOffset h x r⟩
  rw [mem_biBlocksOnOffset h, hx]; simp

theorem C05_at_offset (d : D) (x : Nat) (r : Rng) (h : DInv d) (hx : (d.bi? x).isSome) :
    (∀ b, b ∈ (biBlocksAtOffset d x r).2 ↔ b ∈ scanBlocksAtOffset d x r) ∧
      (biBlocksAtOffset d x r).2.Nodup := by
  refine ⟨fun b => ?_, nodup_biBlocksAtOffset h x r⟩
  rw [mem_biBlocksAtOffset h, hx]; simp

/-- without the existence hypothesis: nothing for an unknown interval -/
theorem C05_on_offset_any (d : D) (x : Nat) (r : Rng) (h : DInv d) (b : Nat) :
    b ∈ (biBlocksOnOffset d x r).2 ↔ (d.bi? x).isSome ∧ b ∈ scanBlocksOnOffset d x r :=
  mem_biBlocksOnOffset h x r b

theorem C05_at_offset_any (d : D) (x : Nat) (r : Rng) (h : DInv d) (b : Nat) :
    b ∈ (biBlocksAtOffset d x r).2 ↔ (d.bi? x).isSome ∧ b ∈ scanBlocksAtOffset d x r :=
  mem_biBlocksAtOffset h x r b

/-- address variants, including the no-address / unknown-interval case (both empty) -/
theorem C05_on (d : D) (x : Nat) (r : Rng) (h : DInv d) :
    (∀ b, b ∈ (biBlocksOn d x r).2 ↔ b ∈ scanBlocksOn d x r) ∧ (biBlocksOn d x r).2.Nodup :=
  ⟨mem_biBlocksOn h x r, nodup_biBlocksOn h x r⟩

theorem C05_at (d : D) (x : Nat) (r : Rng) (h : DInv d) :
    (∀ b, b ∈ (biBlocksAt d x r).2 ↔ b ∈ scanBlocksAt d x r) ∧ (biBlocksAt d x r).2.Nodup :=
  ⟨mem_biBlocksAt h x r, nodup_biBlocksAt h x r⟩

theorem C05_no_address (d : D) (x : Nat) (r : Rng) (hx : (d.bi? x).bind (·.addr) = none) :
    (biBlocksOn d x r).2 = [] ∧ (biBlocksAt d x r).2 = [] ∧
      scanBlocksOn d x r = [] ∧ scanBlocksAt d x r = [] := by
  simp [biBlocksOn, biBlocksAt, scanBlocksOn, scanBlocksAt, hx]

/-- section scope: exact characterisation. Intended statement without `hs`; it
is false of the model for a section id that is not in `d.secs` while intervals
still name it as their section. -/
theorem C05_section_on (d : D) (s : Nat) (r : Rng) (h : DInv d) (hs : (d.sec? s).isSome) (b : Nat) :
    b ∈ (secBlocksOn d s r).2 ↔ ∃ x, x ∈ scanBisOn d s r ∧ b ∈ scanBlocksOn d x r := by
  rw [(secBlocksOn_spec h s r).2.1, hs]; simp

theorem C05_section_at (d : D) (s : Nat) (r : Rng) (h : DInv d) (hs : (d.sec? s).isSome) (b : Nat) :
    b ∈ (secBlocksAt d s r).2 ↔ ∃ x, x ∈ scanBisOn d s r ∧ b ∈ scanBlocksAt d x r := by
  rw [(secBlocksAt_spec h s r).2.1, hs]; simp

theorem C05_section_on_any (d : D) (s : Nat) (r : Rng) (h : DInv d) (b : Nat) :
    b ∈ (secBlocksOn d s r).2 ↔
      (d.sec? s).isSome ∧ ∃ x, x ∈ scanBisOn d s r ∧ b ∈ scanBlocksOn d x r :=
  (secBlocksOn_spec h s r).2.1 b

theorem C05_section_at_any (d : D) (s : Nat) (r : Rng) (h : DInv d) (b : Nat) :
    b ∈ (secBlocksAt d s r).2 ↔
      (d.sec? s).isSome ∧ ∃ x, x ∈ scanBisOn d s r ∧ b ∈ scanBlocksAt d x r :=
  (secBlocksAt_spec h s r).2.1 b

/-- each block once (a block belongs to one interval) -/
theorem C05_section_on_nodup (d : D) (s : Nat) (r : Rng) (h : DInv d) : (secBlocksOn d s r).2.Nodup :=
  (secBlocksOn_spec h s r).2.2

theorem C05_section_at_nodup (d : D) (s : Nat) (r : Rng) (h : DInv d) : (secBlocksAt d s r).2.Nodup :=
  (secBlocksAt_spec h s r).2.2

/-- the sandwich (what lies between the two sides: head of `C05Must.lean`), upper side: nothing but
qualifying blocks of the section's intervals -/
theorem C05_section_on_sound (d : D) (s : Nat) (r : Rng) (h : DInv d) (b : Nat)
    (hb : b ∈ (secBlocksOn d s r).2) :
    ∃ y ∈ d.bisOf s, b ∈ scanBlocksOn d y.id r := by
  rcases ((secBlocksOn_spec h s r).2.1 b).1 hb with ⟨_, x, hx, hbx⟩
  rcases mem_scanBisOn.1 hx with ⟨y, hy, hys, rfl, _⟩
  exact ⟨y, mem_bisOf.2 ⟨hy, hys⟩, hbx⟩

theorem C05_section_at_sound (d : D) (s : Nat) (r : Rng) (h : DInv d) (b : Nat)
    (hb : b ∈ (secBlocksAt d s r).2) :
    ∃ y ∈ d.bisOf s, b ∈ scanBlocksAt d y.id r := by
  rcases ((secBlocksAt_spec h s r).2.1 b).1 hb with ⟨_, x, hx, hbx⟩
  rcases mem_scanBisOn.1 hx with ⟨y, hy, hys, rfl, _⟩
  exact ⟨y, mem_bisOf.2 ⟨hy, hys⟩, hbx⟩

/-- the sandwich, lower side: a qualifying block whose interval is itself 'on'
the query (in particular: a block inside its interval's declared extent) is reported -/
theorem C05_section_on_complete (d : D) (s : Nat) (r : Rng) (h : DInv d) (hs : (d.sec? s).isSome)
    (x b : Nat) (hx : x ∈ scanBisOn d s r) (hb : b ∈ scanBlocksOn d x r) :
    b ∈ (secBlocksOn d s r).2 :=
  (C05_section_on d s r h hs b).2 ⟨x, hx, hb⟩

theorem C05_section_at_complete (d : D) (s : Nat) (r : Rng) (h : DInv d) (hs : (d.sec? s).isSome)
    (x b : Nat) (hx : x ∈ scanBisOn d s r) (hb : b ∈ scanBlocksAt d x r) :
    b ∈ (secBlocksAt d s r).2 :=
  (C05_section_at d s r h hs b).2 ⟨x, hx, hb⟩

/-- a block that lies within its interval's declared extent and is 'on' the
query makes its interval 'on' the query, so it is always reported -/
theorem C05_section_on_inside (d : D) (s : Nat) (r : Rng) (h : DInv d) (hs : (d.sec? s).isSome)
    (y : BI) (blk : Blk) (hy : y ∈ d.bisOf s) (hblk : blk ∈ d.blocksOf y.id)
    (hin : blk.offset + blk.size ≤ y.size) (hb : blk.id ∈ scanBlocksOn d y.id r) :
    blk.id ∈ (secBlocksOn d s r).2 := by
  obtain ⟨a, ha, hc⟩ := (scan_of_blocksOf h hy hblk).1 (mem_scanBlocksOn.1 hb)
  exact C05_section_on_complete d s r h hs y.id blk.id
    ((mem_scanBisOn_of_bisOf h hy r).2 ⟨a, ha, by omega⟩) hb

example : (∀ b, b ∈ (biBlocksOn exD 10 ⟨100, 107, 1⟩).2 ↔ b ∈ scanBlocksOn exD 10 ⟨100, 107, 1⟩) :=
  (C05_on exD 10 ⟨100, 107, 1⟩ exD_inv).1
example : (biBlocksOnOffset exD 10 ⟨0, 7, 1⟩).2 = [2, 1] ∧ scanBlocksOnOffset exD 10 ⟨0, 7, 1⟩ = [1, 2] := by
  rw [exD_val]; decide
/-- the zero-sized block 3 is found by 'at', not by 'on' -/
example : (biBlocksAtOffset exD 10 ⟨6, 7, 1⟩).2 = [3] ∧ (biBlocksOnOffset exD 10 ⟨6, 7, 1⟩).2 = [2, 1] := by
  rw [exD_val]; decide
/-- `C05_on_offset` needs the interval to exist -/
example : (biBlocksOnOffset (blkMove exD 1 (some 99) true) 99 ⟨0, 100, 1⟩).2 = [] ∧
    scanBlocksOnOffset (blkMove exD 1 (some 99) true) 99 ⟨0, 100, 1⟩ = [1] := by rw [exD_val]; decide

end Gtirb.Index
