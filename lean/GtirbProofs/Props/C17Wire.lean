import GtirbProofs.Props.C01Wire
import GtirbProofs.Props.C17Bytes
/-! C17 on files, with the protobuf layer instantiated by the wire model (`Pb.parseMIR`,
`Pb.serMIR`): the positive clause (every saved file is accepted) and the inversion of an
accepted file down to its wire-level field list. -/
namespace Gtirb.Msg
open Gtirb Gtirb.Pb

/-- every file written by save for a self-contained IR is accepted by load -/
theorem C17_accepts_saved_file (v : IRV) (h : wfir v = true) (hw : wfW (toMsg v) = true) :
    ∃ v', loadBytes parseMIR (saveBytes serMIR v) = .ok v' :=
  ⟨v, C01_roundtrip_bytes v h hw⟩

/-- what an accepted file looks like, wire format included: the header, then a body that is
a sequence of well-delimited fields (`decodeW`), which reads as a message (`parseIRW`) that
the value-level reader accepts with the same result -/
theorem C17_accepted_file_inv (bs : Bytes) (v : IRV) (h : loadBytes parseMIR bs = .ok v) :
    bs.take 5 = Generated.magic ∧ (bs.drop 7).take 1 = [UInt8.ofNat Generated.protobufVersion]
      ∧ ∃ w m, decodeW (bs.drop 8) = some w ∧ parseIRW w = some m ∧ fromMsg m = .ok v := by
  obtain ⟨h1, h2, m, hp, hm⟩ := C17_accepted_bytes_inv parseMIR bs v h
  refine ⟨h1, h2, ?_⟩
  unfold parseMIR asMsg at hp
  split at hp
  · next w hw => exact ⟨w, m, hw, hp, hm⟩
  · cases hp

/-- a body that is not a well-delimited field sequence (truncated inside a field, a length
running past the end, a group, field number 0) is rejected, whatever the header -/
theorem C17_malformed_wire_rejected (bs : Bytes) (h : decodeW (bs.drop 8) = none) :
    ∀ v, loadBytes parseMIR bs ≠ .ok v := by
  intro v hv
  obtain ⟨_, _, w, _, hw, _, _⟩ := C17_accepted_file_inv bs v hv
  rw [h] at hw
  cases hw

/-- every byte string has an outcome (`loadBytes parseMIR` is a total Lean function of the bytes;
this states the case split) -/
theorem C17_file_total (bs : Bytes) :
    (∃ e, loadBytes parseMIR bs = .error e) ∨ (∃ v, loadBytes parseMIR bs = .ok v) :=
  (C17_total_bytes parseMIR bs).symm

end Gtirb.Msg
