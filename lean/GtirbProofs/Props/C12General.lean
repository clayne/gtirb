import GtirbModel.IndexKinds
import GtirbProofs.Props.C06Sections
import GtirbProofs.Props.C05Kinds
/-! C12, composed: schedules of ARBITRARY lookups, every lookup also as the final
query, histories that start from the empty state.

`C12_schedule` (Props/C12.lean) quantifies over `Act`, whose lookups are the nine
constructors of `Query`. Here

* a lookup step is any state transformer that keeps the invariant and the
  structure (`Lookup`); the module / IR chains (`scopeLookup...`), the section
  scans `sections_on/at` (`sectionsLookup...`), the `code_/data_` variants
  (`scopeKindLookup`), the nine queries (`queryLookup`; the section-level
  `symbolic_expressions_at` calls `byte_intervals_on`, i.e. it is
  `queryLookup (.sbison s r)`) and any sequence of lookups (`Lookup.seq`) are
  instances;
* a structural step is an `EditC` (GtirbModel/IndexKinds.lean): one of the four
  edits of `Edit` or the creation of a block / interval / section. Creation of
  an id that is already in use does nothing, so the invariant is kept without
  any side condition and every history from the empty state `{}` is well formed
  (`C12_reachableG`, `C12_reachable`). No "created inside an existing interval"
  condition is needed: the constructors of the code create the node detached
  and then attach it through the parent setter (block.py:84-88,
  byteinterval.py:172-185, section.py:110-118), which is `newBlk` followed by
  `blkMove` (`newBI` ... `biMove`) here;
* the final observation is any of the nine queries, a module / IR chain, a
  section scan or a `code_/data_` variant.

`C12_schedule_none` / `C12_schedule_noneG` are the property's sentence verbatim. -/
namespace Gtirb.Index

theorem not_mem_ids_of_find?_none {α : Type} (key : α → Nat) {l : List α} {i : Nat}
    (h : ¬ (l.find? (fun y => key y == i)).isSome) : i ∉ l.map key := fun hm =>
  let ⟨a, ha, hk⟩ := List.mem_map.1 hm
  (kfind_none key).1 (Option.not_isSome_iff_eq_none.1 h) a ha hk

theorem applyEditC_inv (d : D) (e : EditC) (h : DInv d) : DInv (applyEditC d e) := by
  cases e with
  | base e => exact C12_edit_inv d e h
  | newBlk i c o z =>
    simp only [applyEditC, newBlk]
    split
    · exact h
    · rename_i hn
      exact C12_add_blk d h i c o z (not_mem_ids_of_find?_none Blk.id hn)
  | newBI i a z =>
    simp only [applyEditC, newBI]
    split
    · exact h
    · rename_i hn
      exact C12_add_bi d h i a z (not_mem_ids_of_find?_none BI.id hn)
  | newSec i =>
    simp only [applyEditC, newSec]
    split
    · exact h
    · rename_i hn
      exact C12_add_sec d h i (not_mem_ids_of_find?_none Sec.id hn)

theorem applyEditC_strip_congr {d d' : D} (e : EditC) (h : strip d = strip d') :
    strip (applyEditC d e) = strip (applyEditC d' e) := by
  cases e with
  | base e => exact C12_edit_strip _ _ e h
  | _ =>
    -- a creation appends one record when the id is free; both are read off the structure
    simp only [applyEditC, newBlk, newBI, newSec, blk?_of_strip h, bi?_isSome_of_strip h, sec?_of_strip h]
    split
    · exact h
    · rw [strip_eq_iff] at h ⊢
      simp only [List.map_append, h.1, h.2.1, h.2.2, and_self]

/-- a lookup step of a history: whatever it does to the lazy state, it keeps
the invariant and the structure. (The answer is thrown away.) -/
structure Lookup where
  run : D → D
  keeps : ∀ d, DInv d → DInv (run d) ∧ strip (run d) = strip d

/-- a step of a general history: a structural step (edit or creation), or a lookup -/
inductive ActG where
  | edit (e : EditC)
  | look (l : Lookup)

def execG (d : D) (acts : List ActG) : D :=
  acts.foldl (fun d a => match a with | .edit e => applyEditC d e | .look l => l.run d) d

def editsOfG (acts : List ActG) : List EditC :=
  acts.filterMap fun a => match a with | .edit e => some e | .look _ => none

theorem execG_nil (d : D) : execG d [] = d := rfl

theorem execG_spec (as : List ActG) (d d' : D) (h : DInv d) (hs : strip d = strip d') :
    DInv (execG d as) ∧ strip (execG d as) = strip ((editsOfG as).foldl applyEditC d') :=
  hist_spec applyEditC_inv applyEditC_strip_congr
    (fun d a e he => by cases a <;> cases he; rfl)
    (fun d a he hd => by
      cases a with
      | edit e => cases he
      | look l => exact l.keeps d hd) as d d' h hs

theorem C12_execG_inv (d0 : D) (h0 : DInv d0) (a : List ActG) : DInv (execG d0 a) :=
  (execG_spec a d0 d0 h0 rfl).1

theorem C12_execG_strip (d0 : D) (h0 : DInv d0) (a : List ActG) :
    strip (execG d0 a) = strip ((editsOfG a).foldl applyEditC d0) :=
  (execG_spec a d0 d0 h0 rfl).2

/-- the core of every schedule theorem: two general histories with the same
structural steps end in well-formed states with the same structure -/
theorem C12_scheduleG_strip (d0 : D) (h0 : DInv d0) (a1 a2 : List ActG)
    (he : editsOfG a1 = editsOfG a2) :
    DInv (execG d0 a1) ∧ DInv (execG d0 a2) ∧ strip (execG d0 a1) = strip (execG d0 a2) := by
  have h1 := execG_spec a1 d0 d0 h0 rfl
  have h2 := execG_spec a2 d0 d0 h0 rfl
  exact ⟨h1.1, h2.1, by rw [h1.2, h2.2, he]⟩

/-- schedule independence with arbitrary lookups (and creations) interleaved:
the nine queries as final query -/
theorem C12_scheduleG (d0 : D) (h0 : DInv d0) (a1 a2 : List ActG) (he : editsOfG a1 = editsOfG a2)
    (q : Query) : sameAnswer (runQuery (execG d0 a1) q).2 (runQuery (execG d0 a2) q).2 := by
  obtain ⟨h1, h2, hs⟩ := C12_scheduleG_strip d0 h0 a1 a2 he
  exact C12_answer_of_strip _ _ q h1 h2 hs

/-- any chain of structure-preserving lookups -/
def chainLookup (f : D → Nat → D × List Nat)
    (hf : ∀ d x, DInv d → DInv (f d x).1 ∧ strip (f d x).1 = strip d) (xs : List Nat) : Lookup :=
  ⟨fun d => (chain f d xs).1, fun d h => C05_chain_inv_strip f hf d xs h⟩

/-- `Module.byte_blocks_on` / `IR.byte_blocks_on` over the sections `ss` -/
def scopeLookup (r : Rng) (ss : List Nat) : Lookup :=
  chainLookup (fun d s => secBlocksOn d s r) (secBlocksOn_keeps r) ss
/-- `Module.byte_blocks_at` / `IR.byte_blocks_at` -/
def scopeLookupAt (r : Rng) (ss : List Nat) : Lookup :=
  chainLookup (fun d s => secBlocksAt d s r) (secBlocksAt_keeps r) ss
/-- `Module.byte_intervals_on` / `IR.byte_intervals_on` -/
def scopeBisLookup (r : Rng) (ss : List Nat) : Lookup :=
  chainLookup (fun d s => secBisOn d s r) (secBisOn_keeps r) ss
/-- `Module.byte_intervals_at` / `IR.byte_intervals_at` -/
def scopeBisLookupAt (r : Rng) (ss : List Nat) : Lookup :=
  chainLookup (fun d s => secBisAt d s r) (secBisAt_keeps r) ss
/-- `Module.code_blocks_on` / `data_blocks_on` (filter inside the chain, as in the code) -/
def scopeKindLookup (code : Bool) (r : Rng) (ss : List Nat) : Lookup :=
  chainLookup (kinded (fun d s => secBlocksOn d s r) code) (kinded_keeps _ (secBlocksOn_keeps r) code) ss
/-- `Module.code_blocks_at` / `data_blocks_at` -/
def scopeKindLookupAt (code : Bool) (r : Rng) (ss : List Nat) : Lookup :=
  chainLookup (kinded (fun d s => secBlocksAt d s r) code) (kinded_keeps _ (secBlocksAt_keeps r) code) ss
/-- `Module.sections_on` / `IR.sections_on` -/
def sectionsLookup (r : Rng) (ss : List Nat) : Lookup :=
  ⟨fun d => (secsOn d ss r).1, fun d h => C06_sections_keep d ss r h⟩
/-- `Module.sections_at` / `IR.sections_at` -/
def sectionsLookupAt (r : Rng) (ss : List Nat) : Lookup :=
  ⟨fun d => (secsAt d ss r).1, fun d h => C06_sections_at_keep d ss r h⟩
/-- the nine lookups of `Query` (interval scope x4, `Section.byte_intervals_on/at`,
`Section.byte_blocks_on/at`, `Section.address/size`) -/
def queryLookup (q : Query) : Lookup := ⟨fun d => (runQuery d q).1, fun _ h => runQuery_inv_strip h q⟩
def Lookup.nop : Lookup := ⟨fun d => d, fun _ h => ⟨h, rfl⟩⟩
def Lookup.seq (l1 l2 : Lookup) : Lookup :=
  ⟨fun d => l2.run (l1.run d), fun d h =>
    ⟨(l2.keeps _ (l1.keeps d h).1).1, (l2.keeps _ (l1.keeps d h).1).2.trans (l1.keeps d h).2⟩⟩

def ActC.toG : ActC → ActG
  | .edit e => .edit e
  | .look q => .look (queryLookup q)

def Act.toG (a : Act) : ActG := a.toC.toG

theorem execC_eq_execG (acts : List ActC) (d : D) : execC d acts = execG d (acts.map ActC.toG) := by
  unfold execC execG
  rw [List.foldl_map]
  congr; funext d a; cases a <;> rfl

theorem exec_eq_execC (acts : List Act) (d : D) : exec d acts = execC d (acts.map Act.toC) := by
  unfold exec execC
  rw [List.foldl_map]
  congr; funext d a; cases a <;> rfl

theorem exec_eq_execG (acts : List Act) (d : D) : exec d acts = execG d (acts.map Act.toG) := by
  rw [exec_eq_execC, execC_eq_execG, List.map_map]; rfl

theorem editsOfC_eq (acts : List ActC) : editsOfG (acts.map ActC.toG) = editsOfC acts := by
  unfold editsOfG editsOfC
  rw [List.filterMap_map]
  congr; funext a; cases a <;> rfl

theorem editsOf_eq (acts : List Act) : editsOfG (acts.map Act.toG) = (editsOf acts).map EditC.base := by
  unfold editsOfG editsOf
  rw [List.filterMap_map, List.map_filterMap]
  congr; funext a; cases a <;> rfl

theorem editsOfG_map_edit (es : List EditC) : editsOfG (es.map .edit) = es := by
  unfold editsOfG
  rw [List.filterMap_map]
  exact List.filterMap_some

theorem editsOf_map_edit (es : List Edit) : editsOf (es.map .edit) = es := by
  unfold editsOf
  rw [List.filterMap_map]
  exact List.filterMap_some

theorem execG_map_edit (es : List EditC) (d : D) : execG d (es.map .edit) = es.foldl applyEditC d := by
  unfold execG
  rw [List.foldl_map]

/-- every general history from the empty state - creations, edits, arbitrary
lookups, in any order - ends in a well-formed state: `DInv` is not an assumption
about reachable states but a fact -/
theorem C12_reachableG (acts : List ActG) : DInv (execG {} acts) :=
  C12_execG_inv {} C12_init acts

/-- the same for the data-only histories of the model (`ActC`: the nine `Query` lookups) -/
theorem C12_reachable (acts : List ActC) : DInv (execC {} acts) := by
  rw [execC_eq_execG]; exact C12_reachableG _

theorem C12_execC_inv (d0 : D) (h0 : DInv d0) (a : List ActC) : DInv (execC d0 a) := by
  rw [execC_eq_execG]; exact C12_execG_inv d0 h0 _

/-- schedule independence for histories with creation -/
theorem C12_scheduleC (d0 : D) (h0 : DInv d0) (a1 a2 : List ActC) (he : editsOfC a1 = editsOfC a2)
    (q : Query) : sameAnswer (runQuery (execC d0 a1) q).2 (runQuery (execC d0 a2) q).2 := by
  rw [execC_eq_execG, execC_eq_execG]
  exact C12_scheduleG d0 h0 _ _ (by rw [editsOfC_eq, editsOfC_eq, he]) q

theorem chain_answer_of_strip (f : D → Nat → D × List Nat)
    (hinv : ∀ d x, DInv d → DInv (f d x).1 ∧ strip (f d x).1 = strip d)
    (hans : ∀ d d' x, DInv d → DInv d' → strip d = strip d' → ∀ b, b ∈ (f d x).2 ↔ b ∈ (f d' x).2)
    {d d' : D} (h : DInv d ∧ DInv d' ∧ strip d = strip d') (xs : List Nat) (b : Nat) :
    b ∈ (chain f d xs).2 ↔ b ∈ (chain f d' xs).2 := by
  rw [C05_chain_mem f hinv hans d xs h.1 b, C05_chain_mem f hinv hans d' xs h.2.1 b]
  exact exists_mem_congr fun x _ => hans d d' x h.1 h.2.1 h.2.2 b

/-- generic: any chain of structure-determined lookups as final query of two
general schedules -/
theorem C12_schedule_chainG (f : D → Nat → D × List Nat)
    (hinv : ∀ d x, DInv d → DInv (f d x).1 ∧ strip (f d x).1 = strip d)
    (hans : ∀ d d' x, DInv d → DInv d' → strip d = strip d' → ∀ b, b ∈ (f d x).2 ↔ b ∈ (f d' x).2)
    (d0 : D) (h0 : DInv d0) (a1 a2 : List ActG) (he : editsOfG a1 = editsOfG a2)
    (xs : List Nat) (b : Nat) :
    b ∈ (chain f (execG d0 a1) xs).2 ↔ b ∈ (chain f (execG d0 a2) xs).2 :=
  chain_answer_of_strip f hinv hans (C12_scheduleG_strip d0 h0 a1 a2 he) xs b

/-- `Module/IR.byte_blocks_on` as final query -/
theorem C12_schedule_scopeG (d0 : D) (h0 : DInv d0) (a1 a2 : List ActG) (he : editsOfG a1 = editsOfG a2)
    (ss : List Nat) (r : Rng) (b : Nat) :
    b ∈ (chain (fun d s => secBlocksOn d s r) (execG d0 a1) ss).2 ↔
    b ∈ (chain (fun d s => secBlocksOn d s r) (execG d0 a2) ss).2 :=
  C12_schedule_chainG _ (secBlocksOn_keeps r) (secBlocksOn_congr r) d0 h0 a1 a2 he ss b

/-- `Module/IR.byte_blocks_at` as final query -/
theorem C12_schedule_scopeG_at (d0 : D) (h0 : DInv d0) (a1 a2 : List ActG) (he : editsOfG a1 = editsOfG a2)
    (ss : List Nat) (r : Rng) (b : Nat) :
    b ∈ (chain (fun d s => secBlocksAt d s r) (execG d0 a1) ss).2 ↔
    b ∈ (chain (fun d s => secBlocksAt d s r) (execG d0 a2) ss).2 :=
  C12_schedule_chainG _ (secBlocksAt_keeps r) (secBlocksAt_congr r) d0 h0 a1 a2 he ss b

/-- `Module/IR.byte_intervals_on` as final query -/
theorem C12_schedule_scopeG_bis_on (d0 : D) (h0 : DInv d0) (a1 a2 : List ActG)
    (he : editsOfG a1 = editsOfG a2) (ss : List Nat) (r : Rng) (x : Nat) :
    x ∈ (chain (fun d s => secBisOn d s r) (execG d0 a1) ss).2 ↔
    x ∈ (chain (fun d s => secBisOn d s r) (execG d0 a2) ss).2 :=
  C12_schedule_chainG _ (secBisOn_keeps r) (secBisOn_congr r) d0 h0 a1 a2 he ss x

/-- `Module/IR.byte_intervals_at` as final query -/
theorem C12_schedule_scopeG_bis_at (d0 : D) (h0 : DInv d0) (a1 a2 : List ActG)
    (he : editsOfG a1 = editsOfG a2) (ss : List Nat) (r : Rng) (x : Nat) :
    x ∈ (chain (fun d s => secBisAt d s r) (execG d0 a1) ss).2 ↔
    x ∈ (chain (fun d s => secBisAt d s r) (execG d0 a2) ss).2 :=
  C12_schedule_chainG _ (secBisAt_keeps r) (secBisAt_congr r) d0 h0 a1 a2 he ss x

/-- the `code_/data_` variant of ANY id-list answer that is schedule independent
is schedule independent (the filter reads the structure only) -/
theorem C12_schedule_kindG (d0 : D) (h0 : DInv d0) (a1 a2 : List ActG) (he : editsOfG a1 = editsOfG a2)
    (code : Bool) (l1 l2 : List Nat) (hl : ∀ b, b ∈ l1 ↔ b ∈ l2) (b : Nat) :
    b ∈ kindOnly (execG d0 a1) code l1 ↔ b ∈ kindOnly (execG d0 a2) code l2 := by
  obtain ⟨_, _, hs⟩ := C12_scheduleG_strip d0 h0 a1 a2 he
  rw [C05_kind_of_strip hs, mem_kindOnly_raw, mem_kindOnly_raw, hl b]

/-- e.g. `Module/IR.code_blocks_on` / `data_blocks_on` as final query -/
theorem C12_schedule_scopeG_kind (d0 : D) (h0 : DInv d0) (a1 a2 : List ActG)
    (he : editsOfG a1 = editsOfG a2) (code : Bool) (ss : List Nat) (r : Rng) (b : Nat) :
    b ∈ kindOnly (execG d0 a1) code (chain (fun d s => secBlocksOn d s r) (execG d0 a1) ss).2 ↔
    b ∈ kindOnly (execG d0 a2) code (chain (fun d s => secBlocksOn d s r) (execG d0 a2) ss).2 :=
  C12_schedule_kindG d0 h0 a1 a2 he code _ _ (C12_schedule_scopeG d0 h0 a1 a2 he ss r) b

/-- `sections_on` / `sections_at` as final query: list equality, not just sets -/
theorem C12_schedule_sectionsG (d0 : D) (h0 : DInv d0) (a1 a2 : List ActG)
    (he : editsOfG a1 = editsOfG a2) (ss : List Nat) (r : Rng) :
    (secsOn (execG d0 a1) ss r).2 = (secsOn (execG d0 a2) ss r).2 ∧
    (secsAt (execG d0 a1) ss r).2 = (secsAt (execG d0 a2) ss r).2 :=
  secs_answer_of_strip (C12_scheduleG_strip d0 h0 a1 a2 he) ss r

theorem C12_schedule_strip (d0 : D) (h0 : DInv d0) (a1 a2 : List Act) (he : editsOf a1 = editsOf a2) :
    DInv (exec d0 a1) ∧ DInv (exec d0 a2) ∧ strip (exec d0 a1) = strip (exec d0 a2) := by
  rw [exec_eq_execG, exec_eq_execG]
  exact C12_scheduleG_strip d0 h0 _ _ (by rw [editsOf_eq, editsOf_eq, he])

/-- scope lookups as final queries of two schedules: `byte_blocks_on` at module / IR scope ... -/
theorem C12_schedule_scope (d0 : D) (h0 : DInv d0) (a1 a2 : List Act) (he : editsOf a1 = editsOf a2)
    (ss : List Nat) (r : Rng) (b : Nat) :
    b ∈ (chain (fun d s => secBlocksOn d s r) (exec d0 a1) ss).2 ↔
    b ∈ (chain (fun d s => secBlocksOn d s r) (exec d0 a2) ss).2 :=
  chain_answer_of_strip _ (secBlocksOn_keeps r) (secBlocksOn_congr r) (C12_schedule_strip d0 h0 a1 a2 he) ss b

/-- ... `byte_blocks_at` ... -/
theorem C12_schedule_scope_at (d0 : D) (h0 : DInv d0) (a1 a2 : List Act) (he : editsOf a1 = editsOf a2)
    (ss : List Nat) (r : Rng) (b : Nat) :
    b ∈ (chain (fun d s => secBlocksAt d s r) (exec d0 a1) ss).2 ↔
    b ∈ (chain (fun d s => secBlocksAt d s r) (exec d0 a2) ss).2 :=
  chain_answer_of_strip _ (secBlocksAt_keeps r) (secBlocksAt_congr r) (C12_schedule_strip d0 h0 a1 a2 he) ss b

/-- ... `byte_intervals_on` ... -/
theorem C12_schedule_scope_bis_on (d0 : D) (h0 : DInv d0) (a1 a2 : List Act) (he : editsOf a1 = editsOf a2)
    (ss : List Nat) (r : Rng) (x : Nat) :
    x ∈ (chain (fun d s => secBisOn d s r) (exec d0 a1) ss).2 ↔
    x ∈ (chain (fun d s => secBisOn d s r) (exec d0 a2) ss).2 :=
  chain_answer_of_strip _ (secBisOn_keeps r) (secBisOn_congr r) (C12_schedule_strip d0 h0 a1 a2 he) ss x

/-- ... `byte_intervals_at` -/
theorem C12_schedule_scope_bis_at (d0 : D) (h0 : DInv d0) (a1 a2 : List Act) (he : editsOf a1 = editsOf a2)
    (ss : List Nat) (r : Rng) (x : Nat) :
    x ∈ (chain (fun d s => secBisAt d s r) (exec d0 a1) ss).2 ↔
    x ∈ (chain (fun d s => secBisAt d s r) (exec d0 a2) ss).2 :=
  chain_answer_of_strip _ (secBisAt_keeps r) (secBisAt_congr r) (C12_schedule_strip d0 h0 a1 a2 he) ss x

theorem C12_schedule_sections (d0 : D) (h0 : DInv d0) (a1 a2 : List Act) (he : editsOf a1 = editsOf a2)
    (ss : List Nat) (r : Rng) :
    (secsOn (exec d0 a1) ss r).2 = (secsOn (exec d0 a2) ss r).2 ∧
    (secsAt (exec d0 a1) ss r).2 = (secsAt (exec d0 a2) ss r).2 :=
  secs_answer_of_strip (C12_schedule_strip d0 h0 a1 a2 he) ss r

/-- any schedule of lookups gives the same final answers as no lookups at all
(`(editsOf a).foldl applyEdit d0`: the edits of the history applied with no
lookup in between, so every index that was stale in `d0` is still stale and has
all the events of the history pending) -/
theorem C12_schedule_none (d0 : D) (h0 : DInv d0) (a : List Act) (q : Query) :
    sameAnswer (runQuery (exec d0 a) q).2 (runQuery ((editsOf a).foldl applyEdit d0) q).2 := by
  -- the edits alone, as a history, are one of the schedules with these edits
  have e : exec d0 ((editsOf a).map .edit) = (editsOf a).foldl applyEdit d0 := by
    unfold exec
    rw [List.foldl_map]
  rw [← e]
  exact C12_schedule d0 h0 a _ (editsOf_map_edit _).symm q

/-- the same for general histories (arbitrary lookups, creation) -/
theorem C12_schedule_noneG (d0 : D) (h0 : DInv d0) (a : List ActG) (q : Query) :
    sameAnswer (runQuery (execG d0 a) q).2 (runQuery ((editsOfG a).foldl applyEditC d0) q).2 := by
  rw [← execG_map_edit]
  exact C12_scheduleG d0 h0 a _ (editsOfG_map_edit _).symm q

/-- from the empty state, every final query: nine queries, scope chains, section scans -/
theorem C12_schedule_noneG_all (a : List ActG) :
    (∀ q, sameAnswer (runQuery (execG {} a) q).2 (runQuery ((editsOfG a).foldl applyEditC {}) q).2) ∧
    (∀ ss r b, (b ∈ (chain (fun d s => secBlocksOn d s r) (execG {} a) ss).2 ↔
        b ∈ (chain (fun d s => secBlocksOn d s r) ((editsOfG a).foldl applyEditC {}) ss).2) ∧
      (b ∈ (chain (fun d s => secBlocksAt d s r) (execG {} a) ss).2 ↔
        b ∈ (chain (fun d s => secBlocksAt d s r) ((editsOfG a).foldl applyEditC {}) ss).2) ∧
      (b ∈ (chain (fun d s => secBisOn d s r) (execG {} a) ss).2 ↔
        b ∈ (chain (fun d s => secBisOn d s r) ((editsOfG a).foldl applyEditC {}) ss).2) ∧
      (b ∈ (chain (fun d s => secBisAt d s r) (execG {} a) ss).2 ↔
        b ∈ (chain (fun d s => secBisAt d s r) ((editsOfG a).foldl applyEditC {}) ss).2)) ∧
    (∀ ss r, (secsOn (execG {} a) ss r).2 = (secsOn ((editsOfG a).foldl applyEditC {}) ss r).2 ∧
      (secsAt (execG {} a) ss r).2 = (secsAt ((editsOfG a).foldl applyEditC {}) ss r).2) := by
  rw [← execG_map_edit]
  have he : editsOfG a = editsOfG ((editsOfG a).map .edit) := (editsOfG_map_edit _).symm
  exact ⟨C12_scheduleG {} C12_init a _ he, fun ss r b =>
    ⟨C12_schedule_scopeG {} C12_init a _ he ss r b, C12_schedule_scopeG_at {} C12_init a _ he ss r b,
      C12_schedule_scopeG_bis_on {} C12_init a _ he ss r b,
      C12_schedule_scopeG_bis_at {} C12_init a _ he ss r b⟩,
    C12_schedule_sectionsG {} C12_init a _ he⟩

/-- the structure of `exS` (two sections, three intervals, five blocks) built
from NOTHING: creations, attachments, attribute edits, with lookups of every
kind in between (a module-scope chain, a section scan, a `code_` variant, one of
the nine queries) -/
def exGActs : List ActG :=
  [.edit (.newSec 20), .edit (.newSec 21),
   .edit (.newBI 10 (some 100) 32), .edit (.base (.biMove 10 (some 20) true)),
   .look (sectionsLookup ⟨0, 1000, 1⟩ [20, 21]),
   .edit (.newBlk 1 true 0 8), .edit (.base (.blkMove 1 (some 10) true)),
   .edit (.newBlk 2 false 4 8), .edit (.base (.blkMove 2 (some 10) true)),
   .look (scopeLookup ⟨0, 1000, 1⟩ [20, 21]),
   .edit (.newBI 11 (some 200) 16), .edit (.base (.biMove 11 (some 21) true)),
   .edit (.newBlk 3 true 0 4), .edit (.base (.blkMove 3 (some 11) true)),
   .edit (.newBlk 4 true 2 0), .edit (.base (.blkMove 4 (some 11) true)),
   .look (scopeKindLookup true ⟨0, 1000, 1⟩ [20, 21]),
   .edit (.newBI 12 none 16), .edit (.base (.biMove 12 (some 21) true)),
   .edit (.newBlk 5 false 0 4), .edit (.base (.blkMove 5 (some 12) true)),
   .look (queryLookup (.sbon 20 ⟨0, 1000, 1⟩)),
   .edit (.base (.blkSet 1 1 8)), .edit (.base (.biSet 11 (some 204) 16)),
   .edit (.newBlk 1 false 99 99)]   -- id in use: nothing happens

/-- the same structural steps, no lookup at all -/
def exGActs' : List ActG := (editsOfG exGActs).map .edit

def exG : D := execG {} exGActs
def exG' : D := execG {} exGActs'

theorem exG_inv : DInv exG := C12_reachableG exGActs

/-- the lazy states differ (built trees with pending events vs. no tree at all) ... -/
example : (exG.sec? 20).map (fun s => (s.lz.tree.isSome, s.lz.events.length)) = some (true, 0) ∧
    (exG'.sec? 20).map (fun s => (s.lz.tree.isSome, s.lz.events.length)) = some (false, 1) ∧
    (exG.sec? 21).map (fun s => (s.lz.tree.isSome, s.lz.events.length)) = some (true, 2) ∧
    (exG'.sec? 21).map (fun s => (s.lz.tree.isSome, s.lz.events.length)) = some (false, 3) ∧
    (exG.bi? 10).map (fun x => (x.lz.tree.isSome, x.lz.events.length)) = some (true, 2) ∧
    (exG'.bi? 10).map (fun x => (x.lz.tree.isSome, x.lz.events.length)) = some (false, 4) := by
  decide +kernel

/-- ... the structure is that of `exS`, and the answers are those of `exS` -/
example : strip exG = strip exS ∧ strip exG' = strip exS := by
  have hG := (C12_scheduleG_strip {} C12_init exGActs exGActs' (editsOfG_map_edit _).symm).2.2
  obtain ⟨_, hS, hG'⟩ : ∃ l, strip exS = l ∧ strip exG' = l :=
    ⟨_, congrArg strip exS_val, rfl⟩
  exact ⟨hG.trans (hG'.trans hS.symm), hG'.trans hS.symm⟩
set_option maxRecDepth 8000 in
example : (chain (fun d s => secBlocksOn d s ⟨0, 1000, 1⟩) exG [20, 21]).2 = [1, 2, 3] ∧
    (chain (fun d s => secBlocksOn d s ⟨0, 1000, 1⟩) exG' [20, 21]).2 = [1, 2, 3] ∧
    (secsOn exG [20, 21] ⟨0, 1000, 1⟩).2 = [20] ∧ (secsOn exG' [20, 21] ⟨0, 1000, 1⟩).2 = [20] := by
  decide +kernel

example (b : Nat) : b ∈ (chain (fun d s => secBlocksOn d s ⟨0, 1000, 1⟩) exG [20, 21]).2 ↔
    b ∈ (chain (fun d s => secBlocksOn d s ⟨0, 1000, 1⟩) exG' [20, 21]).2 :=
  C12_schedule_scopeG {} C12_init exGActs exGActs' (editsOfG_map_edit _).symm [20, 21] ⟨0, 1000, 1⟩ b

example : sameAnswer (runQuery exG (.bat 10 ⟨100, 107, 1⟩)).2 (runQuery exG' (.bat 10 ⟨100, 107, 1⟩)).2 :=
  C12_scheduleG {} C12_init exGActs exGActs' (editsOfG_map_edit _).symm (.bat 10 ⟨100, 107, 1⟩)

example : (secsOn exG [20, 21] ⟨0, 1000, 1⟩).2 = (secsOn exG' [20, 21] ⟨0, 1000, 1⟩).2 :=
  (C12_schedule_sectionsG {} C12_init exGActs exGActs' (editsOfG_map_edit _).symm [20, 21] ⟨0, 1000, 1⟩).1

/-- the histories of `Act` of Props/C05Scopes.lean: `exSActs` against its edits alone -/
example (b : Nat) : b ∈ (chain (fun d s => secBlocksAt d s ⟨0, 1000, 1⟩) exS [20, 21]).2 ↔
    b ∈ (chain (fun d s => secBlocksAt d s ⟨0, 1000, 1⟩)
      (exec exS0 ((editsOf exSActs).map .edit)) [20, 21]).2 :=
  C12_schedule_scope_at exS0 exS0_inv exSActs ((editsOf exSActs).map .edit) (editsOf_map_edit _).symm [20, 21] ⟨0, 1000, 1⟩ b

example : (secsOn exS [20, 21] ⟨0, 1000, 1⟩).2 =
    (secsOn (exec exS0 ((editsOf exSActs).map .edit)) [20, 21] ⟨0, 1000, 1⟩).2 :=
  (C12_schedule_sections exS0 exS0_inv exSActs ((editsOf exSActs).map .edit) (editsOf_map_edit _).symm [20, 21] ⟨0, 1000, 1⟩).1

example : sameAnswer (runQuery exS (.sbat 21 ⟨200, 210, 1⟩)).2
    (runQuery ((editsOf exSActs).foldl applyEdit exS0) (.sbat 21 ⟨200, 210, 1⟩)).2 :=
  C12_schedule_none exS0 exS0_inv exSActs (.sbat 21 ⟨200, 210, 1⟩)

/-- the data-only histories with creation -/
def exCActs : List ActC :=
  [.edit (.newSec 20), .edit (.newBI 10 (some 100) 32), .edit (.base (.biMove 10 (some 20) true)),
   .look (.ext 20), .edit (.newBlk 1 true 0 8), .edit (.base (.blkMove 1 (some 10) true)),
   .look (.sbon 20 ⟨0, 1000, 1⟩), .edit (.newBlk 2 false 4 8), .edit (.base (.blkMove 2 (some 10) true))]

example : DInv (execC {} exCActs) := C12_reachable exCActs
example : (secBlocksOn (execC {} exCActs) 20 ⟨0, 1000, 1⟩).2 = [1, 2] ∧
    kindOnly (execC {} exCActs) false (secBlocksOn (execC {} exCActs) 20 ⟨0, 1000, 1⟩).2 = [2] := by
  decide

/-- creation of an id that is in use is a no-op -/
example : newBlk exD 1 false 99 99 = exD ∧ (newBlk exD 7 false 99 99).blks.length = 4 := by
  constructor
  · rfl
  · decide

end Gtirb.Index
