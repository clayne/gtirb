import GtirbProofs.Props.C03Full
import GtirbProofs.Props.C10Full
import GtirbProofs.Props.C16
/-! What the history theorems of C03 / C04 / C10 / C16 say about the *code*: no roll-back.

`run` (ForestDefs.lean) skips an operation that raises and keeps the state of before the call. That
is what the Python code does for the built-ins' own guard exceptions (`KeyError` of `remove`/`pop`,
`ValueError`, `IndexError`: raised before any mutation, `C16_builtin_errors_pure`; `badOp` is an
ill-formed test input, never sent to the code). It is **not** what the code does for

* `Exc.cacheKeyError`, the `KeyError` of `del cache[uuid]`: raised in the middle of `discard` /
  the `_remove` hook, after the back-pointer and the indexes were already changed;
* `Exc.outside`, the known finding K1 (`modules[k] = v` with `v` elsewhere in the same list): the
  code damages the list, the model does not follow.

So `C04_history`, `C10_history_full`, `C03_history_full` are statements about the code only for
histories in which no step fails with one of these two. Under the hypothesis of C03 (`DistinctAlongFine`)
the first never happens (`C03_history_no_keyerror`); `runStrict` stops (answers `none`) at the first
`cacheKeyError` / `outside` instead of rolling back, and the history theorems are restated over it.

Read together: either the history stays inside C03's quantifier and never hits K1 - then all three
invariants hold after every prefix (`C03_C04_C10_strict_prefixes`) - or the strict run stops at the
first such exception and nothing is claimed afterwards. -/
namespace Gtirb.Forest

theorem nr_run_append (g : G) (a b : List Op) : run g (a ++ b) = run (run g a) b :=
  run_append g a b

theorem nr_invs_at_cut (pre suf : List Op) (g : G) (hf : ForestInv g) (hc : CacheInv g)
    (hops : OpsOK g (pre ++ suf)) (hd : DistinctAlongFine g (pre ++ suf)) :
    ForestInv (run g pre) ∧ CacheInv (run g pre) ∧ OpsOK (run g pre) suf ∧
      DistinctAlongFine (run g pre) suf :=
  run_invariant (I := fun g ops => ForestInv g ∧ CacheInv g ∧ OpsOK g ops ∧ DistinctAlongFine g ops)
    (fun g op _ h => ⟨skipStep_cases h.1 fun g' hs => C04_step g g' op h.1 h.2.2.1.1 hs,
      C03_skipStep h.1 h.2.1 h.2.2.1.1 h.2.2.2, h.2.2.1.2, h.2.2.2.2.2⟩) pre ⟨hf, hc, hops, hd⟩

theorem nr_step_hyps (g : G) (hf : ForestInv g) (hc : CacheInv g) (ops : List Op) (hops : OpsOK g ops)
    (hd : DistinctAlongFine g ops) (pre : List Op) (op : Op) (hpre : pre ++ [op] <+: ops) :
    ForestInv (run g pre) ∧ CacheInv (run g pre) ∧ Distinct (run g pre) ∧ OpOK (run g pre) op ∧
      DistinctFine (run g pre) op := by
  obtain ⟨t, ht⟩ := hpre
  have hcut : ops = pre ++ (op :: t) := by rw [← ht]; simp
  subst hcut
  obtain ⟨h1, h2, h3, h4⟩ := nr_invs_at_cut pre (op :: t) g hf hc hops hd
  exact ⟨h1, h2, h4.1, h3.1, h4.2.1⟩

/-- from any start state that satisfies the invariants (e.g. a loaded IR) -/
theorem C03_history_no_keyerror_from (g : G) (hf : ForestInv g) (hc : CacheInv g) (ops : List Op)
    (hops : OpsOK g ops) (hd : DistinctAlongFine g ops) :
    ∀ pre op, pre ++ [op] <+: ops → step (run g pre) op ≠ .error .cacheKeyError := by
  intro pre op hpre
  obtain ⟨h1, h2, h3, h4, h5⟩ := nr_step_hyps g hf hc ops hops hd pre op hpre
  exact C03_no_cache_keyerror_fine _ op h1 h2 h3 h4 h5

/-- In a history of well-typed operations from the empty state during which UUIDs stay pairwise
distinct per IR at every moment, no operation fails with the `KeyError` of `del cache[uuid]`: the
one exception for which the model's "state unchanged" differs from the code never occurs. -/
theorem C03_history_no_keyerror (ops : List Op) (hops : OpsOK {} ops) (hd : DistinctAlongFine {} ops) :
    ∀ pre op, pre ++ [op] <+: ops → step (run {} pre) op ≠ .error .cacheKeyError :=
  C03_history_no_keyerror_from {} C04_init C03_init ops hops hd

theorem C16_history_skips_only_builtin_from (g : G) (hf : ForestInv g) (hc : CacheInv g) (ops : List Op)
    (hops : OpsOK g ops) (hd : DistinctAlongFine g ops)
    (hK1 : ∀ pre op, pre ++ [op] <+: ops → step (run g pre) op ≠ .error .outside) :
    ∀ pre op e, pre ++ [op] <+: ops → step (run g pre) op = .error e →
      e = .keyError ∨ e = .valueError ∨ e = .indexError ∨ e = .badOp := by
  intro pre op e hpre he
  cases e with
  | keyError => exact .inl rfl
  | valueError => exact .inr (.inl rfl)
  | indexError => exact .inr (.inr (.inl rfl))
  | badOp => exact .inr (.inr (.inr rfl))
  | outside => exact absurd he (hK1 pre op hpre)
  | cacheKeyError => exact absurd he (C03_history_no_keyerror_from g hf hc ops hops hd pre op hpre)

/-- Under C03's hypothesis and without the pattern of the known finding K1 (`hK1`; by
`C16_setItem_outside_iff` that is `modules[k] = v` with `v` at another position of the same list),
every operation that `run` skips failed with the built-in's own exception, raised by a guard before
any mutation (`C16_builtin_errors_pure`), or is an ill-formed test input (`badOp`). -/
theorem C16_history_skips_only_builtin (ops : List Op) (hops : OpsOK {} ops) (hd : DistinctAlongFine {} ops)
    (hK1 : ∀ pre op, pre ++ [op] <+: ops → step (run {} pre) op ≠ .error .outside) :
    ∀ pre op e, pre ++ [op] <+: ops → step (run {} pre) op = .error e →
      e = .keyError ∨ e = .valueError ∨ e = .indexError ∨ e = .badOp :=
  C16_history_skips_only_builtin_from {} C04_init C03_init ops hops hd hK1

/-! ### the strict runner: stop instead of rolling back -/

/-- the exceptions after which the code's state is *not* the state of before the call -/
def strictStops : Exc → Bool
  | .cacheKeyError | .outside => true
  | _ => false

/-- run a history as far as the model is faithful to the code: an operation failing with the
built-in's guard exception is skipped (state unchanged, as in the code); at the first
`cacheKeyError` / `outside` the run stops and there is no state to speak about -/
def runStrict : G → List Op → Option G
  | g, [] => some g
  | g, op :: ops =>
    match step g op with
    | .ok g' => runStrict g' ops
    | .error e => if strictStops e then none else runStrict g ops

theorem strictStops_eq_false {e : Exc} : strictStops e = false ↔
    (Except.error e : Except Exc G) ≠ .error .cacheKeyError ∧ (Except.error e : Except Exc G) ≠ .error .outside := by
  cases e <;> simp [strictStops]

theorem runStrict_eq_some_iff : ∀ (ops : List Op) (g g' : G), runStrict g ops = some g' ↔
    g' = run g ops ∧ ∀ pre op, pre ++ [op] <+: ops →
      step (run g pre) op ≠ .error .cacheKeyError ∧ step (run g pre) op ≠ .error .outside
  | [], g, g' => ⟨fun h => ⟨(Option.some.inj h).symm, fun pre op hp => absurd hp (by simp)⟩,
      fun h => by rw [h.1]; rfl⟩
  | op :: ops, g, g' => by
    rw [steps_cons (Q := fun g op => step g op ≠ .error .cacheKeyError ∧ step g op ≠ .error .outside),
      run_cons]
    unfold runStrict skipStep
    cases hs : step g op with
    | ok g1 =>
      simp only [runStrict_eq_some_iff ops g1 g', ne_eq, reduceCtorEq, not_false_eq_true, and_self, true_and]
    | error e =>
      cases hst : strictStops e with
      | true =>
        simp only [hst, if_true, reduceCtorEq, false_iff]
        rintro ⟨_, h, _⟩
        rw [strictStops_eq_false.2 h] at hst; cases hst
      | false =>
        simp only [hst, Bool.false_eq_true, if_false, runStrict_eq_some_iff ops g g']
        exact ⟨fun h => ⟨h.1, strictStops_eq_false.1 hst, h.2⟩, fun h => ⟨h.1, h.2.2⟩⟩

theorem runStrict_some (ops : List Op) (g g' : G) (h : runStrict g ops = some g') : g' = run g ops :=
  ((runStrict_eq_some_iff ops g g').1 h).1

theorem runStrict_eq_run (ops : List Op) (g : G)
    (hk : ∀ pre op, pre ++ [op] <+: ops → step (run g pre) op ≠ .error .cacheKeyError)
    (ho : ∀ pre op, pre ++ [op] <+: ops → step (run g pre) op ≠ .error .outside) :
    runStrict g ops = some (run g ops) :=
  (runStrict_eq_some_iff ops g _).2 ⟨rfl, fun pre op hp => ⟨hk pre op hp, ho pre op hp⟩⟩

theorem runStrict_none_iff (g : G) (ops : List Op) :
    runStrict g ops = none ↔ ∃ pre op, pre ++ [op] <+: ops ∧
      (step (run g pre) op = .error .cacheKeyError ∨ step (run g pre) op = .error .outside) := by
  constructor
  · intro hn
    apply Classical.byContradiction
    intro hne
    have := runStrict_eq_run ops g (fun pre op hp h => hne ⟨pre, op, hp, .inl h⟩)
      (fun pre op hp h => hne ⟨pre, op, hp, .inr h⟩)
    rw [hn] at this; cases this
  · rintro ⟨pre, op, hp, h⟩
    cases hr : runStrict g ops with
    | none => rfl
    | some g' =>
      have := ((runStrict_eq_some_iff ops g g').1 hr).2 pre op hp
      exact h.elim (absurd · this.1) (absurd · this.2)

theorem runStrict_prefix (g g' : G) (ops pre : List Op) (h : runStrict g ops = some g') (hpre : pre <+: ops) :
    runStrict g pre = some (run g pre) :=
  (runStrict_eq_some_iff pre g _).2 ⟨rfl, fun p x hp =>
    ((runStrict_eq_some_iff ops g g').1 h).2 p x (List.IsPrefix.trans hp hpre)⟩

theorem C03_runStrict_total_from (g : G) (hf : ForestInv g) (hc : CacheInv g) (ops : List Op)
    (hops : OpsOK g ops) (hd : DistinctAlongFine g ops)
    (hK1 : ∀ pre op, pre ++ [op] <+: ops → step (run g pre) op ≠ .error .outside) :
    runStrict g ops = some (run g ops) :=
  runStrict_eq_run ops g (C03_history_no_keyerror_from g hf hc ops hops hd) hK1

/-- under `DistinctAlongFine` and no K1 the strict run is total and equals `run`: for such histories
the theorems about `run` (`C04_history`, `C10_history_full`, `C03_history_full`) are statements about
the code -/
theorem C03_runStrict_total (ops : List Op) (hops : OpsOK {} ops) (hd : DistinctAlongFine {} ops)
    (hK1 : ∀ pre op, pre ++ [op] <+: ops → step (run {} pre) op ≠ .error .outside) :
    runStrict {} ops = some (run {} ops) :=
  C03_runStrict_total_from {} C04_init C03_init ops hops hd hK1

theorem C03_runStrict_ne_none (ops : List Op) (hops : OpsOK {} ops) (hd : DistinctAlongFine {} ops)
    (hK1 : ∀ pre op, pre ++ [op] <+: ops → step (run {} pre) op ≠ .error .outside) :
    runStrict {} ops ≠ none := by
  rw [C03_runStrict_total ops hops hd hK1]; intro h; cases h

theorem C03_runStrict_none_only_K1 (ops : List Op) (hops : OpsOK {} ops) (hd : DistinctAlongFine {} ops)
    (hn : runStrict {} ops = none) :
    ∃ pre op, pre ++ [op] <+: ops ∧ step (run {} pre) op = .error .outside := by
  obtain ⟨pre, op, hp, h | h⟩ := (runStrict_none_iff {} ops).1 hn
  · exact absurd h (C03_history_no_keyerror ops hops hd pre op hp)
  · exact ⟨pre, op, hp, h⟩

/-! ### the headline history theorems, over the strict runner -/

/-- C04 over the strict runner: if the history runs to its end without the table's `KeyError` and without K1
(`runStrict` answers a state), the containment forest of that state is consistent. No UUID
hypothesis: a clash that never makes `del cache[uuid]` fail does not disturb the forest. -/
theorem C04_history_strict (ops : List Op) (hops : OpsOK {} ops) (g : G) (hs : runStrict {} ops = some g) :
    ForestInv g := by
  rw [runStrict_some ops {} g hs]; exact C04_history ops hops

theorem C10_history_strict (ops : List Op) (hops : OpsOK {} ops) (g : G) (hs : runStrict {} ops = some g) :
    IndexInv g := by
  rw [runStrict_some ops {} g hs]; exact C10_history_full ops hops

/-- C03 over the strict runner: with UUIDs distinct per IR at every moment (which by `C03_runStrict_none_only_K1`
leaves K1 as the only way for the strict run to stop) -/
theorem C03_history_strict (ops : List Op) (hops : OpsOK {} ops) (hd : DistinctAlongFine {} ops) (g : G)
    (hs : runStrict {} ops = some g) : CacheInv g := by
  rw [runStrict_some ops {} g hs]; exact C03_history_full ops hops hd

/-- all three, after every prefix: a history inside C03's quantifier that never hits K1 never stops,
and every state it passes through satisfies C04, C10 and C03; each of those states is the state the
code is in (nothing was rolled back except the built-ins' guard exceptions) -/
theorem C03_C04_C10_strict_prefixes (ops : List Op) (hops : OpsOK {} ops) (hd : DistinctAlongFine {} ops)
    (hK1 : ∀ pre op, pre ++ [op] <+: ops → step (run {} pre) op ≠ .error .outside) :
    ∀ pre, pre <+: ops → runStrict {} pre = some (run {} pre) ∧
      ForestInv (run {} pre) ∧ IndexInv (run {} pre) ∧ CacheInv (run {} pre) ∧ Distinct (run {} pre) := by
  intro pre hpre
  have hs := C03_runStrict_total ops hops hd hK1
  have hp := runStrict_prefix {} _ ops pre hs hpre
  have hops' := OpsOK_prefix pre ops {} hpre hops
  obtain ⟨t, ht⟩ := hpre
  subst ht
  obtain ⟨h1, h2, _, h4⟩ := nr_invs_at_cut pre t {} C04_init C03_init hops hd
  exact ⟨hp, h1, C10_history_strict pre hops' _ hp, h2, h4.head⟩

/-! ### concrete histories -/

def nrIsNone : Option G → Bool
  | none => true
  | some _ => false

/-- two symbols with the same UUID in one module; the first `discard` deletes
the shared table entry, the second one raises the `KeyError` of `del cache[uuid]` in the middle.
`run` rolls the second `discard` back (and its state satisfies `ForestInv`, which the code's state
does not); the strict run stops there and claims nothing. -/
def nrClashOps : List Op :=
  [.mkIR 100, .mk .module 101 [] (some 0), .mkSym 5 0 .none (some 1), .mkSym 5 0 .none (some 1),
   .discard 1 .syms 2, .discard 1 .syms 3]

example : nrIsNone (runStrict {} nrClashOps) = true := by decide
example : cacheIsKeyError (step (run {} (nrClashOps.take 5)) (.discard 1 .syms 3)) = true := by decide
example : (run {} nrClashOps).kids 1 .syms = [3] ∧ (run {} nrClashOps).par 3 = some 1 := by decide
/-- up to the exception the strict run is the run -/
example : nrIsNone (runStrict {} (nrClashOps.take 5)) = false := by decide
/-- and the hypothesis of C03 indeed fails in this history (after the fourth operation) -/
example : cacheDistinctB (run {} (nrClashOps.take 4)) = false := by decide

/-- K1: `modules[0] = m2` while `m2` is at position 1 of the same list -/
def nrK1Ops : List Op :=
  [.mkIR 100, .mk .module 101 [] (some 0), .mk .module 102 [] (some 0), .setItem 0 0 2]

example : nrIsNone (runStrict {} nrK1Ops) = true := by decide
example : nrIsNone (runStrict {} (nrK1Ops.take 3)) = false := by decide

/-- non-vacuity of the positive side: a history with guard exceptions (`remove` of an absent element,
`del modules[7]`), skipped by both runs; the strict run reaches the end -/
def nrGoodOps : List Op :=
  [.mkIR 100, .mk .module 101 [] (some 0), .mkSym 5 0 .none (some 1), .mkSym 6 0 .none none,
   .remove 1 .syms 3, .delItem 0 7, .add 1 .syms 3, .discard 1 .syms 2, .setItem 0 0 1]

example : nrIsNone (runStrict {} nrGoodOps) = false := by decide
example : (run {} nrGoodOps).kids 1 .syms = [3] ∧ (run {} nrGoodOps).kids 0 .mods = [1] ∧
    getByUuid (run {} nrGoodOps) 0 6 = some 3 ∧ getByUuid (run {} nrGoodOps) 0 5 = none := by decide

end Gtirb.Forest
