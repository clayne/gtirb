import GtirbProofs.Props.C12
/-! C06: `byte_intervals_on/at` on a section equal the scan; a section's
address/size are none unless it has at least one interval and all have
addresses, else lowest address and distance to the highest end. -/
namespace Gtirb.Index

/-- Intended statement without `hs`; false of the model for a section id not in
`d.secs` that intervals still name (the lookup answers `[]`). -/
theorem C06_bis_on (d : D) (s : Nat) (r : Rng) (h : DInv d) (hs : (d.sec? s).isSome) :
    (∀ x, x ∈ (secBisOn d s r).2 ↔ x ∈ scanBisOn d s r) ∧ (secBisOn d s r).2.Nodup := by
  refine ⟨fun x => ?_, nodup_secBisOn h s r⟩
  rw [mem_secBisOn h, hs]; simp

theorem C06_bis_at (d : D) (s : Nat) (r : Rng) (h : DInv d) (hs : (d.sec? s).isSome) :
    (∀ x, x ∈ (secBisAt d s r).2 ↔ x ∈ scanBisAt d s r) ∧ (secBisAt d s r).2.Nodup := by
  refine ⟨fun x => ?_, nodup_secBisAt h s r⟩
  rw [mem_secBisAt h, hs]; simp

theorem C06_bis_on_any (d : D) (s : Nat) (r : Rng) (h : DInv d) (x : Nat) :
    x ∈ (secBisOn d s r).2 ↔ (d.sec? s).isSome ∧ x ∈ scanBisOn d s r :=
  mem_secBisOn h s r x

theorem C06_bis_at_any (d : D) (s : Nat) (r : Rng) (h : DInv d) (x : Nat) :
    x ∈ (secBisAt d s r).2 ↔ (d.sec? s).isSome ∧ x ∈ scanBisAt d s r :=
  mem_secBisAt h s r x

/-- `Section.address` / `Section.size`: with at least one interval and all
intervals addressed, the lowest address `lo` and `hi - lo` for the highest end
`hi`; `none` otherwise. -/
theorem C06_extent (d : D) (s : Nat) (h : DInv d) (hs : ∃ sc ∈ d.secs, sc.id = s) :
    ((d.bisOf s ≠ [] ∧ ∀ x ∈ d.bisOf s, x.addr.isSome = true) →
      ∃ lo hi : Nat, (∃ x ∈ d.bisOf s, x.addr = some lo) ∧
        (∀ x ∈ d.bisOf s, ∀ a, x.addr = some a → lo ≤ a) ∧
        (∃ x ∈ d.bisOf s, ∃ a, x.addr = some a ∧ a + x.size = hi) ∧
        (∀ x ∈ d.bisOf s, ∀ a, x.addr = some a → a + x.size ≤ hi) ∧
        (secExtent d s).2 = some ((lo : Int), (hi : Int) - lo)) ∧
    (¬(d.bisOf s ≠ [] ∧ ∀ x ∈ d.bisOf s, x.addr.isSome = true) → (secExtent d s).2 = none) := by
  obtain ⟨sc, hsc⟩ := hs
  have hb : d.sec? s = some sc := (kfind_some_iff Sec.id h.sec_ids).2 hsc
  have hi := getSec_index h hb
  have hlen : (getSec d s).2.length = (biIvs d s).length :=
    length_eq_of_nodup_mem hi.nodup (nodup_biIvs h s) (getSec_tree h hb).2
  have hall := length_filterMap_addr (d.bisOf s)
  rw [secExtent_eq]
  show (_ → ∃ lo hi : Nat, _ ∧ _ ∧ _ ∧ _ ∧ extentOf _ _ = _) ∧ (_ → extentOf _ _ = none)
  constructor
  · rintro ⟨hne, ha⟩
    have hl2 : (biIvs d s).length = (d.bisOf s).length := hall.2 ha
    have hpos := List.length_pos_iff.2 hne
    have htne : (getSec d s).2 ≠ [] := fun e => by rw [e] at hlen; simp at hlen; omega
    obtain ⟨⟨i1, m1, e1⟩, l1⟩ := treeBegin_spec htne
    obtain ⟨⟨i2, m2, e2⟩, l2⟩ := treeEnd_spec htne
    obtain ⟨y1, hy1, he1⟩ := (hi.mem i1).1 m1
    obtain ⟨y2, hy2, he2⟩ := (hi.mem i2).1 m2
    obtain ⟨a1, ha1, rfl⟩ := addrIvBI_some.1 he1
    obtain ⟨a2, ha2, rfl⟩ := addrIvBI_some.1 he2
    have hmem : ∀ x ∈ d.bisOf s, ∀ a, x.addr = some a →
        (⟨a, (a : Int) + x.size + 1, x.id⟩ : Iv) ∈ (getSec d s).2 :=
      fun x hx a ha => (hi.mem _).2 ⟨x, hx, addrIvBI_some.2 ⟨a, ha, rfl⟩⟩
    simp only at e1 e2
    refine ⟨a1, a2 + y2.size, ⟨y1, hy1, ha1⟩, fun x hx a ha => ?_, ⟨y2, hy2, a2, ha2, rfl⟩,
      fun x hx a ha => ?_, ?_⟩
    · have := l1 _ (hmem x hx a ha); simp only at this; omega
    · have := l2 _ (hmem x hx a ha); simp only at this; omega
    · rw [extentOf, if_pos ⟨by omega, by omega⟩, ← e1, ← e2]
      simp only [Option.some.injEq, Prod.mk.injEq, true_and]; omega
  · intro hn
    rw [extentOf, if_neg]
    rintro ⟨hpos, hl⟩
    refine hn ⟨fun e => ?_, hall.1 (by show (biIvs d s).length = _; omega)⟩
    rw [e] at hl; simp only [List.length_nil] at hl; omega

theorem C06_extent_unknown (d : D) (s : Nat) (hs : d.sec? s = none) : (secExtent d s).2 = none :=
  secExtent_none hs

example : (secBisOn exD 20 ⟨100, 107, 1⟩).2 = [10] ∧ scanBisOn exD 20 ⟨100, 107, 1⟩ = [10] := by rw [exD_val]; decide
example : (secExtent exD 20).2 = some (100, 32) := by rw [exD_val]; decide
/-- an interval without address makes the extent `none` -/
example : (secExtent (biSet exD 10 none 32) 20).2 = none := by rw [exD_val]; decide

end Gtirb.Index
