import GtirbProofs.Lemmas.IndexProofs
import GtirbProofs.Lemmas.RunLemmas
/-! Property C10: the per-module symbol indexes (`_symbol_name_index`,
`_symbol_referent_index`), although maintained incrementally by
`_index_add/_index_discard`, always equal the scan of the module's current
symbols; hence `symbols_named` / `references` answer exactly, each result once. -/
namespace Gtirb.Forest

/-- every operation preserves the index invariant (`ForestInv g'` is not needed) -/
theorem C10_step (g g' : G) (op : Op) (hf : ForestInv g) (_hf' : ForestInv g') (hi : IndexInv g)
    (hop : OpOK g op) (hs : step g op = .ok g') : IndexInv g' :=
  idx_step hf hi hop hs

theorem C10_init : IndexInv ({} : G) where
  name_iff := by intro m nm y; show y ∈ [] ↔ (y ∈ [] ∧ _); simp
  ref_iff := by intro m b y; show y ∈ [] ↔ (y ∈ [] ∧ _); simp
  name_nodup := fun _ _ => List.nodup_nil
  ref_nodup := fun _ _ => List.nodup_nil

/-- lookups equal the scan, each result once -/
theorem C10_symbols_named (g : G) (hi : IndexInv g) (m nm y : Nat) :
    y ∈ symbolsNamed g m nm ↔ (y ∈ g.kids m .syms ∧ g.name y = nm) :=
  hi.name_iff m nm y

theorem C10_symbols_named_nodup (g : G) (hi : IndexInv g) (m nm : Nat) :
    (symbolsNamed g m nm).Nodup :=
  hi.name_nodup m nm

theorem C10_references (g : G) (hi : IndexInv g) (b y : Nat) :
    y ∈ references g b ↔
      ∃ m, moduleOf g b = some m ∧ y ∈ g.kids m .syms ∧ g.payload y = .block b := by
  unfold references
  cases h : moduleOf g b with
  | none => simp
  | some m =>
    simp only [Option.some.injEq]
    rw [hi.ref_iff]
    constructor
    · intro hy; exact ⟨m, rfl, hy⟩
    · rintro ⟨m', rfl, hy⟩; exact hy

theorem C10_references_detached (g : G) (b : Nat) (h : moduleOf g b = none) : references g b = [] := by
  unfold references; rw [h]

theorem C10_references_nodup (g : G) (hi : IndexInv g) (b : Nat) : (references g b).Nodup := by
  unfold references
  split
  · exact hi.ref_nodup _ _
  · exact List.nodup_nil

theorem C10_history_from (g : G) (hi : IndexInv g) (ops : List Op) (hops : OpsOK g ops)
    (hforest : ∀ (pre : List Op), pre <+: ops → ForestInv (run g pre)) : IndexInv (run g ops) :=
  run_induction_along (fun _ _ hf hi hop _ hs => idx_step hf hi hop hs) hi hops hforest

/-- after any history (operations that raise leave the state unchanged) the
indexes equal the scan, provided the containment forest is consistent in every
state of the history (that is property C04, proved separately) -/
theorem C10_history (ops : List Op) (hops : OpsOK {} ops)
    (hforest : ∀ (pre : List Op), pre <+: ops → ForestInv (run {} pre)) : IndexInv (run {} ops) :=
  C10_history_from {} C10_init ops hops hforest

end Gtirb.Forest
