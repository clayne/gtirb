import GtirbModel.Interval
import GtirbProofs.Lemmas.ListLemmas
/-! C19: byte-interval storage and block views.

`initialized_size` is the number of stored bytes (`iv.contents.length`); the constructor
rejects more stored bytes than `size`; assigning `initialized_size` pads with zero bytes
or truncates; shrinking `size` truncates the stored bytes.  Hence `StoreInv`
(`contents.length ≤ size`) holds after any history of assignments, and `StoreInv` is
exactly the condition under which the loader's constructor call accepts the saved
interval and reproduces it.  Block views (`address`, `contents`, `contains_offset`,
`contains_address`) are the expected ranges over the interval. -/
namespace Gtirb.Interval

theorem setInitBytes_length (c : Bytes) (v : Nat) : (setInitBytes c v).length = v := by
  unfold setInitBytes
  split
  · next h => rw [List.length_append, List.length_replicate, Nat.add_sub_cancel' (Nat.le_of_lt h)]
  · next h =>
    split
    · next h' => rw [List.length_take, Nat.min_eq_left (Nat.le_of_lt h')]
    · next h' => exact Nat.le_antisymm (Nat.le_of_not_lt h') (Nat.le_of_not_lt h)

theorem setInitBytes_getElem? (c : Bytes) (v i : Nat) (h : i < v) :
    (setInitBytes c v)[i]? = if i < c.length then c[i]? else some 0 := by
  unfold setInitBytes
  split
  · next hv =>
    split
    · next hi => exact List.getElem?_append_left hi
    · next hi =>
      rw [List.getElem?_append_right (Nat.le_of_not_lt hi), List.getElem?_replicate,
        if_pos (Nat.sub_lt_sub_right (Nat.le_of_not_lt hi) h)]
  · next hv =>
    have hi : i < c.length := Nat.lt_of_lt_of_le h (Nat.le_of_not_lt hv)
    rw [if_pos hi]
    split
    · exact List.getElem?_take_of_lt h
    · rfl

theorem setInitBytes_self (c : Bytes) : setInitBytes c c.length = c := by
  simp [setInitBytes]

/-- `initialized_size` reads back the assigned value -/
theorem C19_setInit_len (iv : Iv) (v : Nat) : (setInit iv v).contents.length = v := by
  simp [setInit, setInitBytes_length]

/-- assigning `initialized_size` keeps the common prefix and pads with zero bytes -/
theorem C19_setInit_bytes (iv : Iv) (v i : Nat) (h : i < v) :
    (setInit iv v).contents[i]? = if i < iv.contents.length then iv.contents[i]? else some 0 := by
  simp only [setInit]
  exact setInitBytes_getElem? iv.contents v i h

theorem C19_setInit_size (iv : Iv) (v : Nat) : (setInit iv v).size = iv.size := rfl

/-- assigning `size` truncates the stored bytes to the new size
(`take n` is the identity when `n ≥ length`) -/
theorem C19_setSize (iv : Iv) (n : Nat) :
    (setSize iv n).size = n ∧ (setSize iv n).contents = iv.contents.take n := by
  refine ⟨rfl, ?_⟩
  simp only [setSize]
  split
  · rfl
  · rw [List.take_of_length_le (by omega)]

theorem setSize_contents_length (iv : Iv) (n : Nat) :
    (setSize iv n).contents.length = min n iv.contents.length := by
  rw [(C19_setSize iv n).2, List.length_take]

/-- shrinking truncates: the invariant holds after `size := n` from ANY state -/
theorem C19_setSize_inv (iv : Iv) (n : Nat) : StoreInv (setSize iv n) := by
  unfold StoreInv
  rw [setSize_contents_length, (C19_setSize iv n).1]
  omega

theorem setSize_of_inv (iv : Iv) (h : StoreInv iv) : setSize iv iv.size = iv := by
  unfold StoreInv at h
  cases iv with
  | mk size contents =>
    simp only [setSize]
    simp only at h
    rw [if_neg (by omega)]

theorem setInit_self (iv : Iv) : setInit iv iv.contents.length = iv := by
  cases iv with
  | mk size contents => simp [setInit, setInitBytes_self]

/-- construction is rejected exactly when `initialized_size > size` (after defaulting
both from `len(contents)`) -/
theorem C19_ctor_rejects (size? init? : Option Nat) (c : Bytes) :
    ctor size? init? c = none ↔ init?.getD c.length > size?.getD c.length := by
  simp only [ctor]
  split <;> simp_all

theorem ctor_eq_some (size? init? : Option Nat) (c : Bytes) (iv : Iv)
    (h : ctor size? init? c = some iv) :
    init?.getD c.length ≤ size?.getD c.length ∧
    iv = setInit (setSize { size := size?.getD c.length, contents := c } (size?.getD c.length))
      (init?.getD c.length) := by
  simp only [ctor] at h
  split at h
  · cases h
  · refine ⟨by omega, ?_⟩
    cases h
    rfl

theorem C19_ctor_ok (size? init? : Option Nat) (c : Bytes) (iv : Iv)
    (h : ctor size? init? c = some iv) :
    StoreInv iv ∧ iv.size = size?.getD c.length ∧ iv.contents.length = init?.getD c.length ∧
    -- the stored bytes are the given bytes truncated / zero-padded to initialized_size
    (∀ i, i < iv.contents.length → iv.contents[i]? = if i < c.length then c[i]? else some 0) := by
  obtain ⟨hle, rfl⟩ := ctor_eq_some size? init? c iv h
  have hlen := C19_setInit_len
    (setSize { size := size?.getD c.length, contents := c } (size?.getD c.length))
    (init?.getD c.length)
  refine ⟨?_, rfl, hlen, ?_⟩
  · unfold StoreInv
    rw [hlen, C19_setInit_size, (C19_setSize _ _).1]
    exact hle
  · intro i hi
    rw [hlen] at hi
    rw [C19_setInit_bytes _ _ _ hi, setSize_contents_length, (C19_setSize _ _).2]
    have hs : i < size?.getD c.length := Nat.lt_of_lt_of_le hi hle
    simp only [List.getElem?_take, Nat.lt_min, hs, true_and, if_true]

theorem C19_step_inv (iv : Iv) (op : Op) (iv' : Iv) (h : StoreInv iv)
    (hs : step iv op = some iv') : StoreInv iv' := by
  unfold StoreInv at *
  cases op with
  | setSize n => cases hs; exact C19_setSize_inv iv n
  | setInit v =>
    simp only [step] at hs
    split at hs
    · next hv => cases hs; rw [C19_setInit_len]; exact hv
    · cases hs
  | poke i b =>
    simp only [step, poke] at hs
    split at hs
    · cases hs; simpa using h
    · cases hs
  | assign c =>
    simp only [step, assign] at hs
    split at hs
    · next hc => cases hs; exact hc
    · cases hs

/-- run a history of assignments. A step `step` flags `none` is OUTSIDE the
property's quantifier (`initialized_size` above `size`, a whole-contents
assignment longer than `size`): the code does not raise there, it accepts the
assignment and the stored bytes then exceed `size` (example below). `run` skips
such steps, i.e. `C19_history` speaks of the histories all of whose steps lie
inside the quantifier; an out-of-range poke (`IndexError`, raised before any
change) is the only step that is really rejected. -/
def run (iv : Iv) (ops : List Op) : Iv := ops.foldl (fun s op => (step s op).getD s) iv

/-- outside the quantifier the invariant can indeed be broken (by design of the API) -/
example : ¬ StoreInv (setInit ⟨2, []⟩ 3) := by unfold StoreInv; decide

theorem C19_history (iv : Iv) (ops : List Op) (h : StoreInv iv) : StoreInv (run iv ops) :=
  List.foldl_getD_inv (fun iv op iv' => C19_step_inv iv op iv') ops h

theorem C19_history_ctor (size? init? : Option Nat) (c : Bytes) (iv : Iv) (ops : List Op)
    (h : ctor size? init? c = some iv) : StoreInv (run iv ops) :=
  C19_history iv ops (C19_ctor_ok size? init? c iv h).1

/-- save then load: the reader's constructor call accepts the interval and reproduces it -/
theorem C19_saveload (iv : Iv) (h : StoreInv iv) :
    ctor (some iv.size) none iv.contents = some iv := by
  have hle : iv.contents.length ≤ iv.size := h
  simp only [ctor, Option.getD_some, Option.getD_none]
  rw [if_neg (by omega)]
  have e : ({ size := iv.size, contents := iv.contents } : Iv) = iv := by cases iv; rfl
  rw [e, setSize_of_inv iv h, setInit_self]

/-- the invariant is exactly what load needs -/
theorem C19_saveload_iff (iv : Iv) :
    ctor (some iv.size) none iv.contents = some iv ↔ StoreInv iv := by
  constructor
  · intro h
    have := (ctor_eq_some _ _ _ _ h).1
    simpa [StoreInv] using this
  · exact C19_saveload iv

/-- every state reachable from a successful construction can be saved and loaded back -/
theorem C19_history_saveload (size? init? : Option Nat) (c : Bytes) (iv : Iv) (ops : List Op)
    (h : ctor size? init? c = some iv) :
    ctor (some (run iv ops).size) none (run iv ops).contents = some (run iv ops) :=
  C19_saveload _ (C19_history_ctor size? init? c iv ops h)

theorem C19_address (base : Option Nat) (b : Blk) :
    blkAddress base b = match base with | some x => some (x + b.offset) | none => none := by
  cases base <;> rfl

theorem C19_contents (iv : Iv) (b : Blk) (i : Nat) :
    (blkContents iv b)[i]? = if i < b.size then iv.contents[b.offset + i]? else none := by
  simp [blkContents, List.getElem?_take, List.getElem?_drop]

theorem C19_contents_len (iv : Iv) (b : Blk) :
    (blkContents iv b).length = min b.size (iv.contents.length - b.offset) := by
  simp [blkContents]

theorem C19_contains_offset (b : Blk) (o : Int) :
    containsOffset b o = true ↔ (b.offset : Int) ≤ o ∧ o < b.offset + b.size := by
  simp [containsOffset]

theorem C19_contains_address (base : Option Nat) (b : Blk) (a : Int) :
    containsAddress base b a = true ↔
      ∃ x, base = some x ∧ (x : Int) + b.offset ≤ a ∧ a < (x : Int) + b.offset + b.size := by
  cases base with
  | none => simp [containsAddress]
  | some x =>
    simp only [containsAddress, C19_contains_offset, Option.some.injEq, exists_eq_left']
    omega

theorem C19_contains_address_iff_blkAddress (base : Option Nat) (b : Blk) (a : Int) :
    containsAddress base b a = true ↔
      ∃ s, blkAddress base b = some s ∧ (s : Int) ≤ a ∧ a < (s : Int) + b.size := by
  rw [C19_contains_address]
  cases base with
  | none => simp [blkAddress]
  | some x =>
    simp only [blkAddress, Option.map_some, Option.some.injEq, exists_eq_left', Int.natCast_add]

example : ctor (some 8) (some 5) [1, 2, 3] = some ⟨8, [1, 2, 3, 0, 0]⟩ := by decide
example : setSize ⟨8, [1, 2, 3, 0, 0]⟩ 2 = ⟨2, [1, 2]⟩ := by decide
example : ctor (some 2) none [1, 2, 3] = none := by decide
example : ctor (some 2) (some 1) [1, 2, 3] = some ⟨2, [1]⟩ := by decide
example : ctor none (some 4) [1, 2, 3] = none := by decide
example : ctor none none [1, 2, 3] = some ⟨3, [1, 2, 3]⟩ := by decide
example : setInit ⟨8, [1, 2, 3]⟩ 1 = ⟨8, [1]⟩ := by decide
example : setInit ⟨8, [1, 2, 3]⟩ 6 = ⟨8, [1, 2, 3, 0, 0, 0]⟩ := by decide
example : run ⟨8, [1, 2, 3, 0, 0]⟩ [.setSize 2, .setInit 5, .poke 1 9, .setSize 4, .setInit 3] =
    ⟨4, [1, 9, 0]⟩ := by decide
/-- a state violating the invariant is not reproduced by load (it is rejected) -/
example : ctor (some 2) none [1, 2, 3] ≠ some ⟨2, [1, 2, 3]⟩ := by decide
example : blkContents ⟨8, [1, 2, 3, 0, 0]⟩ ⟨1, 3⟩ = [2, 3, 0] := by decide
example : blkContents ⟨8, [1, 2, 3, 0, 0]⟩ ⟨3, 6⟩ = [0, 0] := by decide
example : blkAddress (some 4096) ⟨16, 4⟩ = some 4112 := by decide
example : blkAddress none ⟨16, 4⟩ = none := by decide
example : containsAddress (some 4096) ⟨16, 4⟩ 4115 = true := by decide
example : containsAddress (some 4096) ⟨16, 4⟩ 4116 = false := by decide
example : containsAddress none ⟨16, 4⟩ 4115 = false := by decide
example : containsOffset ⟨16, 4⟩ (-1) = false := by decide

end Gtirb.Interval
