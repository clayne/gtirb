import GtirbProofs.Lemmas.SymExprProofs
import GtirbProofs.Lemmas.IndexProofs2
/-! C13 (and the mapping part of C16): `ByteInterval.symbolic_expressions` behaves
like a dict iterated in increasing offset order, and
`symbolic_expressions_at_offset / _at` return exactly one (offset, expression)
pair for every stored expression whose offset (resp. interval address + offset)
is a member of the queried point or positive-step range, in increasing offset
order, and nothing for an interval without an address. -/
namespace Gtirb.SymExpr
open Gtirb.Index (Rng)

theorem C13_sorted_iff_keys (s : Store) : Sorted s ↔ (s.map (·.1)).Pairwise (· < ·) := by
  rw [sorted_iff_pairwise, List.pairwise_map]

theorem C13_step_sorted (s : Store) (op : Op) (s' : Store) (h : Sorted s)
    (hs : step s op = some s') : Sorted s' := by
  cases op with
  | setItem k v =>
    simp only [step, Option.some.injEq] at hs; subst hs; exact sorted_setItem h k v
  | delItem k =>
    simp only [step, delItem] at hs
    split at hs
    · simp only [Option.some.injEq] at hs; subst hs; exact sorted_filter _ h
    · cases hs
  | pop k =>
    simp only [step, pop, delItem] at hs
    split at hs
    · split at hs
      · simp only [Option.map_some, Option.some.injEq] at hs; subst hs; exact sorted_filter _ h
      · simp at hs
    · simp at hs
  | popitem =>
    cases s with
    | nil => simp [step, popitem] at hs
    | cons a t =>
      simp only [step, popitem, Option.map_some, Option.some.injEq] at hs
      subst hs; exact ((sorted_cons _ _).1 h).2
  | setdefault k d =>
    simp only [step, setdefault, Option.some.injEq] at hs
    subst hs
    split
    · exact h
    · exact sorted_setItem h k d
  | update kvs =>
    simp only [step, Option.some.injEq] at hs; subst hs; exact sorted_update h kvs
  | clear =>
    simp only [step, Option.some.injEq] at hs; subst hs; exact sorted_nil
  | assign kvs =>
    simp only [step, assign, Option.some.injEq] at hs; subst hs; exact sorted_update sorted_nil kvs

/-- a history of operations; a KeyError leaves the store unchanged -/
def run (s : Store) (ops : List Op) : Store := ops.foldl (fun s op => (step s op).getD s) s

theorem C13_run_sorted (s : Store) (ops : List Op) (h : Sorted s) : Sorted (run s ops) :=
  List.foldl_getD_inv (fun s op s' => C13_step_sorted s op s') ops h

theorem C13_history (ops : List Op) : Sorted (run [] ops) :=
  C13_run_sorted [] ops sorted_nil

theorem C13_setItem_get (s : Store) (k v k' : Nat) (_h : Sorted s) :
    get? (setItem s k v) k' = if k' = k then some v else get? s k' :=
  get?_setItem s k v k'

/-- KeyError iff absent -/
theorem C13_delItem (s : Store) (k : Nat) (_h : Sorted s) :
    delItem s k = none ↔ get? s k = none := by
  unfold delItem
  cases get? s k <;> simp

theorem C13_delItem_get (s : Store) (k : Nat) (s' : Store) (k' : Nat) (_h : Sorted s)
    (hd : delItem s k = some s') : get? s' k' = if k' = k then none else get? s k' := by
  unfold delItem at hd
  split at hd
  · simp only [Option.some.injEq] at hd; subst hd; exact get?_filter_ne s k k'
  · cases hd

theorem C13_pop (s : Store) (k : Nat) :
    pop s k = match get? s k with
      | some v => (delItem s k).map (·, v)
      | none => none := rfl

/-- `pop` returns the stored value and the store of `del` -/
theorem C13_pop_some (s : Store) (k : Nat) (s' : Store) (v : Nat) :
    pop s k = some (s', v) ↔ get? s k = some v ∧ delItem s k = some s' := by
  unfold pop delItem
  cases hg : get? s k with
  | none => simp
  | some w =>
    simp only [Option.isSome_some, if_true, Option.map_some, Option.some.injEq, Prod.mk.injEq]
    exact And.comm

/-- `pop`: KeyError iff absent -/
theorem C13_pop_none (s : Store) (k : Nat) : pop s k = none ↔ get? s k = none := by
  unfold pop delItem
  cases get? s k <;> simp

theorem C13_popitem_min (s s' : Store) (k v : Nat) (h : Sorted s)
    (hp : popitem s = some (s', k, v)) :
    get? s k = some v ∧ (∀ k', (get? s k').isSome → k ≤ k') ∧
      ∀ k', get? s' k' = if k' = k then none else get? s k' := by
  cases s with
  | nil => simp [popitem] at hp
  | cons a t =>
    obtain ⟨ka, va⟩ := a
    simp only [popitem, Option.some.injEq, Prod.mk.injEq] at hp
    obtain ⟨rfl, rfl, rfl⟩ := hp
    have h' := (sorted_cons _ _).1 h
    refine ⟨by simp [get?_cons], ?_, ?_⟩
    · intro k' hk'
      obtain ⟨w, hw⟩ := Option.isSome_iff_exists.1 hk'
      rcases List.mem_cons.1 (mem_of_get? hw) with e | hm
      · simp only [Prod.mk.injEq] at e; omega
      · exact Nat.le_of_lt (h'.1 _ hm)
    · intro k'
      rw [get?_cons]
      by_cases hk : k' = ka
      · subst hk
        simp only [if_true]
        rw [get?_eq_none_iff]
        intro b hb
        exact Nat.ne_of_gt (h'.1 b hb)
      · simp [hk]

theorem C13_popitem_empty (s : Store) : popitem s = none ↔ s = [] := by
  cases s with
  | nil => simp [popitem]
  | cons a t => obtain ⟨k, v⟩ := a; simp [popitem]

theorem C13_setdefault (s : Store) (k d : Nat) (_h : Sorted s) :
    (setdefault s k d).2 = (get? s k).getD d ∧
      ∀ k', get? (setdefault s k d).1 k' =
        if k' = k then some ((get? s k).getD d) else get? s k' := by
  unfold setdefault
  cases hg : get? s k with
  | none =>
    refine ⟨rfl, fun k' => ?_⟩
    simp only [Option.getD_none]
    exact get?_setItem s k d k'
  | some w =>
    refine ⟨rfl, fun k' => ?_⟩
    simp only [Option.getD_some]
    by_cases hk : k' = k
    · subst hk; simp [hg]
    · simp [hk]

/-- last write wins -/
theorem C13_update_get (s : Store) (kvs : List (Nat × Nat)) (k' : Nat) (_h : Sorted s) :
    get? (update s kvs) k' =
      match kvs.reverse.find? (·.1 == k') with
      | some kv => some kv.2
      | none => get? s k' := by
  clear _h
  unfold update
  induction kvs generalizing s with
  | nil => simp
  | cons kv kvs ih =>
    rw [List.foldl_cons, ih, List.reverse_cons, List.find?_append]
    cases hf : kvs.reverse.find? (·.1 == k') with
    | some x => simp
    | none =>
      simp only [Option.none_or]
      rw [get?_setItem, List.find?_cons]
      by_cases hk : k' = kv.1
      · simp [hk]
      · simp [hk, beq_false_of_ne (Ne.symm hk)]

/-- whole-mapping assignment = clear then update -/
theorem C13_assign_get (s : Store) (kvs : List (Nat × Nat)) (k' : Nat) :
    get? (assign s kvs) k' = (kvs.reverse.find? (·.1 == k')).map (·.2) := by
  unfold assign
  rw [C13_update_get [] kvs k' sorted_nil]
  cases kvs.reverse.find? (·.1 == k') <;> simp

theorem C13_assign_eq (s : Store) (kvs : List (Nat × Nat)) :
    assign s kvs = update (clear s) kvs := rfl

theorem C13_clear_get (s : Store) (k' : Nat) : get? (clear s) k' = none := rfl

theorem C13_mem_iff (s : Store) (k v : Nat) (h : Sorted s) : (k, v) ∈ s ↔ get? s k = some v :=
  ⟨get?_of_mem h, mem_of_get?⟩

/-- the `irange` bounds exclude no member of the range -/
theorem C13_mem_bounds (r : Rng) (x : Int) (h : r.mem x = true) : r.start ≤ x ∧ x < r.stop :=
  Gtirb.Index.Rng.mem_bounds h

theorem C13_at_offset (s : Store) (r : Rng) : atOffset s r = scanAtOffset s r := by
  unfold atOffset scanAtOffset irange
  rw [List.filter_filter]
  apply List.filter_congr
  intro kv _
  cases hm : r.mem (kv.1 : Int) with
  | false => simp
  | true =>
    have hb := Gtirb.Index.Rng.mem_bounds hm
    simp [hb.1, hb.2]

theorem C13_at (s : Store) (addr : Option Nat) (r : Rng) :
    atAddr s addr r = scanAtAddr s addr r := by
  cases addr with
  | none => rfl
  | some a =>
    simp only [atAddr, scanAtAddr, irange]
    rw [List.filter_filter]
    apply List.filter_congr
    intro kv _
    cases hm : r.mem ((a : Int) + (kv.1 : Int)) with
    | false => simp
    | true =>
      have hb := Gtirb.Index.Rng.mem_bounds hm
      have h1 : r.start - (a : Int) ≤ (kv.1 : Int) := by omega
      have h2 : (kv.1 : Int) < r.stop - (a : Int) := by omega
      simp [h1, h2]

theorem C13_at_no_address (s : Store) (r : Rng) : atAddr s none r = [] := rfl

theorem C13_at_offset_mem (s : Store) (r : Rng) (k v : Nat) (h : Sorted s) :
    (k, v) ∈ atOffset s r ↔ get? s k = some v ∧ r.mem k = true := by
  rw [C13_at_offset, scanAtOffset, List.mem_filter, C13_mem_iff _ _ _ h]

theorem C13_at_mem (s : Store) (a : Nat) (r : Rng) (k v : Nat) (h : Sorted s) :
    (k, v) ∈ atAddr s (some a) r ↔ get? s k = some v ∧ r.mem ((a : Int) + k) = true := by
  rw [C13_at, scanAtAddr]
  simp only [List.mem_filter]
  rw [C13_mem_iff _ _ _ h]

/-- increasing offset order, each pair once -/
theorem C13_at_offset_sorted (s : Store) (r : Rng) (h : Sorted s) : Sorted (atOffset s r) := by
  rw [C13_at_offset]; exact sorted_filter _ h

theorem C13_at_sorted (s : Store) (addr : Option Nat) (r : Rng) (h : Sorted s) :
    Sorted (atAddr s addr r) := by
  rw [C13_at]
  cases addr with
  | none => exact sorted_nil
  | some a => exact sorted_filter _ h

/-- the result is a sublist of the store: every pair at most once, in store order -/
theorem C13_at_offset_sublist (s : Store) (r : Rng) : (atOffset s r).Sublist s := by
  rw [C13_at_offset]; exact List.filter_sublist

theorem C13_at_sublist (s : Store) (addr : Option Nat) (r : Rng) : (atAddr s addr r).Sublist s := by
  rw [C13_at]
  cases addr with
  | none => exact List.nil_sublist _
  | some a => exact List.filter_sublist

/-- each stored pair exactly once -/
theorem C13_at_offset_nodup (s : Store) (r : Rng) (h : Sorted s) : (atOffset s r).Nodup :=
  nodup_of_sorted (C13_at_offset_sorted s r h)

theorem C13_at_nodup (s : Store) (addr : Option Nat) (r : Rng) (h : Sorted s) :
    (atAddr s addr r).Nodup :=
  nodup_of_sorted (C13_at_sorted s addr r h)

/-- a store built by a few operations (unsorted insertion order, overwrite, delete, KeyError) -/
example : run [] [.setItem 8 80, .setItem 2 20, .setItem 5 50, .setItem 2 21, .delItem 7,
    .update [(11, 110), (4, 40)], .pop 5, .setdefault 8 99, .setdefault 14 140]
    = [(2, 21), (4, 40), (8, 80), (11, 110), (14, 140)] := by decide

example : step [(2, 21)] (.delItem 7) = none := by decide
example : pop [(2, 21), (4, 40)] 4 = some ([(2, 21)], 40) := by decide
example : popitem [(2, 21), (4, 40)] = some ([(4, 40)], 2, 21) := by decide
example : assign [(2, 21), (4, 40)] [(9, 1), (3, 2), (9, 3)] = [(3, 2), (9, 3)] := by decide

/-- a stepped-range lookup: range(2, 12, 3) = {2, 5, 8, 11} -/
example : atOffset [(2, 21), (4, 40), (8, 80), (11, 110), (14, 140)] ⟨2, 12, 3⟩
    = [(2, 21), (8, 80), (11, 110)] := by decide

/-- a point lookup with an address: address 0x1000 + offset 8 -/
example : atAddr [(2, 21), (4, 40), (8, 80), (11, 110), (14, 140)] (some 4096) ⟨4104, 4105, 1⟩
    = [(8, 80)] := by decide

/-- a stepped-range lookup with an address -/
example : atAddr [(2, 21), (4, 40), (8, 80), (11, 110), (14, 140)] (some 4096) ⟨4098, 4112, 2⟩
    = [(2, 21), (4, 40), (8, 80), (14, 140)] := by decide

/-- nothing without an address -/
example : atAddr [(2, 21), (4, 40)] none ⟨0, 100, 1⟩ = [] := by decide

/-- a zero step has no members -/
example : atOffset [(2, 21), (4, 40)] ⟨0, 100, 0⟩ = [] := by decide

end Gtirb.SymExpr
