import GtirbProofs.Lemmas.Resolution
/-! C07: AuxData values of every supported type survive encode-then-decode.

`hasType lookup nodeUuid t v` (GtirbModel/CodecTyping.lean) is the value set of
the type `t`: integers in range, float bit patterns of the right width, strings
whose UTF-8 length fits a uint64, UUID-typed elements that are either a plain
16-byte UUID naming no node of the IR or a node whose uuid the lookup table
maps back to it, sets/mapping keys pairwise distinct under Python `==`,
tuples of the right arity, variants with an index in range.
The proof is `roundtrip` in `GtirbProofs/Lemmas/Resolution.lean`: the values of `hasType` are
encodable values that node resolution leaves alone (`canon`), and every encodable value
decodes to its resolution (`resolution`, mutual induction over `Ty`/`List Ty`). -/
namespace Gtirb.Codec

/-- Every value of every supported type survives encode-then-decode, and the
decoder consumes exactly the bytes the encoder produced (`rest` is returned
untouched). -/
theorem C07_roundtrip (lookup : Bytes → Option Nat) (nodeUuid : Nat → Bytes) (t : Ty) (v : Val)
    (h : hasType lookup nodeUuid t v = true) :
    ∃ bs, encode nodeUuid t v = some bs ∧ ∀ rest, decode lookup t (bs ++ rest) = .ok (v, rest) :=
  roundtrip lookup nodeUuid t v h

theorem C07_encode_total (lookup : Bytes → Option Nat) (nodeUuid : Nat → Bytes) (t : Ty) (v : Val)
    (h : hasType lookup nodeUuid t v = true) :
    (encode nodeUuid t v).isSome = true := by
  obtain ⟨bs, hb, _⟩ := C07_roundtrip lookup nodeUuid t v h
  simp [hb]

/-- a UUID naming a node of the IR comes back as that node ... -/
theorem C07_uuid_resolution_node (lookup : Bytes → Option Nat) (u : Bytes) (id : Nat)
    (rest : Bytes) (hu : u.length = 16) (hl : lookup u = some id) :
    decode lookup (.leaf .uuid) (u ++ rest) = .ok (.node id, rest) :=
  (decodeElem_append lookup u rest hu).trans (by rw [resolveBytes, hl])

/-- ... and any other UUID as a plain UUID -/
theorem C07_uuid_resolution_plain (lookup : Bytes → Option Nat) (u : Bytes)
    (rest : Bytes) (hu : u.length = 16) (hl : lookup u = none) :
    decode lookup (.leaf .uuid) (u ++ rest) = .ok (.uuid u, rest) :=
  (decodeElem_append lookup u rest hu).trans (by rw [resolveBytes, hl])

/-- an Offset whose element id names a node of the IR comes back holding that node ... -/
theorem C07_offset_resolution_node (lookup : Bytes → Option Nat) (u : Bytes) (id d : Nat)
    (rest : Bytes) (hu : u.length = 16) (hd : d < 2 ^ 64) (hl : lookup u = some id) :
    decode lookup (.leaf .offset) (u ++ leBytes 8 d ++ rest) = .ok (.offset (.node id) d, rest) := by
  simp [decode, decodeLeaf, List.append_assoc, decodeElem_append lookup u _ hu, resolveBytes, hl,
    splitAt?_leBytes, leNat_leBytes_of_lt 8 d (by simpa using hd)]

/-- ... and any other element id as a plain UUID -/
theorem C07_offset_resolution_plain (lookup : Bytes → Option Nat) (u : Bytes) (d : Nat)
    (rest : Bytes) (hu : u.length = 16) (hd : d < 2 ^ 64) (hl : lookup u = none) :
    decode lookup (.leaf .offset) (u ++ leBytes 8 d ++ rest) = .ok (.offset (.uuid u) d, rest) := by
  simp [decode, decodeLeaf, List.append_assoc, decodeElem_append lookup u _ hu, resolveBytes, hl,
    splitAt?_leBytes, leNat_leBytes_of_lt 8 d (by simpa using hd)]

section Examples

/-- an IR with two nodes, whose uuids are 16 bytes `01` and 16 bytes `02` -/
def exNodeUuid (id : Nat) : Bytes := List.replicate 16 (UInt8.ofNat id)
def exLookup (u : Bytes) : Option Nat :=
  if u = List.replicate 16 1 then some 1 else if u = List.replicate 16 2 then some 2 else none

/-- the table agrees with the nodes: `Coherent exLookup exNodeUuid` (`Lemmas/CodecTypingProofs.lean`) -/
theorem exLookup_coherent : ∀ u id, exLookup u = some id → exNodeUuid id = u := by
  intro u id h
  unfold exLookup at h
  split at h
  · cases h
    subst u
    rfl
  · split at h
    · cases h
      subst u
      rfl
    · cases h

/-- a negative `int32_t`, the extremes of `int8_t`, and the top of `uint64_t` -/
example : hasType exLookup exNodeUuid (.leaf .i32) (.int (-5)) = true := by decide
example : hasType exLookup exNodeUuid (.seq (.leaf .i8)) (.seq [.int (-128), .int 127]) = true := by
  decide
example : hasType exLookup exNodeUuid (.leaf .u64) (.int 18446744073709551615) = true := by decide
/-- out-of-range values are *not* in the type (the predicate is not trivially true) -/
example : hasType exLookup exNodeUuid (.leaf .i8) (.int 128) = false := by decide
example : hasType exLookup exNodeUuid (.set (.leaf .i32)) (.set [.int 1, .int 1]) = false := by decide
/-- a plain UUID that names a node is not a value (it would come back as the node) -/
example : hasType exLookup exNodeUuid (.leaf .uuid) (.uuid (List.replicate 16 1)) = false := by decide

/-- `mapping<UUID,set<int32_t>>` with a node key and a plain-UUID key -/
example : hasType exLookup exNodeUuid (.map (.leaf .uuid) (.set (.leaf .i32)))
    (.map [.node 1, .uuid (List.replicate 16 7)] [.set [.int (-5), .int 3], .set []]) = true := by
  decide

/-- `sequence<tuple<Offset,variant<bool,tuple<double,Addr>>>>`: nested tuple and variant -/
example : hasType exLookup exNodeUuid
    (.seq (.tuple [.leaf .offset, .variant [.leaf .bool, .tuple [.leaf .f64, .leaf .addr]]]))
    (.seq [.tuple [.offset (.node 2) 40, .variant 1 (.tuple [.f64 0x7ff8000000000000, .int 4096])],
           .tuple [.offset (.uuid (List.replicate 16 9)) 0, .variant 0 (.bool true)]]) = true := by
  decide

/-- a set holding two NaNs with the same bit pattern (NaN ≠ NaN in Python) -/
example : hasType exLookup exNodeUuid (.set (.leaf .f32)) (.set [.f32 0x7fc00000, .f32 0x7fc00000])
    = true := by decide

/-- a non-ASCII string (6 UTF-8 bytes for 5 characters), alone and as a mapping key -/
example : hasType exLookup exNodeUuid (.leaf .string) (.str "héllo") = true := by
  simp only [hasType, leafHasType, utf8_length_eq, decide_eq_true_eq]
  decide
example : hasType exLookup exNodeUuid (.map (.leaf .string) (.leaf .u8))
    (.map [.str "héllo", .str "日本"] [.int 1, .int 255]) = true := by
  simp only [hasType, leafHasType, allMany, utf8_length_eq, Bool.and_eq_true, decide_eq_true_eq]
  decide

/-- the theorem applied: the wire bytes of a concrete mapping and their decoding -/
theorem ex_encode : encode exNodeUuid (.map (.leaf .uuid) (.seq (.leaf .i16)))
    (.map [.node 1] [.seq [.int (-2)]]) =
    some ([1, 0, 0, 0, 0, 0, 0, 0] ++ List.replicate 16 1 ++ [1, 0, 0, 0, 0, 0, 0, 0, 0xfe, 0xff]) := by
  decide
example : encode exNodeUuid (.map (.leaf .uuid) (.seq (.leaf .i16)))
    (.map [.node 1] [.seq [.int (-2)]]) =
    some ([1, 0, 0, 0, 0, 0, 0, 0] ++ List.replicate 16 1 ++ [1, 0, 0, 0, 0, 0, 0, 0, 0xfe, 0xff]) :=
  ex_encode
example (rest : Bytes) : decode exLookup (.map (.leaf .uuid) (.seq (.leaf .i16)))
    ([1, 0, 0, 0, 0, 0, 0, 0] ++ List.replicate 16 1 ++ [1, 0, 0, 0, 0, 0, 0, 0, 0xfe, 0xff] ++ rest)
    = .ok (.map [.node 1] [.seq [.int (-2)]], rest) :=
  decode_encode (by decide) ex_encode rest

end Examples

end Gtirb.Codec
