import GtirbProofs.Props.C18Nodes
/-! C18: `deep_eq` on the observable content of an IR (`deepEq` on `IRV`).

`deepEq a b = true ↔ canon a = canon b` (`C18_iff`), where `canon` sorts every
child list by its key, sorts flag / attribute sets and edges, and keeps only the
sorted AuxData keys.  Symmetry is proved directly and needs no hypothesis;
everything else is a corollary: reflexive, insensitive to the order of any
collection, AuxData values ignored, and one lemma per compared field saying that a difference in
that field between corresponding nodes (same UUID, reached along the same path) makes it false.

The hypotheses `DistinctSiblings` and `SelfContained` are defined in `Lemmas/DeepEqProofs.lean`.
None on the length of UUIDs is needed: `bytesLe` is a total order on byte strings of any length. -/
namespace Gtirb.Msg

/-- reflexive (every reference has to resolve: a dangling reference is not
`deep_eq` to itself in the model. It CAN occur through the API -
`Symbol(referent=free_block)` - and Python's `deep_eq`, which follows the
object, is reflexive there too: the model's `deepEq` can coincide with the code's
only on IRs whose references resolve, see `C18_refl_iff` in C18Refl.lean) -/
theorem C18_refl (v : IRV) (hs : SelfContained v) : deepEq v v = true :=
  deepEq_of_canon_agree (agree_refl v) hs.refsResolve rfl

theorem C18_symm (a b : IRV) : deepEq a b = deepEq b a := by
  unfold deepEq
  rw [allZip_comm (g := moduleDeepEq b a) (moduleDeepEq_comm a b), cfgDeepEq_comm a b,
    Bool.beq_comm (a := a.uuid), sameKeys_comm a.aux, Bool.beq_comm (a := a.modules.length),
    Bool.beq_comm (a := a.version)]

theorem C18_iff (a b : IRV) (hda : DistinctSiblings a) (hdb : DistinctSiblings b)
    (hsa : SelfContained a) (hsb : SelfContained b) :
    deepEq a b = true ↔ canon a = canon b :=
  (deepEq_iff_canon hda hdb hsb.blocksNodup hsb.symbolsNodup).trans (and_iff_left hsa.refsResolve)

/-- the two halves with the hypotheses each one needs -/
theorem C18_sound (a b : IRV) (hda : DistinctSiblings a) (hdb : DistinctSiblings b)
    (h : deepEq a b = true) : canon a = canon b := deepEq_canon hda hdb h

theorem C18_complete (a b : IRV) (hsa : SelfContained a) (hsb : SelfContained b)
    (h : canon a = canon b) : deepEq a b = true :=
  deepEq_of_canon_agree (agree_of_canon hsb.blocksNodup hsb.symbolsNodup h) hsa.refsResolve h

/-- transitive, through the canonical forms (of the middle IR only `DistinctSiblings` is used) -/
theorem C18_trans (a b c : IRV) (hda : DistinctSiblings a) (hdb : DistinctSiblings b)
    (hdc : DistinctSiblings c) (hsa : SelfContained a) (hsc : SelfContained c)
    (hab : deepEq a b = true) (hbc : deepEq b c = true) : deepEq a c = true :=
  C18_complete a c hsa hsc ((deepEq_canon hda hdb hab).trans (deepEq_canon hdb hdc hbc))

/-! ### insensitive to iteration order -/

/-- two IRs with the same canonical form (e.g. one a reordering of the other)
are indistinguishable by `deep_eq` -/
theorem C18_order (a a' b : IRV) (hperm : canon a = canon a')
    (hda : DistinctSiblings a) (hda' : DistinctSiblings a') (hdb : DistinctSiblings b)
    (hsa : SelfContained a) (hsa' : SelfContained a') (hsb : SelfContained b) :
    deepEq a b = deepEq a' b :=
  Bool.eq_iff_iff.2 (by rw [C18_iff a b hda hdb hsa hsb, C18_iff a' b hda' hdb hsa' hsb, hperm])

theorem C18_sort_perm {α : Type} (k : α → U) (l : List α) :
    (sortBy (fun x y => bytesLe (k x) (k y)) l).Perm l := perm_sortBy _ l

theorem C18_sort_unique {α : Type} (k : α → U) (l l' : List α) (hp : l.Perm l')
    (hn : (l.map k).Nodup) :
    sortBy (fun x y => bytesLe (k x) (k y)) l = sortBy (fun x y => bytesLe (k x) (k y)) l' :=
  sortBy_eq_of_perm bytesLe_order k hp (List.inj_of_nodup_map hn)

/-! Permuting any one child list leaves the canonical form unchanged ... -/

theorem C18_perm_modules (a : IRV) (ms : List ModuleV) (hp : a.modules.Perm ms)
    (hn : (a.modules.map (·.uuid)).Nodup) : canon { a with modules := ms } = canon a := by
  simp only [canon, C18_sort_unique ModuleV.uuid _ _ hp hn]

theorem C18_perm_edges (a : IRV) (es : List EdgeV) (hp : a.edges.Perm es) :
    canon { a with edges := es } = canon a := by
  simp only [canon, sortBy_edge_perm hp]

theorem C18_perm_aux (a : IRV) (aux' : List AuxV) (hp : a.aux.Perm aux') :
    canon { a with aux := aux' } = canon a := by
  simp only [canon, canonAux_perm hp]

theorem C18_perm_sections (m : ModuleV) (ss : List SectionV) (hp : m.sections.Perm ss)
    (hn : (m.sections.map (·.uuid)).Nodup) :
    canonModule { m with sections := ss } = canonModule m := by
  simp only [canonModule, C18_sort_unique SectionV.uuid _ _ hp hn]

theorem C18_perm_symbols (m : ModuleV) (ss : List SymbolV) (hp : m.symbols.Perm ss)
    (hn : (m.symbols.map (·.uuid)).Nodup) :
    canonModule { m with symbols := ss } = canonModule m := by
  simp only [canonModule, C18_sort_unique SymbolV.uuid _ _ hp hn]

theorem C18_perm_proxies (m : ModuleV) (ps : List U) (hp : m.proxies.Perm ps) :
    canonModule { m with proxies := ps } = canonModule m := by
  simp only [canonModule, sortBy_bytes_perm hp]

theorem C18_perm_module_aux (m : ModuleV) (aux' : List AuxV) (hp : m.aux.Perm aux') :
    canonModule { m with aux := aux' } = canonModule m := by
  simp only [canonModule, canonAux_perm hp]

theorem C18_perm_intervals (s : SectionV) (is : List IntervalV) (hp : s.intervals.Perm is)
    (hn : (s.intervals.map (·.uuid)).Nodup) :
    canonSection { s with intervals := is } = canonSection s := by
  simp only [canonSection, C18_sort_unique IntervalV.uuid _ _ hp hn]

theorem C18_perm_flags (s : SectionV) (fs : List Nat) (hp : s.flags.Perm fs) :
    canonSection { s with flags := fs } = canonSection s := by
  simp only [canonSection, sortNats_perm hp]

theorem C18_perm_blocks (i : IntervalV) (bs : List BlockV) (hp : i.blocks.Perm bs)
    (hn : (i.blocks.map (·.uuid)).Nodup) :
    canonInterval { i with blocks := bs } = canonInterval i := by
  simp only [canonInterval, C18_sort_unique BlockV.uuid _ _ hp hn]

theorem C18_perm_exprs (i : IntervalV) (es : List ExprEntryV) (hp : i.exprs.Perm es)
    (hn : (i.exprs.map (·.key)).Nodup) :
    canonInterval { i with exprs := es } = canonInterval i := by
  simp only [canonInterval, sortBy_key_perm hp hn]

theorem C18_perm_attrs (e : ExprEntryV) (as : List Nat) (hp : e.attrs.Perm as) :
    canonExpr { e with attrs := as } = canonExpr e := by
  simp only [canonExpr, sortNats_perm hp]

/-! ... and the canonical form of a parent only depends on the canonical forms
of its children, so reorderings at any depth compose. -/

theorem C18_congr_modules (a : IRV) (ms : List ModuleV)
    (h : ms.map canonModule = a.modules.map canonModule) :
    canon { a with modules := ms } = canon a := by
  have e := fun l => map_sortBy (g := canonModule) (le := fun a b => bytesLe a.uuid b.uuid)
    (le' := fun a b => bytesLe a.uuid b.uuid) (fun _ _ => rfl) l
  simp only [canon, e, h]

theorem C18_congr_sections (m : ModuleV) (ss : List SectionV)
    (h : ss.map canonSection = m.sections.map canonSection) :
    canonModule { m with sections := ss } = canonModule m := by
  have e := fun l => map_sortBy (g := canonSection) (le := fun a b => bytesLe a.uuid b.uuid)
    (le' := fun a b => bytesLe a.uuid b.uuid) (fun _ _ => rfl) l
  simp only [canonModule, e, h]

theorem C18_congr_intervals (s : SectionV) (is : List IntervalV)
    (h : is.map canonInterval = s.intervals.map canonInterval) :
    canonSection { s with intervals := is } = canonSection s := by
  have e := fun l => map_sortBy (g := canonInterval) (le := fun a b => bytesLe a.uuid b.uuid)
    (le' := fun a b => bytesLe a.uuid b.uuid) (fun _ _ => rfl) l
  simp only [canonSection, e, h]

theorem C18_congr_exprs (i : IntervalV) (es : List ExprEntryV)
    (h : es.map canonExpr = i.exprs.map canonExpr) :
    canonInterval { i with exprs := es } = canonInterval i := by
  have e := fun l => map_sortBy (g := canonExpr) (le := fun a b => decide (a.key ≤ b.key))
    (le' := fun a b => decide (a.key ≤ b.key)) (fun _ _ => rfl) l
  have e' : ∀ l : List ExprEntryV, l.map (fun e => { e with attrs := sortNats e.attrs }) = l.map canonExpr :=
    fun _ => rfl
  simp only [canonInterval, e', e, h]

/-! ### AuxData: keys compared, values ignored -/

theorem C18_field_aux_keys (a b : IRV)
    (h : ¬ ∀ k, k ∈ a.aux.map (·.key) ↔ k ∈ b.aux.map (·.key)) : deepEq a b = false :=
  Bool.eq_false_iff.2 fun hd => h (sameKeys_iff.1 (deepEq_iff.1 hd).2.1)

theorem canon_reAux (a : IRV) (fi : List AuxV) (fm : ModuleV → List AuxV)
    (hi : fi.map (·.key) = a.aux.map (·.key))
    (hm : ∀ m ∈ a.modules, (fm m).map (·.key) = m.aux.map (·.key)) :
    canon (reAux a fi fm) = canon a := by
  have hms : (a.modules.map fun m => { m with aux := fm m }).map canonModule
      = a.modules.map canonModule := by
    rw [List.map_map]
    exact List.map_congr_left fun m hm' => by
      simp only [Function.comp, canonModule, canonAux_keys (hm m hm')]
  exact (C18_congr_modules { a with aux := fi } _ hms).trans (by simp only [canon, canonAux_keys hi])

/-- replacing every AuxData table (of the IR and of each module) by one with
the same keys in the same order, whatever the type names and bytes, is not
noticed; together with `C18_perm_aux` / `C18_perm_module_aux` the order of the
keys does not matter either -/
theorem C18_aux_values_ignored (a : IRV) (hs : SelfContained a) (fi : List AuxV)
    (fm : ModuleV → List AuxV) (hi : fi.map (·.key) = a.aux.map (·.key))
    (hm : ∀ m ∈ a.modules, (fm m).map (·.key) = m.aux.map (·.key)) :
    deepEq a (reAux a fi fm) = true :=
  deepEq_of_canon_agree (agree_reAux a fi fm) hs.refsResolve (canon_reAux a fi fm hi hm).symm

/-! ### one lemma per compared field

`ModPath a b m m'` (`Lemmas/DeepEqProofs.lean`): `m` is a module of `a`, `m'` a module of `b`, same
UUID; `SecPath`, `IntPath`: sections, byte intervals with the same UUID inside such modules, sections.

Corresponding nodes (same UUID, same path) of `deep_eq` IRs are `deep_eq` as nodes, by
descending with `C18_node_module_section` / `_section_interval` / `_interval_expr`; the nodes
on a path inherit `Distinct*`. -/

section
variable {a b : IRV} (hdb : DistinctSiblings b) (hd : deepEq a b = true)
include hdb hd

theorem deepEq_module_corr {m m' : ModuleV} (p : ModPath a b m m') : moduleDeepEq a b m m' = true :=
  corr_of_allZip_sortBy (k := (·.uuid)) (fun _ _ h => (moduleDeepEq_iff.1 h).1.1) hdb.1
    (deepEq_iff.1 hd).2.2.2.1 p.mem p.mem' p.uuid

theorem deepEq_section_corr {s s' : SectionV} (p : SecPath a b s s') :
    sectionDeepEq a b s s' = true :=
  let ⟨m, m', pm, hs, hs'⟩ := p.mod
  C18_node_module_section a b m m' (hdb.mod pm.mem').2.1 (deepEq_module_corr hdb hd pm) hs hs' p.uuid

theorem deepEq_interval_corr {i i' : IntervalV} (p : IntPath a b i i') :
    intervalDeepEq a b i i' = true :=
  let ⟨s, s', ps, hi, hi'⟩ := p.sec
  let ⟨_, _, pm, _, hs'⟩ := ps.mod
  C18_node_section_interval a b s s' ((hdb.mod pm.mem').sec hs').2.1 (deepEq_section_corr hdb hd ps)
    hi hi' p.uuid

end

section
variable {a b : IRV} (hda : DistinctSiblings a) (hdb : DistinctSiblings b)
include hda hdb

theorem ModPath.distinct {m m' : ModuleV} (p : ModPath a b m m') :
    DistinctModule m ∧ DistinctModule m' := ⟨hda.mod p.mem, hdb.mod p.mem'⟩

theorem SecPath.distinct {s s' : SectionV} (p : SecPath a b s s') :
    DistinctSection s ∧ DistinctSection s' :=
  let ⟨_, _, pm, hs, hs'⟩ := p.mod
  ⟨(pm.distinct hda hdb).1.sec hs, (pm.distinct hda hdb).2.sec hs'⟩

theorem IntPath.distinct {i i' : IntervalV} (p : IntPath a b i i') :
    DistinctInterval i ∧ DistinctInterval i' :=
  let ⟨_, _, ps, hi, hi'⟩ := p.sec
  ⟨(ps.distinct hda hdb).1.int hi, (ps.distinct hda hdb).2.int hi'⟩

end

/-- The shape of every field lemma below: corresponding nodes of `deep_eq` IRs have the same
canonical form; a property `P` that follows from that and fails separates the IRs. -/
theorem deepEq_false_of_module {a b : IRV} (hda : DistinctSiblings a) (hdb : DistinctSiblings b)
    {m m' : ModuleV} (p : ModPath a b m m') {P : Prop} (hP : canonModule m = canonModule m' → P)
    (h : ¬ P) : deepEq a b = false :=
  Bool.eq_false_iff.2 fun hd => h (hP (moduleDeepEq_canon (p.distinct hda hdb).1 (p.distinct hda hdb).2
    (deepEq_module_corr hdb hd p)))

theorem deepEq_false_of_section {a b : IRV} (hda : DistinctSiblings a) (hdb : DistinctSiblings b)
    {s s' : SectionV} (p : SecPath a b s s') {P : Prop} (hP : canonSection s = canonSection s' → P)
    (h : ¬ P) : deepEq a b = false :=
  Bool.eq_false_iff.2 fun hd => h (hP (sectionDeepEq_canon (p.distinct hda hdb).1 (p.distinct hda hdb).2
    (deepEq_section_corr hdb hd p)))

theorem deepEq_false_of_interval {a b : IRV} (hda : DistinctSiblings a) (hdb : DistinctSiblings b)
    {i i' : IntervalV} (p : IntPath a b i i') {P : Prop}
    (hP : canonInterval i = canonInterval i' → P) (h : ¬ P) : deepEq a b = false :=
  Bool.eq_false_iff.2 fun hd => h (hP (intervalDeepEq_canon (p.distinct hda hdb).1 (p.distinct hda hdb).2
    (deepEq_interval_corr hdb hd p)))

theorem deepEq_false_of_expr {a b : IRV} (hda : DistinctSiblings a) (hdb : DistinctSiblings b)
    {i i' : IntervalV} (p : IntPath a b i i') {e e' : ExprEntryV} (he : e ∈ i.exprs)
    (he' : e' ∈ i'.exprs) (hk : e.key = e'.key) {P : Prop} (hP : canonExpr e = canonExpr e' → P)
    (h : ¬ P) : deepEq a b = false :=
  Bool.eq_false_iff.2 fun hd => h (hP (exprDeepEq_canon ((p.distinct hda hdb).1.attrs e he)
    ((p.distinct hda hdb).2.attrs e' he') (C18_node_interval_expr a b i i' (p.distinct hda hdb).2.2.1
      (deepEq_interval_corr hdb hd p) he he' hk)))

theorem C18_field_uuid (a b : IRV) (h : a.uuid ≠ b.uuid) : deepEq a b = false :=
  Bool.eq_false_iff.2 fun hd => h (deepEq_iff.1 hd).1

theorem C18_field_version (a b : IRV) (h : a.version ≠ b.version) : deepEq a b = false :=
  Bool.eq_false_iff.2 fun hd => h (deepEq_iff.1 hd).2.2.2.2.1

/-- containment tree: a module of `a` whose UUID does not occur in `b` -/
theorem C18_field_module_missing (a b : IRV) (hda : DistinctSiblings a) (hdb : DistinctSiblings b)
    {m : ModuleV} (hm : m ∈ a.modules) (h : ∀ m' ∈ b.modules, m'.uuid ≠ m.uuid) :
    deepEq a b = false :=
  Bool.eq_false_iff.2 fun hd =>
    let ⟨m', hm', e⟩ := exists_of_allZip_sortBy (deepEq_iff.1 hd).2.2.2.1 hm
    h m' hm' (moduleDeepEq_iff.1 e).1.1.symm

theorem C18_field_module_name (a b : IRV) (hda : DistinctSiblings a) (hdb : DistinctSiblings b)
    {m m' : ModuleV} (p : ModPath a b m m') (h : m.name ≠ m'.name) : deepEq a b = false :=
  deepEq_false_of_module hda hdb p (congrArg ModuleV.name) h

theorem C18_field_module_binaryPath (a b : IRV) (hda : DistinctSiblings a) (hdb : DistinctSiblings b)
    {m m' : ModuleV} (p : ModPath a b m m') (h : m.binaryPath ≠ m'.binaryPath) : deepEq a b = false :=
  deepEq_false_of_module hda hdb p (congrArg ModuleV.binaryPath) h

theorem C18_field_module_isa (a b : IRV) (hda : DistinctSiblings a) (hdb : DistinctSiblings b)
    {m m' : ModuleV} (p : ModPath a b m m') (h : m.isa ≠ m'.isa) : deepEq a b = false :=
  deepEq_false_of_module hda hdb p (congrArg ModuleV.isa) h

theorem C18_field_module_fileFormat (a b : IRV) (hda : DistinctSiblings a) (hdb : DistinctSiblings b)
    {m m' : ModuleV} (p : ModPath a b m m') (h : m.fileFormat ≠ m'.fileFormat) : deepEq a b = false :=
  deepEq_false_of_module hda hdb p (congrArg ModuleV.fileFormat) h

theorem C18_field_module_byteOrder (a b : IRV) (hda : DistinctSiblings a) (hdb : DistinctSiblings b)
    {m m' : ModuleV} (p : ModPath a b m m') (h : m.byteOrder ≠ m'.byteOrder) : deepEq a b = false :=
  deepEq_false_of_module hda hdb p (congrArg ModuleV.byteOrder) h

theorem C18_field_module_preferredAddr (a b : IRV) (hda : DistinctSiblings a) (hdb : DistinctSiblings b)
    {m m' : ModuleV} (p : ModPath a b m m') (h : m.preferredAddr ≠ m'.preferredAddr) : deepEq a b = false :=
  deepEq_false_of_module hda hdb p (congrArg ModuleV.preferredAddr) h

theorem C18_field_module_rebaseDelta (a b : IRV) (hda : DistinctSiblings a) (hdb : DistinctSiblings b)
    {m m' : ModuleV} (p : ModPath a b m m') (h : m.rebaseDelta ≠ m'.rebaseDelta) : deepEq a b = false :=
  deepEq_false_of_module hda hdb p (congrArg ModuleV.rebaseDelta) h

theorem C18_field_module_entryPoint (a b : IRV) (hda : DistinctSiblings a) (hdb : DistinctSiblings b)
    {m m' : ModuleV} (p : ModPath a b m m') (h : m.entryPoint ≠ m'.entryPoint) : deepEq a b = false :=
  deepEq_false_of_module hda hdb p (congrArg ModuleV.entryPoint) h

theorem C18_field_module_proxies (a b : IRV) (hda : DistinctSiblings a) (hdb : DistinctSiblings b)
    {m m' : ModuleV} (p : ModPath a b m m') (h : ¬ ∀ u, u ∈ m.proxies ↔ u ∈ m'.proxies) :
    deepEq a b = false :=
  deepEq_false_of_module hda hdb p (fun e => mem_iff_of_sortBy_eq (congrArg ModuleV.proxies e)) h

theorem C18_field_module_aux_keys (a b : IRV) (hda : DistinctSiblings a) (hdb : DistinctSiblings b)
    {m m' : ModuleV} (p : ModPath a b m m')
    (h : ¬ ∀ k, k ∈ m.aux.map (·.key) ↔ k ∈ m'.aux.map (·.key)) : deepEq a b = false :=
  deepEq_false_of_module hda hdb p
    (fun e => sameKeys_iff.1 (sameKeys_of_canonAux_eq (congrArg ModuleV.aux e))) h

theorem C18_field_module_symbols (a b : IRV) (hda : DistinctSiblings a) (hdb : DistinctSiblings b)
    {m m' : ModuleV} (p : ModPath a b m m') (h : ¬ ∀ s, s ∈ m.symbols ↔ s ∈ m'.symbols) :
    deepEq a b = false :=
  deepEq_false_of_module hda hdb p (fun e => mem_iff_of_sortBy_eq (congrArg ModuleV.symbols e)) h

/-! symbols (UUIDs unique in the IR) -/

theorem C18_field_symbol (a b : IRV) (hda : DistinctSiblings a) (hdb : DistinctSiblings b)
    (hsb : SelfContained b) {s s' : SymbolV} (hs : s ∈ a.symbols) (hs' : s' ∈ b.symbols)
    (hu : s.uuid = s'.uuid) (h : s ≠ s') : deepEq a b = false :=
  Bool.eq_false_iff.2 fun hd => h
    (List.inj_of_nodup_map hsb.symbolsNodup s ((mem_symbols_of_canon (deepEq_canon hda hdb hd) s).1 hs) s' hs' hu)

theorem C18_field_symbol_missing (a b : IRV) (hda : DistinctSiblings a) (hdb : DistinctSiblings b)
    {s : SymbolV} (hs : s ∈ a.symbols) (h : ∀ s' ∈ b.symbols, s'.uuid ≠ s.uuid) :
    deepEq a b = false :=
  Bool.eq_false_iff.2 fun hd => h s ((mem_symbols_of_canon (deepEq_canon hda hdb hd) s).1 hs) rfl

theorem C18_field_symbol_name (a b : IRV) (hda : DistinctSiblings a) (hdb : DistinctSiblings b)
    (hsb : SelfContained b) {s s' : SymbolV} (hs : s ∈ a.symbols) (hs' : s' ∈ b.symbols)
    (hu : s.uuid = s'.uuid) (h : s.name ≠ s'.name) : deepEq a b = false :=
  C18_field_symbol a b hda hdb hsb hs hs' hu (fun e => h (e ▸ rfl))

theorem C18_field_symbol_payload (a b : IRV) (hda : DistinctSiblings a) (hdb : DistinctSiblings b)
    (hsb : SelfContained b) {s s' : SymbolV} (hs : s ∈ a.symbols) (hs' : s' ∈ b.symbols)
    (hu : s.uuid = s'.uuid) (h : s.payload ≠ s'.payload) : deepEq a b = false :=
  C18_field_symbol a b hda hdb hsb hs hs' hu (fun e => h (e ▸ rfl))

theorem C18_field_symbol_atEnd (a b : IRV) (hda : DistinctSiblings a) (hdb : DistinctSiblings b)
    (hsb : SelfContained b) {s s' : SymbolV} (hs : s ∈ a.symbols) (hs' : s' ∈ b.symbols)
    (hu : s.uuid = s'.uuid) (h : s.atEnd ≠ s'.atEnd) : deepEq a b = false :=
  C18_field_symbol a b hda hdb hsb hs hs' hu (fun e => h (e ▸ rfl))

theorem C18_field_section_missing (a b : IRV) (hda : DistinctSiblings a) (hdb : DistinctSiblings b)
    {m m' : ModuleV} (p : ModPath a b m m') {s : SectionV} (hs : s ∈ m.sections)
    (h : ∀ s' ∈ m'.sections, s'.uuid ≠ s.uuid) : deepEq a b = false :=
  Bool.eq_false_iff.2 fun hd =>
    let ⟨s', hs', e⟩ := exists_of_allZip_sortBy
      (moduleDeepEq_iff.1 (deepEq_module_corr hdb hd p)).1.2.2.2.2.2.2.2.2.2.2.2.1 hs
    h s' hs' (sectionDeepEq_iff.1 e).1.symm

theorem C18_field_section_name (a b : IRV) (hda : DistinctSiblings a) (hdb : DistinctSiblings b)
    {s s' : SectionV} (p : SecPath a b s s') (h : s.name ≠ s'.name) : deepEq a b = false :=
  deepEq_false_of_section hda hdb p (congrArg SectionV.name) h

theorem C18_field_section_flags (a b : IRV) (hda : DistinctSiblings a) (hdb : DistinctSiblings b)
    {s s' : SectionV} (p : SecPath a b s s') (h : ¬ ∀ x, x ∈ s.flags ↔ x ∈ s'.flags) :
    deepEq a b = false :=
  deepEq_false_of_section hda hdb p
    (fun e => sameSet_iff.1 (sameSet_of_sortNats_eq (congrArg SectionV.flags e))) h

theorem C18_field_interval_missing (a b : IRV) (hda : DistinctSiblings a) (hdb : DistinctSiblings b)
    {s s' : SectionV} (p : SecPath a b s s') {i : IntervalV} (hi : i ∈ s.intervals)
    (h : ∀ i' ∈ s'.intervals, i'.uuid ≠ i.uuid) : deepEq a b = false :=
  Bool.eq_false_iff.2 fun hd =>
    let ⟨i', hi', e⟩ := exists_of_allZip_sortBy
      (sectionDeepEq_iff.1 (deepEq_section_corr hdb hd p)).2.2.2.1 hi
    h i' hi' (intervalDeepEq_iff.1 e).1.symm

theorem C18_field_interval_addr (a b : IRV) (hda : DistinctSiblings a) (hdb : DistinctSiblings b)
    {i i' : IntervalV} (p : IntPath a b i i') (h : i.addr ≠ i'.addr) : deepEq a b = false :=
  deepEq_false_of_interval hda hdb p (congrArg IntervalV.addr) h

theorem C18_field_interval_size (a b : IRV) (hda : DistinctSiblings a) (hdb : DistinctSiblings b)
    {i i' : IntervalV} (p : IntPath a b i i') (h : i.size ≠ i'.size) : deepEq a b = false :=
  deepEq_false_of_interval hda hdb p (congrArg IntervalV.size) h

theorem C18_field_interval_contents (a b : IRV) (hda : DistinctSiblings a) (hdb : DistinctSiblings b)
    {i i' : IntervalV} (p : IntPath a b i i') (h : i.contents ≠ i'.contents) : deepEq a b = false :=
  deepEq_false_of_interval hda hdb p (congrArg IntervalV.contents) h

/-- corresponding intervals hold the same block values (a block moved to
another interval, added, removed or changed is noticed) -/
theorem C18_field_interval_blocks (a b : IRV) (hda : DistinctSiblings a) (hdb : DistinctSiblings b)
    {i i' : IntervalV} (p : IntPath a b i i') (h : ¬ ∀ x, x ∈ i.blocks ↔ x ∈ i'.blocks) :
    deepEq a b = false :=
  deepEq_false_of_interval hda hdb p (fun e => mem_iff_of_sortBy_eq (congrArg IntervalV.blocks e)) h

/-! blocks (UUIDs unique in the IR) -/

theorem C18_field_block (a b : IRV) (hda : DistinctSiblings a) (hdb : DistinctSiblings b)
    (hsb : SelfContained b) {x y : BlockV} (hx : x ∈ a.blocks) (hy : y ∈ b.blocks)
    (hu : x.uuid = y.uuid) (h : x ≠ y) : deepEq a b = false :=
  Bool.eq_false_iff.2 fun hd => h
    (List.inj_of_nodup_map hsb.blocksNodup x ((mem_blocks_of_canon (deepEq_canon hda hdb hd) x).1 hx) y hy hu)

theorem C18_field_block_missing (a b : IRV) (hda : DistinctSiblings a) (hdb : DistinctSiblings b)
    {x : BlockV} (hx : x ∈ a.blocks) (h : ∀ y ∈ b.blocks, y.uuid ≠ x.uuid) : deepEq a b = false :=
  Bool.eq_false_iff.2 fun hd => h x ((mem_blocks_of_canon (deepEq_canon hda hdb hd) x).1 hx) rfl

theorem C18_field_block_offset (a b : IRV) (hda : DistinctSiblings a) (hdb : DistinctSiblings b)
    (hsb : SelfContained b) {x y : BlockV} (hx : x ∈ a.blocks) (hy : y ∈ b.blocks)
    (hu : x.uuid = y.uuid) (h : x.offset ≠ y.offset) : deepEq a b = false :=
  C18_field_block a b hda hdb hsb hx hy hu (fun e => h (e ▸ rfl))

theorem C18_field_block_size (a b : IRV) (hda : DistinctSiblings a) (hdb : DistinctSiblings b)
    (hsb : SelfContained b) {x y : BlockV} (hx : x ∈ a.blocks) (hy : y ∈ b.blocks)
    (hu : x.uuid = y.uuid) (h : x.size ≠ y.size) : deepEq a b = false :=
  C18_field_block a b hda hdb hsb hx hy hu (fun e => h (e ▸ rfl))

theorem C18_field_block_decodeMode (a b : IRV) (hda : DistinctSiblings a) (hdb : DistinctSiblings b)
    (hsb : SelfContained b) {x y : BlockV} (hx : x ∈ a.blocks) (hy : y ∈ b.blocks)
    (hu : x.uuid = y.uuid) (h : x.decodeMode? ≠ y.decodeMode?) : deepEq a b = false :=
  C18_field_block a b hda hdb hsb hx hy hu (fun e => h (e ▸ rfl))

/-- a data block is never `deep_eq` to a code block with the same UUID, offset
and size, in either direction (this was a defect of `DataBlock.deep_eq`,
which accepted any `ByteBlock` on the other side; fixed in the code) -/
theorem C18_field_block_kind (a b : IRV) (hda : DistinctSiblings a) (hdb : DistinctSiblings b)
    (hsb : SelfContained b) (u : U) (o z d : Nat) (hx : BlockV.data u o z ∈ a.blocks)
    (hy : BlockV.code u o z d ∈ b.blocks) : deepEq a b = false ∧ deepEq b a = false := by
  have h := C18_field_block a b hda hdb hsb hx hy rfl (fun e => by cases e)
  exact ⟨h, by rw [C18_symm b a]; exact h⟩

theorem C18_field_expr_key (a b : IRV) (hda : DistinctSiblings a) (hdb : DistinctSiblings b)
    {i i' : IntervalV} (p : IntPath a b i i') {e : ExprEntryV} (he : e ∈ i.exprs)
    (h : ∀ e' ∈ i'.exprs, e'.key ≠ e.key) : deepEq a b = false :=
  Bool.eq_false_iff.2 fun hd =>
    let ⟨e', he', ee⟩ := exists_of_allZip_sortBy
      (intervalDeepEq_iff.1 (deepEq_interval_corr hdb hd p)).2.2.2.2.2.2 he
    h e' he' (exprDeepEq_iff.1 ee).1.symm

/-- operands: kind, offset / scale, referenced symbols -/
theorem C18_field_expr_operands (a b : IRV) (hda : DistinctSiblings a) (hdb : DistinctSiblings b)
    {i i' : IntervalV} (p : IntPath a b i i') {e e' : ExprEntryV} (he : e ∈ i.exprs)
    (he' : e' ∈ i'.exprs) (hk : e.key = e'.key) (h : e.expr ≠ e'.expr) : deepEq a b = false :=
  deepEq_false_of_expr hda hdb p he he' hk (congrArg ExprEntryV.expr) h

theorem C18_field_expr_attrs (a b : IRV) (hda : DistinctSiblings a) (hdb : DistinctSiblings b)
    {i i' : IntervalV} (p : IntPath a b i i') {e e' : ExprEntryV} (he : e ∈ i.exprs)
    (he' : e' ∈ i'.exprs) (hk : e.key = e'.key) (h : ¬ ∀ x, x ∈ e.attrs ↔ x ∈ e'.attrs) :
    deepEq a b = false :=
  deepEq_false_of_expr hda hdb p he he' hk
    (fun e => sameSet_iff.1 (sameSet_of_sortNats_eq (congrArg ExprEntryV.attrs e))) h

theorem C18_field_edge (a b : IRV) {e : EdgeV} (he : e ∈ a.edges) (h : e ∉ b.edges) :
    deepEq a b = false :=
  Bool.eq_false_iff.2 fun hd => h ((deepEq_mem_edges hd e).1 he)

theorem C18_field_edge_label (a b : IRV) (s d : U) (l : Option EdgeLabelV)
    (he : (⟨s, d, l⟩ : EdgeV) ∈ a.edges)
    (h : ∀ e' ∈ b.edges, e'.src = s → e'.dst = d → e'.label ≠ l) : deepEq a b = false :=
  Bool.eq_false_iff.2 fun hd => h _ ((deepEq_mem_edges hd _).1 he) rfl rfl rfl

theorem C18_field_edge_count (a b : IRV) (h : a.edges.length ≠ b.edges.length) :
    deepEq a b = false :=
  Bool.eq_false_iff.2 fun hd => h (by
    simpa only [length_sortBy] using congrArg List.length (cfgDeepEq_edges (deepEq_iff.1 hd).2.2.2.2.2))

namespace C18Ex

def exU (n : UInt8) : U := List.replicate 15 0 ++ [n]

def exI (swap : Bool) (blk : BlockV) : IntervalV :=
  { uuid := exU 5, addr := some 4096, size := 8, contents := [1, 2, 3, 4],
    blocks := if swap then [blk, .code (exU 10) 0 4 0] else [.code (exU 10) 0 4 0, blk],
    exprs := if swap then [⟨4, .addrAddr 1 0 (exU 30) (exU 31), []⟩, ⟨0, .addrConst 4 (exU 30), [5, 1]⟩]
             else [⟨0, .addrConst 4 (exU 30), [1, 5]⟩, ⟨4, .addrAddr 1 0 (exU 30) (exU 31), []⟩] }

def exSyms : List SymbolV :=
  [⟨exU 30, "main", .referent (exU 10), false⟩, ⟨exU 31, "ext", .referent (exU 20), false⟩,
   ⟨exU 32, "abs", .value 7, true⟩]

def exM (swap : Bool) (blk : BlockV) : ModuleV :=
  { uuid := exU 2, name := "m", binaryPath := "/bin/x", preferredAddr := 4096, rebaseDelta := -4,
    fileFormat := 2, isa := 3, byteOrder := 2, entryPoint := some (exU 10),
    proxies := if swap then [exU 21, exU 20] else [exU 20, exU 21],
    sections :=
      if swap then [⟨exU 4, ".data", [], []⟩, ⟨exU 3, ".text", [2, 1], [exI swap blk]⟩]
      else [⟨exU 3, ".text", [1, 2], [exI swap blk]⟩, ⟨exU 4, ".data", [], []⟩],
    symbols := if swap then exSyms.reverse else exSyms,
    aux := if swap then [⟨"b", "t2", [9]⟩, ⟨"a", "t1", []⟩] else [⟨"a", "t", [1]⟩, ⟨"b", "t", []⟩] }

/-- `swap = true`: every collection reordered and all AuxData values changed -/
def exIR (swap : Bool) (blk : BlockV) : IRV :=
  { uuid := exU 1, version := 4, modules := [exM swap blk],
    edges := if swap then [⟨exU 10, exU 21, none⟩, ⟨exU 10, exU 20, some ⟨1, true, true⟩⟩]
             else [⟨exU 10, exU 20, some ⟨1, true, true⟩⟩, ⟨exU 10, exU 21, none⟩],
    aux := if swap then [⟨"k2", "x", [1]⟩, ⟨"k1", "y", []⟩] else [⟨"k1", "t", [1]⟩, ⟨"k2", "t", []⟩] }

def exA : IRV := exIR false (.data (exU 11) 4 4)
def exA' : IRV := exIR true (.data (exU 11) 4 4)
/-- one-field perturbations of `exA'` -/
def exKind : IRV := exIR true (.code (exU 11) 4 4 0)
def exSize : IRV := exIR true (.data (exU 11) 4 3)
def exVersion : IRV := { exA' with version := 3 }
def exLabel : IRV :=
  { exA' with edges := [⟨exU 10, exU 21, none⟩, ⟨exU 10, exU 20, some ⟨1, true, false⟩⟩] }
def exAuxKey : IRV := { exA' with aux := [⟨"k2", "x", [1]⟩, ⟨"k3", "y", []⟩] }

theorem ok_exA : DistinctSiblings exA ∧ SelfContained exA := by decide +kernel
theorem ok_exA' : DistinctSiblings exA' ∧ SelfContained exA' := by decide +kernel
theorem ok_exKind : DistinctSiblings exKind ∧ SelfContained exKind := by decide +kernel
theorem ok_exSize : DistinctSiblings exSize ∧ SelfContained exSize := by decide +kernel
theorem canon_exA : canon exA = canon exA' := by decide +kernel

theorem deepEq_exA_exSize : deepEq exA exSize = false :=
  C18_field_block_size exA exSize ok_exA.1 ok_exSize.1 ok_exSize.2
    (x := .data (exU 11) 4 4) (y := .data (exU 11) 4 3) (by decide) (by decide) rfl (by decide)

theorem deepEq_exA_exKind : deepEq exA exKind = false ∧ deepEq exKind exA = false :=
  C18_field_block_kind exA exKind ok_exA.1 ok_exKind.1 ok_exKind.2 (exU 11) 4 4 0
    (by decide) (by decide)

example : DistinctSiblings exA ∧ SelfContained exA := ok_exA
example : DistinctSiblings exA' ∧ SelfContained exA' := ok_exA'
example : DistinctSiblings exKind ∧ SelfContained exKind := ok_exKind
example : exA ≠ exA' := by decide
example : deepEq exA exA' = true ∧ deepEq exA' exA = true :=
  ⟨C18_complete _ _ ok_exA.2 ok_exA'.2 canon_exA, C18_complete _ _ ok_exA'.2 ok_exA.2 canon_exA.symm⟩
example : canon exA = canon exA' := canon_exA
example : deepEq exA exKind = false ∧ deepEq exKind exA = false := deepEq_exA_exKind
example : deepEq exA exSize = false := deepEq_exA_exSize
example : deepEq exA exVersion = false := C18_field_version exA exVersion (by decide)
example : deepEq exA exLabel = false :=
  C18_field_edge exA exLabel (e := ⟨exU 10, exU 20, some ⟨1, true, true⟩⟩) (by decide) (by decide)
example : deepEq exA exAuxKey = false :=
  C18_field_aux_keys exA exAuxKey fun h => absurd ((h "k1").1 (by decide)) (by decide)
/-- the hypotheses are needed: a dangling referent is not `deep_eq` to itself -/
example : deepEq { exA with edges := [⟨exU 10, exU 99, none⟩] }
    { exA with edges := [⟨exU 10, exU 99, none⟩] } = false :=
  Bool.eq_false_iff.2 fun h => absurd ((deepEq_resolves h).2 _ (List.mem_singleton.2 rfl)).2 (by decide)
/-- ... and duplicate flags separate `deep_eq` (a set comparison) from `canon` -/
example : let s : SectionV := ⟨exU 3, "s", [1, 1], []⟩
    sectionDeepEq exA exA s { s with flags := [1] } = true
      ∧ canonSection s ≠ canonSection { s with flags := [1] } := by decide

/-! the field lemmas apply to these (their path hypotheses are satisfiable) -/
def exAddr : IRV :=
  { exA' with modules := [{ exM true (.data (exU 11) 4 4) with
      sections := [⟨exU 4, ".data", [], []⟩,
        ⟨exU 3, ".text", [2, 1], [{ exI true (.data (exU 11) 4 4) with addr := none }]⟩] }] }

example : deepEq exA exSize = false := deepEq_exA_exSize

example : deepEq exA exKind = false ∧ deepEq exKind exA = false := deepEq_exA_exKind

example : deepEq exA exAddr = false :=
  C18_field_interval_addr exA exAddr ok_exA.1 (by decide)
    (i := exI false (.data (exU 11) 4 4)) (i' := { exI true (.data (exU 11) 4 4) with addr := none })
    ⟨⟨_, _, ⟨⟨_, _, ⟨List.mem_singleton.2 rfl, List.mem_singleton.2 rfl, rfl⟩,
      List.mem_cons_self, List.mem_cons_of_mem _ List.mem_cons_self⟩, rfl⟩,
      List.mem_singleton.2 rfl, List.mem_singleton.2 rfl⟩, rfl⟩ (by decide)

example : deepEq exA (reAux exA [⟨"k1", "other", [7, 7]⟩, ⟨"k2", "", []⟩]
    (fun _ => [⟨"a", "x", []⟩, ⟨"b", "y", [0]⟩])) = true :=
  C18_aux_values_ignored exA ok_exA.2 _ _ (by decide) (by decide)

end C18Ex
end Gtirb.Msg
