import GtirbProofs.Props.C01
/-! C17 (parts): what the reader rejects and accepts.

A file whose first five bytes are not `GTIRB`, or whose version byte (offset 7) differs,
is rejected with the header error, whatever follows (inputs shorter than 8 bytes
included; bytes 5 and 6 are ignored); a message whose `version` field differs is
rejected with `ValueError`; every file `save` produces from a self-contained IR is
accepted; the reader is total (it is a Lean function: every input has an outcome).

What is accepted satisfies the structural guarantees at the value level; pairwise distinct
node UUIDs and `wfir` again (so that it can be saved and loaded once more) only with the one
duplicate the staged reader lets through excluded (`C17_accepted_dup_counterexample`) and
distinct map keys: the `_partial` theorems. -/
namespace Gtirb.Msg
open Gtirb

theorem C17_header_magic (parse : Bytes → Option MIR) (bs : Bytes)
    (h : bs.take 5 ≠ Generated.magic) : loadBytes parse bs = .error .header := by
  unfold loadBytes
  rw [if_pos h]

theorem C17_header_version (parse : Bytes → Option MIR) (bs : Bytes)
    (h : (bs.drop 7).take 1 ≠ [UInt8.ofNat Generated.protobufVersion]) :
    loadBytes parse bs = .error .header := by
  unfold loadBytes
  by_cases h1 : bs.take 5 ≠ Generated.magic
  · rw [if_pos h1]
  · rw [if_neg h1, if_pos h]

theorem C17_header_short (parse : Bytes → Option MIR) (bs : Bytes) (h : bs.length < 8) :
    loadBytes parse bs = .error .header := by
  apply C17_header_version
  have : bs.drop 7 = [] := List.drop_eq_nil_of_le (by omega)
  simp [this]

theorem C17_header_ignores_reserved (parse : Bytes → Option MIR) (a b : UInt8) (rest : Bytes) :
    loadBytes parse (Generated.magic ++ [a, b, UInt8.ofNat Generated.protobufVersion] ++ rest)
      = loadBytes parse (Generated.magic ++ [0, 0, UInt8.ofNat Generated.protobufVersion] ++ rest) := by
  rw [loadBytes_header, loadBytes_header]

theorem C17_header_ok (parse : Bytes → Option MIR) (a b : UInt8) (rest : Bytes) :
    loadBytes parse (Generated.magic ++ [a, b, UInt8.ofNat Generated.protobufVersion] ++ rest)
      = match parse rest with
        | none => .error .parse
        | some m => match fromMsg m with
          | .ok v => .ok v
          | .error e => .error (.msg e) :=
  loadBytes_header parse a b rest

/-- both the bad-uuid and the bad-version path are `ValueError` -/
theorem C17_version_field (m : MIR) (h : m.version ≠ Generated.protobufVersion) :
    fromMsg m = .error .valueError := by
  unfold fromMsg checkUuid
  by_cases h16 : m.uuid.length = 16
  · simp [h16, h]
  · simp [h16]

theorem C17_uuid_length (m : MIR) (h : m.uuid.length ≠ 16) : fromMsg m = .error .valueError := by
  unfold fromMsg checkUuid
  simp [h]

/-- the reader is total: every message has exactly one outcome, an IR or one of the four
error classes (`fromMsg` is a total Lean function; this states the case split) -/
theorem C17_total (m : MIR) : (∃ v, fromMsg m = .ok v) ∨ (∃ e, fromMsg m = .error e) := by
  cases fromMsg m with
  | ok v => exact .inl ⟨v, rfl⟩
  | error e => exact .inr ⟨e, rfl⟩

theorem C17_total_bytes (parse : Bytes → Option MIR) (bs : Bytes) :
    (∃ v, loadBytes parse bs = .ok v) ∨ (∃ e, loadBytes parse bs = .error e) := by
  cases loadBytes parse bs with
  | ok v => exact .inl ⟨v, rfl⟩
  | error e => exact .inr ⟨e, rfl⟩

theorem C17_accepted_wf_partial (m : MIR) (v : IRV) (h : fromMsg m = .ok v) :
    (∀ u ∈ v.nodeUuids, u.length = 16) ∧ v.version = Generated.protobufVersion ∧
    (∀ mod ∈ v.modules, ∀ s ∈ mod.sections, ∀ x ∈ s.intervals, x.contents.length ≤ x.size) := by
  obtain ⟨h16, hver, hmods, _⟩ := accepted_good h
  refine ⟨h16, hver, fun mv hmv s hs x hx => ?_⟩
  obtain ⟨pre, post, hsplit⟩ := List.append_of_mem hmv
  exact (((hmods pre mv post hsplit).2.2 s hs).2 x hx).1

/-- typed references: in whatever the reader accepts, every entry point is a code block,
every symbol referent a block or proxy, every expression symbol a symbol, each of the same
or an earlier module (`pre` = the modules before `mod` in `ir.modules`); every edge endpoint
is a code block or proxy of the IR and every edge label type a member of `EdgeType` -/
theorem C17_accepted_refs (m : MIR) (v : IRV) (h : fromMsg m = .ok v) :
    (∀ pre mod post, v.modules = pre ++ mod :: post →
      (∀ u, mod.entryPoint = some u → u ∈ pre.flatMap (·.codeUuids) ++ mod.codeUuids)
      ∧ (∀ s ∈ mod.symbols, ∀ u, s.payload = .referent u →
          u ∈ pre.flatMap (·.blockUuids) ++ mod.blockUuids)
      ∧ (∀ s ∈ mod.sections, ∀ x ∈ s.intervals, ∀ e ∈ x.exprs, ∀ u ∈ exprSyms e.expr,
          u ∈ (pre.flatMap fun e => e.symbols.map (·.uuid)) ++ mod.symbols.map (·.uuid)))
    ∧ (∀ e ∈ v.edges,
        e.src ∈ (v.modules.flatMap fun m => m.codeUuids ++ m.proxies)
        ∧ e.dst ∈ (v.modules.flatMap fun m => m.codeUuids ++ m.proxies)
        ∧ (∀ l, e.label = some l → pyEnumHas "EdgeType" l.type = true)) :=
  have hg := accepted_good h
  ⟨fun pre mod post hs => (hg.2.2.1 pre mod post hs).2.1,
    fun e he => ⟨(hg.2.2.2.1 e he).1.1, (hg.2.2.2.1 e he).1.2, (hg.2.2.2.1 e he).2⟩⟩

/-- the sets the reader builds have no repetitions: section flags, expression attributes, edges -/
theorem C17_accepted_sets (m : MIR) (v : IRV) (h : fromMsg m = .ok v) :
    v.edges.Nodup
    ∧ (∀ mod ∈ v.modules, ∀ s ∈ mod.sections, s.flags.Nodup ∧
        (∀ f ∈ s.flags, pyEnumHas "SectionFlag" f = true) ∧
        ∀ x ∈ s.intervals, ∀ e ∈ x.exprs, e.attrs.Nodup) := by
  obtain ⟨_, _, hmods, _, hend⟩ := accepted_good h
  refine ⟨hend, fun mv hmv s hs => ?_⟩
  obtain ⟨pre, post, hsplit⟩ := List.append_of_mem hmv
  obtain ⟨hfl, hx⟩ := (hmods pre mv post hsplit).2.2 s hs
  exact ⟨hfl.2, hfl.1, fun x hx' => ((hx x hx').2.2)⟩

/-- node UUIDs of an accepted IR are pairwise distinct, *provided* no interval shares the
UUID of one of its own blocks. That one duplicate passes the staged reader (the interval's
UUID is checked before its blocks are decoded and registered after them), see
`C17_accepted_dup_counterexample`; every other repetition is rejected. -/
theorem C17_accepted_nodup_partial (m : MIR) (v : IRV) (h : fromMsg m = .ok v)
    (hside : ∀ mod ∈ v.modules, ∀ s ∈ mod.sections, ∀ x ∈ s.intervals, x.uuid ∉ x.blockUuids) :
    v.nodeUuids.Nodup :=
  fromMsg_nodup h hside

/-- a message whose interval carries the UUID of its own data block -/
def dupMsg : MIR :=
  { uuid := List.replicate 15 0 ++ [1], version := Generated.protobufVersion, auxData := [],
    cfg := ⟨[], []⟩,
    modules := [
      { uuid := List.replicate 15 0 ++ [2], binaryPath := "", preferredAddr := 0, rebaseDelta := 0,
        fileFormat := 0, isa := 0, name := "m", symbols := [], proxies := [], auxData := [],
        entryPoint := [], byteOrder := 0,
        sections := [
          { uuid := List.replicate 15 0 ++ [3], name := "s", sectionFlags := [],
            byteIntervals := [
              { uuid := List.replicate 15 0 ++ [4], hasAddress := false, address := 0, size := 0,
                contents := [], symbolicExpressions := [],
                blocks := [⟨0, some (.data ⟨List.replicate 15 0 ++ [4], 0⟩)⟩] }] }] }] }

theorem C17_accepted_dup_counterexample :
    ∃ v, fromMsg dupMsg = .ok v ∧ ¬ v.nodeUuids.Nodup ∧ wfir v = false
      ∧ fromMsg (toMsg v) = .ok v := by
  refine ⟨_, rfl, ?_, by decide, by rfl⟩
  rw [← nodupB_iff]
  decide

/-- whatever the reader accepts is a self-contained IR again, provided no interval shares
the UUID of one of its own blocks and map keys are distinct (AuxData names per IR / module,
expression offsets per interval: always so for parsed protobuf maps) -/
theorem C17_accepted_wfir_partial (m : MIR) (v : IRV) (h : fromMsg m = .ok v)
    (hside : ∀ mod ∈ v.modules, ∀ s ∈ mod.sections, ∀ x ∈ s.intervals, x.uuid ∉ x.blockUuids)
    (hkeys : (v.aux.map (·.key)).Nodup ∧ ∀ mod ∈ v.modules, (mod.aux.map (·.key)).Nodup ∧
      ∀ s ∈ mod.sections, ∀ x ∈ s.intervals, (x.exprs.map (·.key)).Nodup) :
    wfir v = true :=
  wfir_of_fromMsg h hside hkeys

/-- hence the loaded IR can be saved and loaded again, reproducing itself -/
theorem C17_accepted_reload_partial (m : MIR) (v : IRV) (h : fromMsg m = .ok v)
    (hside : ∀ mod ∈ v.modules, ∀ s ∈ mod.sections, ∀ x ∈ s.intervals, x.uuid ∉ x.blockUuids)
    (hkeys : (v.aux.map (·.key)).Nodup ∧ ∀ mod ∈ v.modules, (mod.aux.map (·.key)).Nodup ∧
      ∀ s ∈ mod.sections, ∀ x ∈ s.intervals, (x.exprs.map (·.key)).Nodup) :
    fromMsg (toMsg v) = .ok v :=
  C01_roundtrip v (wfir_of_fromMsg h hside hkeys)

/-- every file produced by `save` from a self-contained IR is accepted -/
theorem C17_accepts_saved (serialize : MIR → Bytes) (parse : Bytes → Option MIR)
    (hps : ∀ m, parse (serialize m) = some m) (v : IRV) (h : wfir v = true) :
    ∃ v', loadBytes parse (saveBytes serialize v) = .ok v' :=
  ⟨v, loadBytes_ok (hps _) (C01_roundtrip v h)⟩

end Gtirb.Msg
