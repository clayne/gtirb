import GtirbProofs.Lemmas.TypeName
/-! C15: the type-name parser accepts exactly the language of the grammar
`T ::= name | name '<' T (',' T)* '>'`, and parsing inverts rendering.

`WF` (well-formed tree: every name non-empty and delimiter-free, recursively) is
defined in `GtirbProofs/Lemmas/TypeName.lean`; `WF_node` below restates its meaning. -/
namespace Gtirb.TypeName

theorem WFList_iff (ks : List Tree) : WFList ks ↔ ∀ k ∈ ks, WF k := by
  induction ks with
  | nil => simp [WFList]
  | cons k ks ih => simp [WFList, ih]

theorem WF_node (n : List Char) (ks : List Tree) :
    WF (.node n ks) ↔ n ≠ [] ∧ (∀ c ∈ n, isDelim c = false) ∧ ∀ k ∈ ks, WF k := by
  simp [WF, GoodName, WFList_iff, and_assoc]

/-- every well-formed tree is parsed back from its rendering -/
theorem C15_complete (t : Tree) (h : WF t) : parseType (render t) = some t := by
  have htok : tokenize (render t) = toks t := by
    have := tokenize_render t [] h trivial
    simpa [tokenize, tokenizeAux] using this
  have hparse := parseT_toks t [] ((toks t).length + 1) trivial (by omega)
  rw [List.append_nil] at hparse
  simp [parseType, htok, hparse]

/-- everything the parser accepts is the rendering of the well-formed tree it returns -/
theorem C15_sound (cs : List Char) (t : Tree) (h : parseType cs = some t) :
    WF t ∧ render t = cs := by
  unfold parseType at h
  simp only at h
  split at h
  · rename_i t' hp
    simp at h
    subst h
    have htok : tokenize cs = toks t' := by
      simpa using (parse_sound _).1 _ _ _ hp
    constructor
    · apply wf_of_names
      intro s hs
      exact tokenize_names cs s (htok ▸ hs)
    · rw [← untok_toks, ← htok, untok_tokenize]
  · simp at h

/-- accepted iff generated by the grammar -/
theorem C15_iff (cs : List Char) :
    (∃ t, parseType cs = some t) ↔ (∃ t, WF t ∧ render t = cs) := by
  constructor
  · rintro ⟨t, h⟩
    exact ⟨t, C15_sound cs t h⟩
  · rintro ⟨t, hwf, rfl⟩
    exact ⟨t, C15_complete t hwf⟩

/-- `mapping<string,set<UUID>>` -/
def exampleTree : Tree :=
  .node "mapping".toList [.node "string".toList [], .node "set".toList [.node "UUID".toList []]]

theorem exampleTree_wf : WF exampleTree := by
  simp [exampleTree, WF_node, isDelim]

theorem exampleTree_render : render exampleTree = "mapping<string,set<UUID>>".toList := by
  simp [exampleTree, render, renderList]

example : WF exampleTree := exampleTree_wf

example : render exampleTree = "mapping<string,set<UUID>>".toList := exampleTree_render

example : parseType "mapping<string,set<UUID>>".toList = some exampleTree := by
  rw [← exampleTree_render]
  exact C15_complete _ exampleTree_wf

/-- rejected inputs: not generated by the grammar -/
example : ¬ ∃ t, WF t ∧ render t = "mapping<string,>".toList := by
  rw [← C15_iff]
  simp [parseType, tokenize, tokenizeAux, isDelim, delimTok, parseT, parseArgs]

/-- an ill-formed tree (empty name) is not `WF` -/
example : ¬ WF (.node [] []) := by simp [WF_node]

end Gtirb.TypeName
