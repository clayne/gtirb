import GtirbProofs.Lemmas.ProtoProofs
/-! C02: writer and reader each agree with the schema field by field.

Writer (`toMsg`, `saveBytes`): every scalar field equals the attribute, children are mapped one
to one, the one-ofs carry the payload, the vertex list names the CFG nodes of the IR.

Reader (`fromMsg` and its stages): whatever message is accepted, every attribute of the
result equals the corresponding message field (`address` is ignored when `has_address`
is false, an empty `entry_point` means none, flags are de-duplicated). -/
namespace Gtirb.Msg
open Gtirb

theorem C02_header (serialize : MIR → Bytes) (v : IRV) :
    saveBytes serialize v
      = Generated.magic ++ [0, 0, UInt8.ofNat Generated.protobufVersion] ++ serialize (toMsg v) := rfl

theorem C02_ir_fields (v : IRV) :
    (toMsg v).uuid = v.uuid ∧ (toMsg v).version = v.version
      ∧ (toMsg v).modules = v.modules.map moduleToMsg
      ∧ (toMsg v).auxData = v.aux.map (fun a => (a.key, ⟨a.typeName, a.data⟩))
      ∧ (toMsg v).cfg.edges = v.edges.map edgeToMsg := ⟨rfl, rfl, rfl, rfl, rfl⟩

theorem C02_has_address (x : IntervalV) :
    (intervalToMsg x).hasAddress = x.addr.isSome
      ∧ (∀ a, x.addr = some a → (intervalToMsg x).address = a)
      ∧ (intervalToMsg x).size = x.size ∧ (intervalToMsg x).contents = x.contents
      ∧ (intervalToMsg x).uuid = x.uuid := by
  refine ⟨rfl, ?_, rfl, rfl, rfl⟩
  intro a ha
  simp [intervalToMsg, ha]

theorem C02_interval_children (x : IntervalV) :
    (intervalToMsg x).blocks = x.blocks.map blockToMsg
      ∧ (intervalToMsg x).symbolicExpressions = x.exprs.map exprToMsg
      ∧ (intervalToMsg x).blocks.length = x.blocks.length
      ∧ (intervalToMsg x).symbolicExpressions.length = x.exprs.length := by
  simp [intervalToMsg]

/-- the block one-of: exactly one of `code` / `data`, never unset -/
theorem C02_block_oneof (b : BlockV) :
    blockToMsg b = match b with
      | .code u off sz dm => ⟨off, some (.code ⟨u, sz, dm⟩)⟩
      | .data u off sz => ⟨off, some (.data ⟨u, sz⟩)⟩ := by
  cases b <;> rfl

/-- the expression one-of and the attribute numbers (known and unknown alike) -/
theorem C02_expr_oneof (e : ExprEntryV) :
    (exprToMsg e).1 = e.key ∧ (exprToMsg e).2.attributeFlags = e.attrs
      ∧ (exprToMsg e).2.value = some (match e.expr with
          | .addrConst off s => .addrConst off s
          | .addrAddr sc off s1 s2 => .addrAddr sc off s1 s2) := ⟨rfl, rfl, rfl⟩

theorem C02_section_fields (s : SectionV) :
    (sectionToMsg s).uuid = s.uuid ∧ (sectionToMsg s).name = s.name
      ∧ (sectionToMsg s).sectionFlags = s.flags
      ∧ (sectionToMsg s).byteIntervals = s.intervals.map intervalToMsg
      ∧ (sectionToMsg s).byteIntervals.length = s.intervals.length := by
  simp [sectionToMsg]

/-- value 0 is present, not dropped -/
theorem C02_payload_oneof (s : SymbolV) :
    (symbolToMsg s).payload = match s.payload with
      | .none => none
      | .value n => some (.value n)
      | .referent u => some (.referentUuid u) := rfl

theorem C02_symbol_fields (s : SymbolV) :
    (symbolToMsg s).uuid = s.uuid ∧ (symbolToMsg s).name = s.name
      ∧ (symbolToMsg s).atEnd = s.atEnd := ⟨rfl, rfl, rfl⟩

/-- a missing label stays missing, an all-false label stays present -/
theorem C02_label_presence (e : EdgeV) :
    (edgeToMsg e).label.isSome = e.label.isSome
      ∧ (edgeToMsg e).sourceUuid = e.src ∧ (edgeToMsg e).targetUuid = e.dst
      ∧ (e.label = none → (edgeToMsg e).label = none)
      ∧ (∀ l, e.label = some l → (edgeToMsg e).label = some ⟨l.conditional, l.direct, l.type⟩) := by
  refine ⟨by simp [edgeToMsg], rfl, rfl, ?_, ?_⟩
  · intro h; simp [edgeToMsg, h]
  · intro l h; simp [edgeToMsg, h]

/-- every CFG node of the IR, nothing else -/
theorem C02_vertices (v : IRV) (u : U) :
    u ∈ (toMsg v).cfg.vertices ↔ ∃ m ∈ v.modules, u ∈ m.codeUuids ∨ u ∈ m.proxies := by
  simp only [toMsg, irCfgNodes, List.mem_flatMap]
  constructor
  · rintro ⟨m, hm, hu⟩
    exact ⟨m, hm, List.mem_append.1 hu⟩
  · rintro ⟨m, hm, hu⟩
    exact ⟨m, hm, List.mem_append.2 hu⟩

/-- in order: per module its code blocks (sections, intervals, blocks in order), then its proxies -/
theorem C02_vertices_order (v : IRV) :
    (toMsg v).cfg.vertices = v.modules.flatMap fun m => m.codeUuids ++ m.proxies := rfl

theorem C02_entry_point (m : ModuleV) : (moduleToMsg m).entryPoint = m.entryPoint.getD [] := rfl

theorem C02_module_fields (m : ModuleV) :
    (moduleToMsg m).uuid = m.uuid ∧ (moduleToMsg m).name = m.name
      ∧ (moduleToMsg m).binaryPath = m.binaryPath ∧ (moduleToMsg m).preferredAddr = m.preferredAddr
      ∧ (moduleToMsg m).rebaseDelta = m.rebaseDelta ∧ (moduleToMsg m).fileFormat = m.fileFormat
      ∧ (moduleToMsg m).isa = m.isa ∧ (moduleToMsg m).byteOrder = m.byteOrder
      ∧ (moduleToMsg m).proxies = m.proxies
      ∧ (moduleToMsg m).sections = m.sections.map sectionToMsg
      ∧ (moduleToMsg m).symbols = m.symbols.map symbolToMsg
      ∧ (moduleToMsg m).auxData = m.aux.map (fun a => (a.key, ⟨a.typeName, a.data⟩))
      ∧ (moduleToMsg m).sections.length = m.sections.length
      ∧ (moduleToMsg m).symbols.length = m.symbols.length
      ∧ (moduleToMsg m).auxData.length = m.aux.length := by
  simp [moduleToMsg, auxToMsg]

theorem C02_reader_ir (m : MIR) (v : IRV) (h : fromMsg m = .ok v) :
    v.uuid = m.uuid ∧ v.version = m.version ∧ v.modules.length = m.modules.length
      ∧ v.aux = decodeAux m.auxData
      ∧ (∀ e, e ∈ v.edges ↔ ∃ me ∈ m.cfg.edges,
          e = ⟨me.sourceUuid, me.targetUuid, me.label.map fun l => ⟨l.type, l.conditional, l.direct⟩⟩) := by
  obtain ⟨_, rfl⟩ := fromMsg_ok_iff.1 h
  refine ⟨rfl, rfl, List.length_map _, rfl, fun e => ?_⟩
  rw [ofMsg, mem_dedupEdges, List.mem_map]
  constructor
  · rintro ⟨me, hme, rfl⟩; exact ⟨me, hme, rfl⟩
  · rintro ⟨me, hme, rfl⟩; exact ⟨me, hme, rfl⟩

/-- the modules of the result correspond one to one, in order, to the module messages -/
theorem C02_reader_ir_modules (m : MIR) (v : IRV) (h : fromMsg m = .ok v) :
    All2 (fun mv mm => ∃ env env', decodeModule env mm = .ok (mv, env')) v.modules m.modules := by
  obtain ⟨hc, rfl⟩ := fromMsg_ok_iff.1 h
  simp only [chkMsg, andThen_ok] at hc
  exact All2.map_left fun mm hm =>
    let ⟨env, he⟩ := chkList_ok_mem hc.2.2.1 hm
    ⟨env, _, decodeModule_stage.ok_iff.2 ⟨he, rfl, rfl⟩⟩

theorem C02_reader_module (env env' : Env) (mm : MModule) (mv : ModuleV)
    (h : decodeModule env mm = .ok (mv, env')) :
    mv.uuid = mm.uuid ∧ mv.name = mm.name ∧ mv.binaryPath = mm.binaryPath
      ∧ mv.preferredAddr = mm.preferredAddr ∧ mv.rebaseDelta = mm.rebaseDelta
      ∧ mv.fileFormat = mm.fileFormat ∧ mv.isa = mm.isa ∧ mv.byteOrder = mm.byteOrder
      ∧ mv.proxies = mm.proxies
      ∧ (mv.entryPoint = if mm.entryPoint.isEmpty then none else some mm.entryPoint)
      ∧ mv.sections.length = mm.sections.length ∧ mv.symbols.length = mm.symbols.length
      ∧ mv.aux = decodeAux mm.auxData := by
  obtain ⟨_, rfl, _⟩ := decodeModule_stage.ok_iff.1 h
  exact ⟨rfl, rfl, rfl, rfl, rfl, rfl, rfl, rfl, rfl, rfl, List.length_map _, List.length_map _, rfl⟩

/-- the sections of the result, after the second pass: everything but the expressions is
what the first pass (`decodeSection`) produced for the section message at the same
position; the expressions are those of the interval messages, in order -/
theorem C02_reader_module_sections (env env' : Env) (mm : MModule) (mv : ModuleV)
    (h : decodeModule env mm = .ok (mv, env')) :
    (∃ secs, All2 SectionRel secs mm.sections ∧ mv.sections.map stripS = secs.map stripS)
      ∧ All2 (fun s ms => All2 (fun x mx =>
            All2 (ExprRel env') x.exprs mx.symbolicExpressions)
          s.intervals ms.byteIntervals) mv.sections mm.sections := by
  obtain ⟨hc, rfl, rfl⟩ := decodeModule_stage.ok_iff.1 h
  simp only [chkModule, andThen_ok, chkAll_ok_iff, chkExprsS, chkExprsI] at hc
  obtain ⟨_, _, _, hsec, _, _, hex⟩ := hc
  refine ⟨⟨mm.sections.map ofSection0, All2.map_left fun s hm => ?_, ?_⟩,
    All2.map_left fun s hs => All2.map_left fun x hx => All2.map_left fun kv hkv =>
      exprRel_of_chk (hex s hs x hx kv hkv)⟩
  · obtain ⟨_, hs⟩ := chkList_ok_mem hsec hm
    exact sectionRel_of_chk hs
  · rw [ofModule, List.map_map, List.map_map]
    exact List.map_congr_left fun s _ => stripS_ofSection s

theorem C02_reader_section (env env' : Env) (ms : MSection) (s : SectionV)
    (h : decodeSection env ms = .ok (s, env')) :
    s.uuid = ms.uuid ∧ s.name = ms.name ∧ s.intervals.length = ms.byteIntervals.length
      ∧ s.flags = dedupNat ms.sectionFlags ∧ (∀ f, f ∈ s.flags ↔ f ∈ ms.sectionFlags)
      ∧ s.flags.Nodup := by
  obtain ⟨_, rfl, _⟩ := decodeSection_stage.ok_iff.1 h
  exact ⟨rfl, rfl, List.length_map _, rfl, fun _ => mem_dedupNat, nodup_dedupNat _⟩

/-- `address` is ignored when `has_address` is false -/
theorem C02_reader_interval (env env' : Env) (mx : MByteInterval) (x : IntervalV)
    (h : decodeInterval env mx = .ok (x, env')) :
    x.uuid = mx.uuid ∧ x.size = mx.size ∧ x.contents = mx.contents
      ∧ x.addr = (if mx.hasAddress then some mx.address else none)
      ∧ x.blocks.length = mx.blocks.length := by
  obtain ⟨_, rfl, _⟩ := decodeInterval_stage.ok_iff.1 h
  exact ⟨rfl, rfl, rfl, rfl, List.length_map _⟩

theorem C02_reader_block (env env' : Env) (b : MBlock) (v : BlockV)
    (h : decodeBlock env b = .ok (v, env')) :
    (∃ c, b.value = some (.code c) ∧ v = .code c.uuid b.offset c.size c.decodeMode)
      ∨ (∃ d, b.value = some (.data d) ∧ v = .data d.uuid b.offset d.size) := by
  obtain ⟨hc, rfl, _⟩ := decodeBlock_stage.ok_iff.1 h
  obtain ⟨off, val⟩ := b
  rcases val with _ | c | d
  · cases hc
  · exact .inl ⟨c, rfl, rfl⟩
  · exact .inr ⟨d, rfl, rfl⟩

theorem C02_reader_interval_blocks (env env' : Env) (mx : MByteInterval) (x : IntervalV)
    (h : decodeInterval env mx = .ok (x, env')) : x.blocks.map blockToMsg = mx.blocks := by
  obtain ⟨hc, rfl, _⟩ := decodeInterval_stage.ok_iff.1 h
  exact (intervalRel_of_chk hc).2.2.2.2.1

theorem C02_reader_symbol (env env' : Env) (ms : MSymbol) (s : SymbolV)
    (h : decodeSymbol env ms = .ok (s, env')) :
    s.uuid = ms.uuid ∧ s.name = ms.name ∧ s.atEnd = ms.atEnd
      ∧ s.payload = (match ms.payload with
          | none => .none
          | some (.value n) => .value n
          | some (.referentUuid u) => .referent u) := by
  obtain ⟨_, rfl, _⟩ := decodeSymbol_stage.ok_iff.1 h
  refine ⟨rfl, rfl, rfl, ?_⟩
  rw [ofSymbol]
  cases ms.payload with
  | none => rfl
  | some p => cases p <;> rfl

theorem C02_reader_expr (env : Env) (kv : Nat × MSymExpr) (e : ExprEntryV)
    (h : decodeExpr env kv = .ok e) :
    e.key = kv.1 ∧ e.attrs = dedupNat kv.2.attributeFlags
      ∧ (∀ a, a ∈ e.attrs ↔ a ∈ kv.2.attributeFlags)
      ∧ (∃ mv, kv.2.value = some mv ∧ e.expr = match mv with
          | .addrConst off s => .addrConst off s
          | .addrAddr sc off s1 s2 => .addrAddr sc off s1 s2) := by
  obtain ⟨hc, rfl⟩ := (decodeExpr_check env).ok_iff.1 h
  obtain ⟨_, _, ⟨mv, h3, h4⟩, _⟩ := exprRel_of_chk hc
  refine ⟨rfl, rfl, fun _ => mem_dedupNat, mv, h3, ?_⟩
  rw [h4]
  cases mv <;> rfl

theorem C02_reader_edge (env : Env) (me : MEdge) (e : EdgeV) (h : decodeEdge env me = .ok e) :
    e.src = me.sourceUuid ∧ e.dst = me.targetUuid
      ∧ e.label = me.label.map (fun l => ⟨l.type, l.conditional, l.direct⟩)
      ∧ e.label.isSome = me.label.isSome := by
  obtain ⟨_, rfl⟩ := (decodeEdge_check env).ok_iff.1 h
  simp [edgeOfMsg]

end Gtirb.Msg
