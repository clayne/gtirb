import GtirbProofs.Props.C16
import GtirbProofs.Props.C03NoRollback
/-! C04, the frame clause: "nodes not named in an operation are unaffected by it" (`touched g op`,
`Lemmas/Touched.lean`, is what an operation names or selects), and the success of the constructors /
parent setter / attribute setters.

`C04_frame_order` is the form the proof goes through: in *every* collection the untouched nodes keep
their relative order (so a collection can only change by touched nodes entering or leaving it;
`reverse` is the one exception, for the list it reverses). -/
namespace Gtirb.Forest

theorem fr_filter_middle {T : List Nat} {v : Nat} (hv : v ∈ T) (A B : List Nat) :
    (A ++ v :: B).filter (fun x => !(x ∈ T)) = (A ++ B).filter (fun x => !(x ∈ T)) := by
  simp [List.filter_append, hv]

theorem fr_filter_erase {T : List Nat} {v : Nat} (hv : v ∈ T) (l : List Nat) :
    (l.erase v).filter (fun x => !(x ∈ T)) = l.filter (fun x => !(x ∈ T)) := by
  by_cases hm : v ∈ l
  · obtain ⟨A, B, _, h1, h2⟩ := List.exists_erase_eq hm
    rw [h2, h1, fr_filter_middle hv]
  · rw [List.erase_of_not_mem hm]

theorem fr_filter_setInsert {T : List Nat} {v : Nat} (hv : v ∈ T) (l : List Nat) :
    (setInsertNat l v).filter (fun x => !(x ∈ T)) = l.filter (fun x => !(x ∈ T)) := by
  unfold setInsertNat
  split
  · rfl
  · simp [List.filter_append, hv]

theorem fr_filter_pyInsert {T : List Nat} {v : Nat} (hv : v ∈ T) (l : List Nat) (k : Int) :
    (pyInsert l k v).filter (fun x => !(x ∈ T)) = l.filter (fun x => !(x ∈ T)) := by
  unfold pyInsert
  dsimp only
  rw [fr_filter_middle hv, List.take_append_drop]

theorem fr_filter_set {T : List Nat} {l : List Nat} {idx old v : Nat} (hl : l[idx]? = some old)
    (ho : old ∈ T) (hv : v ∈ T) :
    (l.set idx v).filter (fun x => !(x ∈ T)) = l.filter (fun x => !(x ∈ T)) := by
  obtain ⟨A, B, h1, _, h3⟩ := list_split_at hl
  rw [h3 v, fr_filter_middle hv]
  conv => rhs; rw [h1, fr_filter_middle ho]

theorem fr_filter_eraseIdx {T : List Nat} {l : List Nat} {idx old : Nat} (hl : l[idx]? = some old)
    (ho : old ∈ T) :
    (l.eraseIdx idx).filter (fun x => !(x ∈ T)) = l.filter (fun x => !(x ∈ T)) := by
  obtain ⟨A, B, h1, h2, _⟩ := list_split_at hl
  rw [h2]
  conv => rhs; rw [h1, fr_filter_middle ho]

theorem fr_filter_mono {T T' : List Nat} (hTT : ∀ x, x ∈ T → x ∈ T') (l : List Nat) :
    l.filter (fun x => !(x ∈ T')) = (l.filter (fun x => !(x ∈ T))).filter (fun x => !(x ∈ T')) := by
  rw [List.filter_filter]
  apply List.filter_congr
  intro x _
  by_cases hx : x ∈ T'
  · simp [hx]
  · have : x ∉ T := fun h => hx (hTT x h)
    simp [hx, this]

/-- the forest part of `g'` differs from that of `g` only at the nodes in `T`: every other node has
its old back-pointer, and in every collection the nodes outside `T` are the same, in the same order;
names and payloads are untouched -/
structure FrameOn (T : List Nat) (g g' : G) : Prop where
  par : ∀ x, x ∉ T → g'.par x = g.par x
  kids : ∀ p s, (g'.kids p s).filter (fun x => !(x ∈ T)) = (g.kids p s).filter (fun x => !(x ∈ T))
  name : g'.name = g.name
  payload : g'.payload = g.payload

namespace FrameOn

theorem refl (T : List Nat) (g : G) : FrameOn T g g := ⟨fun _ _ => rfl, fun _ _ => rfl, rfl, rfl⟩

theorem trans {T : List Nat} {a b c : G} (h1 : FrameOn T a b) (h2 : FrameOn T b c) : FrameOn T a c :=
  ⟨fun x hx => (h2.par x hx).trans (h1.par x hx), fun p s => (h2.kids p s).trans (h1.kids p s),
   h2.name.trans h1.name, h2.payload.trans h1.payload⟩

theorem mono {T T' : List Nat} {g g' : G} (hTT : ∀ x, x ∈ T → x ∈ T') (h : FrameOn T g g') : FrameOn T' g g' :=
  ⟨fun x hx => h.par x (fun hh => hx (hTT x hh)),
   fun p s => by rw [fr_filter_mono hTT (g'.kids p s), h.kids, ← fr_filter_mono hTT],
   h.name, h.payload⟩

theorem of_core {T : List Nat} {g g' X : G} (h : core g' = X) (hX : FrameOn T (core g) X) : FrameOn T g g' := by
  subst h
  exact ⟨hX.par, hX.kids, hX.name, hX.payload⟩

end FrameOn

theorem frameOn_setPar {T : List Nat} {v : Nat} (hv : v ∈ T) (g : G) (p : Option Nat) :
    FrameOn T g (setPar g v p) :=
  ⟨fun x hx => by rw [setPar_par, if_neg (fun e : x = v => hx (by rw [e]; exact hv))], fun _ _ => rfl, rfl, rfl⟩

theorem frameOn_kidsSet {T : List Nat} {g : G} {p : Nat} {s : Slot} {l : List Nat}
    (hl : l.filter (fun x => !(x ∈ T)) = (g.kids p s).filter (fun x => !(x ∈ T))) :
    FrameOn T g (kidsSet g p s l) := by
  refine ⟨fun _ _ => rfl, fun p' s' => ?_, rfl, rfl⟩
  rw [kidsSet_kids]
  split
  · rename_i h; rw [h.1, h.2]; exact hl
  · rfl

theorem frameOn_detach {T : List Nat} {v : Nat} (hv : v ∈ T) (g : G) (q : Nat) (s : Slot) :
    FrameOn T g (detach g q s v) := by
  unfold detach
  split
  · rw [kidsErase_eq_kidsSet]
    exact (frameOn_setPar hv g none).trans (frameOn_kidsSet (fr_filter_erase hv _))
  · exact .refl T g

theorem frameOn_detachOld {T : List Nat} {v : Nat} (hv : v ∈ T) (g : G) (s : Slot) :
    FrameOn T g (detachOld g s v) := by
  unfold detachOld
  split
  · exact frameOn_detach hv g _ s
  · exact .refl T g

theorem frameOn_relink {T : List Nat} {v : Nat} (hv : v ∈ T) (g : G) (p : Nat) (s : Slot) :
    FrameOn T g (relink g p s v) :=
  (frameOn_detachOld hv g s).trans (frameOn_setPar hv _ _)

theorem frameOn_kidsInsert {T : List Nat} {v : Nat} (hv : v ∈ T) (g : G) (p : Nat) (s : Slot) :
    FrameOn T g (kidsInsert g p s v) := by
  rw [kidsInsert_eq_kidsSet]
  exact frameOn_kidsSet (fr_filter_setInsert hv _)

theorem frameOn_attach {T : List Nat} {v : Nat} (hv : v ∈ T) (g : G) (p : Nat) (s : Slot) :
    FrameOn T g (attach g p s v) :=
  (frameOn_relink hv g p s).trans (frameOn_kidsInsert hv _ p s)

theorem frameOn_foldl {T : List Nat} {F : G → Nat → G} (l : List Nat)
    (hF : ∀ g x, x ∈ l → FrameOn T g (F g x)) (g : G) : FrameOn T g (l.foldl F g) :=
  List.foldlRecOn (motive := fun g' : G => FrameOn T g g') l F (.refl T g) fun g' h x hx => h.trans (hF g' x hx)

theorem frameOn_blkUpdatePure {T : List Nat} {new : List Nat} (hnew : ∀ v, v ∈ new → v ∈ T) (g : G) (p : Nat) :
    FrameOn T g (blkUpdatePure g p new) :=
  (frameOn_foldl new (fun g x hx => frameOn_relink (hnew x hx) g p .blocks) g).trans
    (frameOn_foldl new (fun g x hx => frameOn_kidsInsert (hnew x hx) g p .blocks) _)

theorem frameOn_modInsertPure {T : List Nat} {v : Nat} (hv : v ∈ T) (g : G) (i : Nat) (k : Int) :
    FrameOn T g (modInsertPure g i k v) :=
  (frameOn_relink hv g i .mods).trans (frameOn_kidsSet (fr_filter_pyInsert hv _ k))

theorem fr_kids_fresh {g : G} (h : ForestInv g) {p : Nat} (hp : g.n ≤ p) (s : Slot) : g.kids p s = [] := by
  apply List.eq_nil_iff_forall_not_mem.2
  intro c hc
  have := (h.alloc c p (h.par_of_mem hc)).2
  omega

theorem fr_par_fresh {g : G} (h : ForestInv g) {x : Nat} (hx : g.n ≤ x) : g.par x = none := by
  cases hp : g.par x with
  | none => rfl
  | some p => have := (h.alloc x p hp).1; omega

theorem frameOn_alloc {g : G} (h : ForestInv g) (T : List Nat) (k : Kind) (u : Nat) :
    FrameOn T g (alloc g k u).1 := by
  refine ⟨fun x _ => ?_, fun p s => ?_, rfl, rfl⟩
  · rw [alloc_par]; split
    · rename_i e; rw [e, fr_par_fresh h (Nat.le_refl _)]
    · rfl
  · rw [alloc_kids]; split
    · rename_i e; rw [e, fr_kids_fresh h (Nat.le_refl _)]
    · rfl

theorem modDelItem_frame {T : List Nat} {g g' : G} {i : Nat} {k : Int} {idx v : Nat} (h : modDelItem g i k = .ok g')
    (h1 : pyIndex (g.kids i .mods).length k = some idx) (h2 : (g.kids i .mods)[idx]? = some v) (hv : v ∈ T) :
    FrameOn T g g' := by
  obtain ⟨idx', v', e1, e2, hc⟩ := (ends_modDelItem _ _ _).of_ok h
  cases h1.symm.trans e1
  cases h2.symm.trans e2
  exact .of_core hc ((frameOn_setPar hv _ none).trans (frameOn_kidsSet (fr_filter_eraseIdx h2 hv)))

theorem modSetItem_frame {T : List Nat} {g g' : G} {i v : Nat} {k : Int} {idx old : Nat}
    (h : modSetItem g i k v = .ok g') (h1 : pyIndex (g.kids i .mods).length k = some idx)
    (h2 : (g.kids i .mods)[idx]? = some old) (hv : v ∈ T) (ho : old ∈ T) : FrameOn T g g' := by
  obtain ⟨idx', old', e1, e2, hne, hcore⟩ := (ends_modSetItem _ _ _ _).of_ok h
  cases h1.symm.trans e1
  cases h2.symm.trans e2
  refine .of_core hcore (((frameOn_setPar ho _ none).trans (frameOn_relink hv _ i .mods)).trans (frameOn_kidsSet ?_))
  rw [relink_setPar_kids (g := core g) hne]
  exact fr_filter_set h2 ho hv

theorem primRule_frame (ok : Nat → Slot → Nat → Prop) (T : List Nat) (g0 : G) :
    PrimRule ok (· ∈ T) (FrameOn T g0) (fun _ => True) where
  discard := fun hv hf => .of_success fun _ e => hf.trans (.of_core (setDiscard_core e) (frameOn_detach hv _ _ _))
  add := fun _ hv hf => .of_success fun _ e => hf.trans (.of_core (setAdd_core e) (frameOn_attach hv _ _ _))
  blk := fun hvs hf => .of_success fun _ e => hf.trans
    (.of_core (blkUpdate_core e) (frameOn_blkUpdatePure (fun v hv => (hvs v (mem_blkNew.1 hv).1).2) _ _))
  listRemove := fun hv _ hf => .of_success fun _ e =>
    hf.trans (.of_core (modListRemove_core e) (frameOn_detach hv _ _ _))
  insert := fun _ hv hf => .of_success fun _ e =>
    hf.trans (.of_core ((ends_modInsert _ _ _ _).of_ok e) (frameOn_modInsertPure hv _ _ _))
  delItem := fun h1 h2 ht hf => .of_success fun _ e => hf.trans (modDelItem_frame e h1 h2 ht)
  setItem := fun _ hv h1 h2 _ ht hf => .of_success fun _ e => hf.trans (modSetItem_frame e h1 h2 hv ht)

/-- The frame, strong form. After a successful public operation:
* every node outside `touched` keeps its back-pointer;
* every existing node keeps its name (payload) unless the operation is `setName` (`setPayload`) of
  that very node;
* in every collection the untouched nodes are the same and in the same relative order, except in the
  module list that `reverse` reverses. -/
theorem C04_frame_order (g g' : G) (op : Op) (h : ForestInv g) (hop : OpOK g op) (hs : step g op = .ok g') :
    (∀ x, x ∉ touched g op → g'.par x = g.par x) ∧
    (∀ x, x < g.n → (∀ nm, op ≠ .setName x nm) → g'.name x = g.name x) ∧
    (∀ x, x < g.n → (∀ pl, op ≠ .setPayload x pl) → g'.payload x = g.payload x) ∧
    (∀ p s, (op = .reverse p → s ≠ .mods) →
      (g'.kids p s).filter (fun x => !(x ∈ touched g op)) = (g.kids p s).filter (fun x => !(x ∈ touched g op))) := by
  have gen : FrameOn (touched g op) g g' →
      (∀ x, x ∉ touched g op → g'.par x = g.par x) ∧
      (∀ x, x < g.n → (∀ nm, op ≠ .setName x nm) → g'.name x = g.name x) ∧
      (∀ x, x < g.n → (∀ pl, op ≠ .setPayload x pl) → g'.payload x = g.payload x) ∧
      (∀ p s, (op = .reverse p → s ≠ .mods) →
        (g'.kids p s).filter (fun x => !(x ∈ touched g op)) = (g.kids p s).filter (fun x => !(x ∈ touched g op))) :=
    fun hF => ⟨hF.par, fun x _ _ => by rw [hF.name], fun x _ _ => by rw [hF.payload], fun p s _ => hF.kids p s⟩
  rcases op.plain_or with hk | ⟨u, rfl⟩ | ⟨k, u, kids, parent, rfl⟩ | ⟨u, nm, pl, parent, rfl⟩ | ⟨i, rfl⟩ |
    ⟨v, nm, rfl⟩ | ⟨v, pl, rfl⟩
  · exact gen ((step_rule (primRule_frame _ _ g) hk (.refl _ g)).of_ok hs)
  · cases hs
    exact gen (.of_core (mkIR_core g u) (frameOn_alloc ((forestInv_core g).2 h) _ .ir u))
  · exact gen ((frameOn_alloc h _ k u).trans ((step_mk_rule (primRule_frame _ _ _) (fun _ _ => True) trivial
      (fun _ _ _ _ _ _ _ _ => trivial) (.refl _ _)).of_ok hs).1)
  · rw [step_mkSym_eq] at hs
    -- the state after allocation and initialisation of the two attributes
    have hA := frameOn_alloc h [g.n] .symbol u
    have key : ∀ g2 : G, FrameOn [g.n] g2 g' → g2.par = (Gtirb.Forest.alloc g .symbol u).1.par →
        g2.kids = (Gtirb.Forest.alloc g .symbol u).1.kids →
        (∀ x, x < g.n → g2.name x = g.name x) → (∀ x, x < g.n → g2.payload x = g.payload x) →
        (∀ x, x ∉ [g.n] → g'.par x = g.par x) ∧
        (∀ x, x < g.n → (∀ nm', Op.mkSym u nm pl parent ≠ .setName x nm') → g'.name x = g.name x) ∧
        (∀ x, x < g.n → (∀ pl', Op.mkSym u nm pl parent ≠ .setPayload x pl') → g'.payload x = g.payload x) ∧
        (∀ p s, (Op.mkSym u nm pl parent = .reverse p → s ≠ .mods) →
          (g'.kids p s).filter (fun x => !(x ∈ [g.n])) = (g.kids p s).filter (fun x => !(x ∈ [g.n]))) := by
      intro g2 hF e1 e2 e3 e4
      refine ⟨fun x hx => ?_, fun x hx _ => ?_, fun x hx _ => ?_, fun p s _ => ?_⟩
      · rw [hF.par x hx, e1]; exact hA.par x hx
      · rw [hF.name]; exact e3 x hx
      · rw [hF.payload]; exact e4 x hx
      · rw [hF.kids p s, e2]; exact hA.kids p s
    split at hs
    · rename_i p
      exact key _ (((primRule_frame (fun _ _ _ => True) [g.n] _).setParent List.mem_cons_self
          (fun _ _ _ _ => trivial) (.refl _ _)).of_ok hs) rfl rfl
        (fun x hx => by simp [Nat.ne_of_lt hx]) (fun x hx => by simp [Nat.ne_of_lt hx])
    · cases hs
      exact key _ (.refl _ _) rfl rfl
        (fun x hx => by simp [Nat.ne_of_lt hx]) (fun x hx => by simp [Nat.ne_of_lt hx])
  · cases hs
    refine ⟨fun _ _ => rfl, fun _ _ _ => rfl, fun _ _ _ => rfl, ?_⟩
    intro p s hps
    unfold modReverse
    rw [kidsSet_kids, if_neg]
    rintro ⟨rfl, rfl⟩
    exact hps rfl rfl
  · cases hs
    have ho := onlyIdx_setName g v nm
    exact ⟨fun x _ => congrFun ho.par x,
      fun x _ hx => (congrFun ho.name x).trans (if_neg (fun e => hx nm (by rw [e]))),
      fun x _ _ => congrFun ho.payload x, fun p s _ => by rw [ho.kids]⟩
  · cases hs
    have ho := onlyIdx_setPayload g v pl
    exact ⟨fun x _ => congrFun ho.par x, fun x _ _ => congrFun ho.name x,
      fun x _ hx => (congrFun ho.payload x).trans (if_neg (fun e => hx pl (by rw [e]))),
      fun p s _ => by rw [ho.kids]⟩

/-- the same with the hypothesis on the collection in terms of membership: a collection that no
touched node belongs to, before or after, keeps its contents and order -/
theorem C04_frame_kids (g g' : G) (op : Op) (h : ForestInv g) (hop : OpOK g op) (hs : step g op = .ok g')
    (p : Nat) (s : Slot) (hT : ∀ c, c ∈ touched g op → c ∉ g.kids p s ∧ c ∉ g'.kids p s)
    (hr : op = .reverse p → s ≠ .mods) : g'.kids p s = g.kids p s := by
  have := (C04_frame_order g g' op h hop hs).2.2.2 p s hr
  rw [List.filter_eq_self.2, List.filter_eq_self.2] at this
  · exact this
  · intro x hx
    have : x ∉ touched g op := fun hh => (hT x hh).1 hx
    simp [this]
  · intro x hx
    have : x ∉ touched g op := fun hh => (hT x hh).2 hx
    simp [this]

/-- C04, frame: nodes not named by an operation keep their parent, name and payload, and the
collections of a parent that no touched node belongs to (before or after) keep their contents. -/
theorem C04_frame (g g' : G) (op : Op) (h : ForestInv g) (hop : OpOK g op) (hs : step g op = .ok g') :
    (∀ x, x < g.n → x ∉ touched g op → g'.par x = g.par x) ∧
    (∀ x, x < g.n → (∀ nm, op ≠ .setName x nm) → g'.name x = g.name x) ∧
    (∀ x, x < g.n → (∀ pl, op ≠ .setPayload x pl) → g'.payload x = g.payload x) ∧
    (∀ p s, (∀ c ∈ touched g op, g.par c ≠ some p ∧ g'.par c ≠ some p) → (∀ i, op ≠ .reverse i ∨ p ≠ i) →
        g'.kids p s = g.kids p s) := by
  obtain ⟨h1, h2, h3, _⟩ := C04_frame_order g g' op h hop hs
  have h' := C04_step g g' op h hop hs
  refine ⟨fun x _ hx => h1 x hx, h2, h3, ?_⟩
  intro p s hT hr
  apply C04_frame_kids g g' op h hop hs p s
  · intro c hc
    exact ⟨fun hm => (hT c hc).1 (h.par_of_mem hm), fun hm => (hT c hc).2 (h'.par_of_mem hm)⟩
  · intro e
    rcases hr p with hr | hr
    · exact absurd e hr
    · exact absurd rfl hr

/-! ### the frame on concrete states

IR 0, modules 1 and 2 in it, symbol 3 (name 7) in module 1, symbol 4 in module 2, IR 5 with module 6. -/

def frBase : List Op :=
  [.mkIR 100, .mk .module 101 [] (some 0), .mk .module 102 [] (some 0), .mkSym 103 7 (.int 3) (some 1),
   .mkSym 104 7 .none (some 2), .mkIR 105, .mk .module 106 [] (some 5)]

/-- `m2.symbols.add(s3)`: only node 3 is touched; it moves from module 1 to module 2; symbol 4, both
module lists and the names are as before -/
example :
    let g := run {} frBase
    let g' := run g [.add 2 .syms 3]
    touched g (.add 2 .syms 3) = [3] ∧ g.par 3 = some 1 ∧ g'.par 3 = some 2 ∧ g'.par 4 = g.par 4 ∧
      g'.kids 0 .mods = g.kids 0 .mods ∧ g'.kids 5 .mods = g.kids 5 .mods ∧
      g.kids 1 .syms = [3] ∧ g'.kids 1 .syms = [] ∧ g'.kids 2 .syms = [4, 3] ∧ g'.name 3 = 7 := by decide

/-- `ir0.modules[0] = m6`: touched are the new value 6 and the replaced element 1; module 2 stays at
its position, IR 5 loses module 6 (a touched node was in that list, so the frame says nothing there) -/
example :
    let g := run {} frBase
    let g' := run g [.setItem 0 0 6]
    touched g (.setItem 0 0 6) = [6, 1] ∧ g'.kids 0 .mods = [6, 2] ∧ g'.kids 5 .mods = [] ∧
      g'.par 2 = g.par 2 ∧ g'.kids 1 .syms = g.kids 1 .syms ∧ g'.kids 2 .syms = g.kids 2 .syms := by decide

/-- `reverse` touches no node and reorders one list -/
example :
    let g := run {} frBase
    let g' := run g [.reverse 0]
    touched g (.reverse 0) = [] ∧ g'.kids 0 .mods = [2, 1] ∧ g'.kids 5 .mods = g.kids 5 .mods := by decide

/-- the operations that are not collection operations -/
def setterOp : Op → Bool
  | .setParent _ _ | .mk _ _ _ _ | .mkSym _ _ _ _ | .mkIR _ | .setName _ _ | .setPayload _ _ => true
  | _ => false

/-- In a consistent state whose UUIDs are pairwise distinct per IR, the parent setter of every
kind, the constructors (children arguments and parent argument included) and the attribute setters
succeed: the theorems about them that assume `step g op = .ok g'` (`C04_move_setParent`,
`C04_move_mk`, `C04_detach_setParent`, `C04_frame`, ...) are not vacuous. -/
theorem C16_setters_never_raise (g : G) (op : Op) (h : ForestInv g) (hc : CacheInv g) (hd : Distinct g)
    (hop : OpOK g op) (hk : setterOp op = true) : ∃ g', step g op = .ok g' := by
  cases op with
  | mkIR u => exact ⟨_, rfl⟩
  | setName v nm => exact ⟨_, rfl⟩
  | setPayload v pl => exact ⟨_, rfl⟩
  | setParent c p =>
    obtain ⟨g', h1, _⟩ := cache_setParent_ok h hc (c := c) (p := p) hop.1 hop.2.1 hop.2.2
    exact ⟨g', h1⟩
  | mkSym u nm pl parent => exact (cache_step_mkSym h hc hop).imp fun _ h' => h'.1
  | mk k u kids parent => exact (cache_step_mk h hc hop).imp fun _ h' => h'.1
  | _ => simp [setterOp] at hk

/-- the same with the hypothesis written as a `match` on the operation -/
theorem C16_setters_never_raise' (g : G) (op : Op) (h : ForestInv g) (hc : CacheInv g) (hd : Distinct g)
    (hop : OpOK g op)
    (hk : match op with
          | .setParent _ _ | .mk _ _ _ _ | .mkSym _ _ _ _ | .mkIR _ | .setName _ _ | .setPayload _ _ => True
          | _ => False) : ∃ g', step g op = .ok g' := by
  apply C16_setters_never_raise g op h hc hd hop
  cases op <;> first | rfl | exact hk.elim

/-- every operation either succeeds or fails with a built-in's guard exception / a marker, the
constructors and setters included (closes the `True` branch of `wr_builtinError`): under the
hypotheses of C03 a public operation fails only as `wr_builtinError` says, and that predicate is
never consulted for a setter -/
theorem C16_error_exact_full (g : G) (op : Op) (e : Exc) (h : ForestInv g) (hc : CacheInv g) (hd : Distinct g)
    (hop : OpOK g op) (hfine : DistinctFine g op) (he : step g op = .error e) :
    setterOp op = false ∧ wr_builtinError g op e := by
  have hns : setterOp op = false := by
    cases hk : setterOp op with
    | false => rfl
    | true =>
      obtain ⟨g', hg'⟩ := C16_setters_never_raise g op h hc hd hop hk
      rw [hg'] at he; cases he
  refine ⟨hns, ?_⟩
  rcases C16_error_exact g op e h hop he with h1 | h1
  · rw [h1] at he
    exact absurd he (C03_no_cache_keyerror_fine g op h hc hd hop hfine)
  · exact h1

/-- the marker `outside` is raised for the pattern of the known finding K1 and for nothing else:
`modules[k] = v` where `v` is in the same list at a position other than `k` -/
theorem C16_outside_iff_K1 (g : G) (op : Op) (h : ForestInv g) (hc : CacheInv g) (hd : Distinct g)
    (hop : OpOK g op) (hfine : DistinctFine g op) :
    step g op = .error .outside ↔
      ∃ i k v idx old, op = .setItem i k v ∧ pyIndex (g.kids i .mods).length k = some idx ∧
        (g.kids i .mods)[idx]? = some old ∧ v ∈ g.kids i .mods ∧ v ≠ old := by
  constructor
  · intro he
    obtain ⟨hns, hb⟩ := C16_error_exact_full g op .outside h hc hd hop hfine he
    cases op with
    | setItem i k v =>
      rcases hb with hb | hb
      · cases hb.1
      · obtain ⟨idx, old, h1, h2, h3, h4⟩ := hb.2
        exact ⟨i, k, v, idx, old, rfl, h1, h2, h3, h4⟩
    | remove p s v => cases hb.1
    | pop p s v => rcases hb with hb | hb <;> cases hb.1
    | clear p s order => cases hb.1
    | iand p s vs order => cases hb.1
    | listRemove i v => cases hb.1
    | delItem i k => cases hb.1
    | listPop i k => cases hb.1
    | mkIR u => simp [setterOp] at hns
    | mk k u kids parent => simp [setterOp] at hns
    | mkSym u nm pl parent => simp [setterOp] at hns
    | setParent c p => simp [setterOp] at hns
    | setName v nm => simp [setterOp] at hns
    | setPayload v pl => simp [setterOp] at hns
    | _ => exact hb.elim
  · rintro ⟨i, k, v, idx, old, rfl, h1, h2, h3, h4⟩
    exact (C16_setItem_outside_iff g i k v).2 ⟨idx, old, h1, h2, h3, h4⟩

/-- non-vacuity of `C16_setters_never_raise`: a constructor with children and parent arguments, and a parent setter that
moves a module to another IR, issued in a reachable state; both succeed -/
example : cacheIsOk (step (run {} frBase) (.mk .module 107 [(.syms, [3, 4])] (some 5))) = true ∧
    cacheIsOk (step (run {} frBase) (.setParent 1 (some 5))) = true ∧
    cacheIsOk (step (run {} frBase) (.mkSym 108 1 (.int 0) (some 6))) = true := by decide

/-! ### the no-K1 hypothesis of `C03NoRollback.lean`, in terms of the operations themselves -/

/-- the history never performs `modules[k] = v` with `v` at another position of the same list -/
def NoK1 (g : G) (ops : List Op) : Prop :=
  ∀ pre i k v, pre ++ [Op.setItem i k v] <+: ops → ∀ idx old,
    pyIndex ((run g pre).kids i .mods).length k = some idx → ((run g pre).kids i .mods)[idx]? = some old →
    v ∈ (run g pre).kids i .mods → v = old

/-- under the hypotheses of C03, `NoK1` is exactly the hypothesis `hK1` of the history theorems -/
theorem C16_noK1_iff (ops : List Op) (hops : OpsOK {} ops) (hd : DistinctAlongFine {} ops) :
    (∀ pre op, pre ++ [op] <+: ops → step (run {} pre) op ≠ .error .outside) ↔ NoK1 {} ops := by
  constructor
  · intro hK1 pre i k v hpre idx old h1 h2 h3
    apply Classical.byContradiction
    intro hne
    exact hK1 pre _ hpre ((C16_setItem_outside_iff _ i k v).2 ⟨idx, old, h1, h2, h3, hne⟩)
  · intro hno pre op hpre he
    obtain ⟨a, b, c, d, e⟩ := nr_step_hyps {} C04_init C03_init ops hops hd pre op hpre
    obtain ⟨i, k, v, idx, old, rfl, h1, h2, h3, h4⟩ := (C16_outside_iff_K1 _ op a b c d e).1 he
    exact h4 (hno pre i k v hpre idx old h1 h2 h3)

/-- the bridge of `C03NoRollback.lean` with both hypotheses about the history itself: UUIDs distinct
per IR at every moment, and no item assignment of a module that is elsewhere in the same list. Then
nothing is ever rolled back except the built-ins' guard exceptions, and the strict run is the run. -/
theorem C03_runStrict_total_noK1 (ops : List Op) (hops : OpsOK {} ops) (hd : DistinctAlongFine {} ops)
    (hno : NoK1 {} ops) : runStrict {} ops = some (run {} ops) :=
  C03_runStrict_total ops hops hd ((C16_noK1_iff ops hops hd).2 hno)

end Gtirb.Forest
