import GtirbProofs.Lemmas.Codec
import GtirbProofs.Props.C07
import GtirbProofs.Props.C08
/-! C08, second part: the CONTENT of the wire format.

`Props/C08.lean` reads `encode` clause by clause.  Here: endianness stated positionally (byte `i`
is `n / 256^i % 256`, with floor division for two's complement, i.e. `(n >> 8i) & 0xff`); the
bytes, not just the length, of a UUID / of an Offset; the format is unambiguous and prefix-free;
and, as a DOUBLE ENTRY, `Wire`: a declarative definition of the format written from the wording
of the C++ reference (`include/gtirb/AuxData.hpp`, "Serialization Format" and the
`auxdata_traits` specialisations) without reference to `encode` / `leBytes` / `Leaf.width`, with
`encode_iff_Wire : encode nu t v = some bs ↔ Wire nu t v bs`. -/
namespace Gtirb.Codec

/-- byte `i` of the `w`-byte little-endian representation of `n` is the `i`-th base-256 digit
of `n`: the LEAST significant byte comes first -/
theorem leBytes_get (w n i : Nat) (h : i < w) :
    (leBytes w n)[i]? = some (UInt8.ofNat (n / 256 ^ i % 256)) := by
  induction w generalizing n i with
  | zero => omega
  | succ w ih =>
    cases i with
    | zero => simp [leBytes]
    | succ i =>
      simp only [leBytes, List.getElem?_cons_succ]
      rw [ih (n / 256) i (by omega), Nat.pow_succ, Nat.div_div_eq_div_mul, Nat.mul_comm]

theorem eq_leBytes_of_get (w n : Nat) (bs : Bytes) (hl : bs.length = w)
    (h : ∀ i, i < w → bs[i]? = some (UInt8.ofNat (n / 256 ^ i % 256))) : bs = leBytes w n := by
  apply List.ext_getElem?
  intro i
  by_cases hi : i < w
  · rw [h i hi, leBytes_get w n i hi]
  · rw [List.getElem?_eq_none (by omega), List.getElem?_eq_none (by rw [leBytes_length]; omega)]

/-- digit `i` (`i < w`) of the two's-complement residue of `n` is `n / 256^i % 256` with
floor division on `Int`: the arithmetic shift right by `8 i` bits, masked with `0xff` -/
theorem twos_byte (w i : Nat) (n : Int) (hi : i < w) :
    (((n % (256 ^ w : Int)).toNat / 256 ^ i % 256 : Nat) : Int) = n / (256 : Int) ^ i % 256 := by
  have hpos : (0 : Int) < 256 ^ w := Int.pow_pos (by decide)
  have hA : (256 : Int) ^ i ≠ 0 := Int.ne_of_gt (Int.pow_pos (by decide))
  have hx : ((n % (256 ^ w : Int)).toNat : Int) = n % (256 ^ w : Int) :=
    Int.toNat_of_nonneg (Int.emod_nonneg _ (by omega))
  obtain ⟨k, rfl⟩ : ∃ k, w = i + 1 + k := ⟨w - (i + 1), by omega⟩
  have hsplit : (256 : Int) ^ (i + 1 + k) = 256 ^ i * (256 * 256 ^ k) := by
    rw [Int.pow_add, Int.pow_succ, Int.mul_assoc]
  have hn := Int.emod_add_mul_ediv n (256 ^ (i + 1 + k))
  rw [Int.natCast_emod, Int.natCast_ediv, hx]
  generalize n % (256 ^ (i + 1 + k) : Int) = x at *
  generalize n / (256 ^ (i + 1 + k) : Int) = q at *
  subst hn
  rw [hsplit, Int.mul_assoc, Int.add_mul_ediv_left _ _ hA, Int.mul_assoc,
    Int.add_mul_emod_self_left]
  simp

/-- integers, signed or not: byte `i` of the encoding of `n` is `(n >> 8 i) & 0xff`
(little-endian, two's complement for the negative ones) -/
theorem encodeInt_get (s : Bool) (w : Nat) (n : Int) (bs : Bytes)
    (h : encodeInt s w n = some bs) (i : Nat) (hi : i < w) :
    bs[i]? = some (UInt8.ofNat (n / (256 : Int) ^ i % 256).toNat) := by
  obtain ⟨_, rfl⟩ := encodeInt_eq_some.1 h
  rw [leBytes_get _ _ _ hi, ← twos_byte w i n hi, Int.toNat_natCast]

theorem C08_int_bytes (nu : Nat → Bytes) (l : Leaf) (n : Int) (bs : Bytes) (hl : l.isInt = true)
    (h : encode nu (.leaf l) (.int n) = some bs) :
    bs.length = l.width ∧
      ∀ i, i < l.width → bs[i]? = some (UInt8.ofNat (n / (256 : Int) ^ i % 256).toNat) := by
  refine ⟨(C08_int_le nu l n bs hl h).2, fun i hi => ?_⟩
  simp only [encode, encodeLeaf_int nu l n hl] at h
  exact encodeInt_get _ _ _ _ h i hi

theorem encodeInt_neg (w : Nat) (m : Nat) (hm : 0 < m) (hr : 2 * m ≤ 256 ^ w) :
    encodeInt true w (-(m : Int)) = some (leBytes w (256 ^ w - m)) := by
  have hr' : intInRange true w (-(m : Int)) = true := by
    simp only [intInRange, if_true, decide_eq_true_eq, pow256_cast]
    omega
  simp only [encodeInt, hr', if_true, pow256_cast, toNat_emod_neg hm (by omega : m ≤ 256 ^ w)]

/-- a plain UUID is written as its own 16 bytes, unchanged -/
theorem C08_uuid_bytes (nu : Nat → Bytes) (u bs : Bytes)
    (h : encode nu (.leaf .uuid) (.uuid u) = some bs) : bs = u ∧ u.length = 16 := by
  obtain ⟨h1 | ⟨_, h1, _⟩, hl⟩ := encodeElem_eq_some.1 (show encodeElem nu (.uuid u) = some bs from h)
  · cases h1
    exact ⟨rfl, hl⟩
  · cases h1

/-- a node is written as the 16 bytes of ITS uuid, unchanged -/
theorem C08_uuid_node_bytes (nu : Nat → Bytes) (id : Nat) (bs : Bytes)
    (h : encode nu (.leaf .uuid) (.node id) = some bs) : bs = nu id ∧ (nu id).length = 16 := by
  obtain ⟨h1 | ⟨_, h1, rfl⟩, hl⟩ :=
    encodeElem_eq_some.1 (show encodeElem nu (.node id) = some bs from h)
  · cases h1
  · cases h1
    exact ⟨rfl, hl⟩

/-- nothing else has an encoding at type `UUID` -/
theorem C08_uuid_only (nu : Nat → Bytes) (v : Val) (bs : Bytes)
    (h : encode nu (.leaf .uuid) v = some bs) :
    (v = .uuid bs ∨ ∃ id, v = .node id ∧ bs = nu id) ∧ bs.length = 16 := by
  exact encodeElem_eq_some.1 (show encodeElem nu v = some bs from h)

/-- Offset: the 16 bytes of the element's UUID (the plain UUID itself, or the node's uuid),
then the displacement as 8 little-endian bytes - with the content of all 24 bytes -/
theorem C08_offset_bytes (nu : Nat → Bytes) (e : Val) (d : Nat) (bs : Bytes)
    (h : encode nu (.leaf .offset) (.offset e d) = some bs) :
    ∃ u, (e = .uuid u ∨ ∃ id, e = .node id ∧ u = nu id) ∧ u.length = 16 ∧ d < 2 ^ 64 ∧
      bs = u ++ leBytes 8 d ∧ bs.length = 24 ∧
      (∀ i, i < 16 → bs[i]? = u[i]?) ∧
      (∀ i, i < 8 → bs[16 + i]? = some (UInt8.ofNat (d / 256 ^ i % 256))) := by
  obtain ⟨u, hu, hd, rfl⟩ := encode_offset_eq_some.1 h
  obtain ⟨hv, hl⟩ := encodeElem_eq_some.1 hu
  refine ⟨u, hv, hl, hd, rfl, by simp [hl, u64, leBytes_length], fun i hi => ?_, fun i hi => ?_⟩
  · rw [List.getElem?_append_left (by omega)]
  · rw [List.getElem?_append_right (by omega), hl, Nat.add_sub_cancel_left]
    exact leBytes_get 8 d i hi

/-- no two values of a type share an encoding -/
theorem C08_injective (lookup : Bytes → Option Nat) (nu : Nat → Bytes) (t : Ty) (v v' : Val)
    (bs : Bytes) (h : hasType lookup nu t v = true) (h' : hasType lookup nu t v' = true)
    (e : encode nu t v = some bs) (e' : encode nu t v' = some bs) : v = v' := by
  have := (decode_encode h e []).symm.trans (decode_encode h' e' [])
  simpa using this

/-- ... and no encoding is a proper prefix of another: in a byte stream the value, its
encoding and what follows it are determined -/
theorem C08_prefix_free (lookup : Bytes → Option Nat) (nu : Nat → Bytes) (t : Ty) (v v' : Val)
    (bs bs' r r' : Bytes) (h : hasType lookup nu t v = true) (h' : hasType lookup nu t v' = true)
    (e : encode nu t v = some bs) (e' : encode nu t v' = some bs') (hs : bs ++ r = bs' ++ r') :
    v = v' ∧ bs = bs' ∧ r = r' := by
  have := (decode_encode h e r).symm.trans
    (hs ▸ decode_encode h' e' r')
  simp only [Res.ok.injEq, Prod.mk.injEq] at this
  obtain ⟨rfl, rfl⟩ := this
  refine ⟨rfl, ?_, rfl⟩
  exact List.append_cancel_right hs

/-- `0x0102` as `uint32_t`: least significant byte first -/
example : leBytes 4 0x0102 = [0x02, 0x01, 0, 0] := by decide
example : (leBytes 4 0x0102)[1]? = some 0x01 := by
  rw [leBytes_get 4 0x0102 1 (by decide)]
  decide
/-- `-2 : int16_t` is `fe ff`; byte 0 is `(-2) % 256 = 254`, byte 1 is `(-2) / 256 % 256 = 255` -/
example : encodeInt true 2 (-2) = some [0xfe, 0xff] := by decide
example : ((-2 : Int) / 256 ^ 0 % 256).toNat = 0xfe ∧ ((-2 : Int) / 256 ^ 1 % 256).toNat = 0xff := by
  decide
example : encodeInt true 2 (-(2 : Nat) : Int) = some (leBytes 2 (256 ^ 2 - 2)) :=
  encodeInt_neg 2 2 (by decide) (by decide)
/-- an Offset into node 2 (uuid = 16 bytes `02`) at displacement `0x0140` -/
example : encode exNodeUuid (.leaf .offset) (.offset (.node 2) 0x0140) =
    some (List.replicate 16 2 ++ [0x40, 0x01, 0, 0, 0, 0, 0, 0]) := by decide
/-- `C08_prefix_free` on a stream: `uint16_t 258` then the byte `09` cannot also be read as
another `uint16_t` followed by something else -/
example (v' : Val) (bs' r' : Bytes) (h' : hasType exLookup exNodeUuid (.leaf .u16) v' = true)
    (e' : encode exNodeUuid (.leaf .u16) v' = some bs') (hs : [0x02, 0x01] ++ [0x09] = bs' ++ r') :
    Val.int 258 = v' ∧ [0x02, 0x01] = bs' ∧ [0x09] = r' :=
  C08_prefix_free exLookup exNodeUuid (.leaf .u16) (.int 258) v' [0x02, 0x01] bs' [0x09] r'
    (by decide) h' (by decide) e' hs

/-! Nothing below refers to `encode`, `encodeInt`, `leBytes`, `u64`, `Leaf.width` or `Leaf.signed`
until the comparison theorems: little-endian is the positional relation `LE`, the integer
widths are the table `intFmt`, two's complement is `IntLE`. -/

/-- `LE w n bs`: `bs` is the `w`-byte little-endian representation of the unsigned number `n`
("swapping their bytes to little-endian order and writing them directly to the byte array"):
exactly `w` bytes, `n` fits, and byte `i` is the `i`-th base-256 digit of `n`. -/
def LE (w n : Nat) (bs : Bytes) : Prop :=
  bs.length = w ∧ n < 256 ^ w ∧ ∀ i, i < w → bs[i]? = some (UInt8.ofNat (n / 256 ^ i % 256))

instance (w n : Nat) (bs : Bytes) : Decidable (LE w n bs) := by unfold LE; infer_instance

/-- fixed-size integers of either signedness: `uintN_t` as is; `intN_t` in two's complement -/
inductive IntLE : Bool → Nat → Int → Bytes → Prop
  /-- unsigned: the number itself -/
  | unsigned {w n bs} : LE w n bs → IntLE false w (n : Int) bs
  /-- signed, not negative: the number itself, which must leave the top bit clear -/
  | nonneg {w n bs} : 2 * n < 256 ^ w → LE w n bs → IntLE true w (n : Int) bs
  /-- signed, negative: `2^(8w) - |n|` (two's complement), down to `-2^(8w-1)` -/
  | neg {w n bs} : 0 < n → 2 * n ≤ 256 ^ w → LE w (256 ^ w - n) bs → IntLE true w (-(n : Int)) bs

/-- the integer type names: signedness and `sizeof` (`Addr` is serialised as its `uint64_t`) -/
def intFmt : Leaf → Option (Bool × Nat)
  | .u8 => some (false, 1) | .u16 => some (false, 2) | .u32 => some (false, 4)
  | .u64 => some (false, 8) | .addr => some (false, 8)
  | .i8 => some (true, 1) | .i16 => some (true, 2) | .i32 => some (true, 4)
  | .i64 => some (true, 8)
  | _ => none

mutual
/-- THE WIRE FORMAT, one constructor per sentence of the reference (AuxData.hpp: "Serialization
Format" and the `auxdata_traits` specialisations). `Wire nu t v bs`: `bs` is the serialisation
of the value `v` at type `t` (`nu` gives the UUID of a node). -/
inductive Wire (nu : Nat → Bytes) : Ty → Val → Bytes → Prop
  /-- "Fixed-size types such as integers, Addr, etc are packed by swapping their bytes to
  little-endian order and writing them directly to the byte array." -/
  | int {l s w n bs} : intFmt l = some (s, w) → IntLE s w n bs → Wire nu (.leaf l) (.int n) bs
  /-- `bool`: one byte, 1 for true ... -/
  | boolTrue : Wire nu (.leaf .bool) (.bool true) [1]
  /-- ... 0 for false -/
  | boolFalse : Wire nu (.leaf .bool) (.bool false) [0]
  /-- `float`: the 4 bytes of the IEEE-754 bit pattern, little-endian -/
  | float {bits bs} : LE 4 bits bs → Wire nu (.leaf .f32) (.f32 bits) bs
  /-- `double`: the 8 bytes of the IEEE-754 bit pattern, little-endian -/
  | double {bits bs} : LE 8 bits bs → Wire nu (.leaf .f64) (.f64 bits) bs
  /-- `string`: the number of bytes as `uint64_t`, then the (UTF-8) bytes -/
  | string {s cnt} : LE 8 s.toUTF8.toList.length cnt →
      Wire nu (.leaf .string) (.str s) (cnt ++ s.toUTF8.toList)
  /-- `UUID`: its 16 bytes, as they are -/
  | uuid {u} : u.length = 16 → Wire nu (.leaf .uuid) (.uuid u) u
  /-- a node stands for its UUID -/
  | node {id} : (nu id).length = 16 → Wire nu (.leaf .uuid) (.node id) (nu id)
  /-- `Offset`: the `ElementId` as a UUID, then the `Displacement` as `uint64_t` -/
  | offset {e d ub db} : Wire nu (.leaf .uuid) e ub → LE 8 d db →
      Wire nu (.leaf .offset) (.offset e d) (ub ++ db)
  /-- "Containers first write out the number of elements (as a uint64_t), then write each
  element one after another." - sequences ... -/
  | seq {t xs cnt body} : LE 8 xs.length cnt → WireMany nu t xs body →
      Wire nu (.seq t) (.seq xs) (cnt ++ body)
  /-- ... sets ... -/
  | set {t xs cnt body} : LE 8 xs.length cnt → WireMany nu t xs body →
      Wire nu (.set t) (.set xs) (cnt ++ body)
  /-- ... and mappings, whose elements are pairs: the key, then the value -/
  | map {kt vt ks vs cnt body} : LE 8 ks.length cnt → WirePairs nu kt vt ks vs body →
      Wire nu (.map kt vt) (.map ks vs) (cnt ++ body)
  /-- "Tuples are similar but omit the size, since it can be inferred from the type." -/
  | tuple {ts xs bs} : WireFields nu ts xs bs → Wire nu (.tuple ts) (.tuple xs) bs
  /-- `variant`: the index of the alternative as `uint64_t`, then the value at the type of
  that alternative -/
  | variant {ts i t v idx body} : LE 8 i idx → ts[i]? = some t → Wire nu t v body →
      Wire nu (.variant ts) (.variant i v) (idx ++ body)
/-- the elements of a sequence / set, one after another -/
inductive WireMany (nu : Nat → Bytes) : Ty → List Val → Bytes → Prop
  | nil {t} : WireMany nu t [] []
  | cons {t x xs a b} : Wire nu t x a → WireMany nu t xs b → WireMany nu t (x :: xs) (a ++ b)
/-- the pairs of a mapping, one after another: key, value -/
inductive WirePairs (nu : Nat → Bytes) : Ty → Ty → List Val → List Val → Bytes → Prop
  | nil {kt vt} : WirePairs nu kt vt [] [] []
  | cons {kt vt k v ks vs a b c} : Wire nu kt k a → Wire nu vt v b → WirePairs nu kt vt ks vs c →
      WirePairs nu kt vt (k :: ks) (v :: vs) (a ++ b ++ c)
/-- the fields of a tuple, one after another, each at its own type -/
inductive WireFields (nu : Nat → Bytes) : List Ty → List Val → Bytes → Prop
  | nil : WireFields nu [] [] []
  | cons {t ts x xs a b} : Wire nu t x a → WireFields nu ts xs b →
      WireFields nu (t :: ts) (x :: xs) (a ++ b)
end

theorem LE_iff {w n : Nat} {bs : Bytes} : LE w n bs ↔ n < 256 ^ w ∧ bs = leBytes w n := by
  constructor
  · rintro ⟨hl, hn, hg⟩
    exact ⟨hn, eq_leBytes_of_get w n bs hl hg⟩
  · rintro ⟨hn, rfl⟩
    exact ⟨leBytes_length w n, hn, fun i hi => leBytes_get w n i hi⟩

theorem LE_u64 {n : Nat} {bs : Bytes} : LE 8 n bs ↔ n < 2 ^ 64 ∧ bs = u64 n := by
  rw [LE_iff]
  rfl

/-- the range test on `m` and on `-m`, in natural numbers (`0 < w`: the modulus is even) -/
theorem intInRange_natCast (s : Bool) {w : Nat} (hw : 0 < w) (m : Nat) :
    intInRange s w (m : Int) = true ↔ if s then 2 * m < 256 ^ w else m < 256 ^ w := by
  obtain ⟨w', rfl⟩ : ∃ w', w = w' + 1 := ⟨w - 1, by omega⟩
  have hP : 256 ^ (w' + 1) = 256 ^ w' * 256 := Nat.pow_succ ..
  simp only [intInRange, pow256_cast, hP]
  generalize 256 ^ w' = P
  cases s <;> simp <;> omega

theorem intInRange_neg (s : Bool) {w : Nat} (hw : 0 < w) {m : Nat} (hm : 0 < m) :
    intInRange s w (-(m : Int)) = true ↔ s = true ∧ 2 * m ≤ 256 ^ w := by
  obtain ⟨w', rfl⟩ : ∃ w', w = w' + 1 := ⟨w - 1, by omega⟩
  have hP : 256 ^ (w' + 1) = 256 ^ w' * 256 := Nat.pow_succ ..
  simp only [intInRange, pow256_cast, hP]
  generalize 256 ^ w' = P
  cases s <;> simp <;> omega

theorem encodeInt_natCast (s : Bool) (w n : Nat) (h : intInRange s w (n : Int) = true) :
    encodeInt s w (n : Int) = some (leBytes w n) := by
  have hlt : n < 256 ^ w := by
    simp only [intInRange, pow256_cast] at h
    generalize 256 ^ w = M at h
    cases s <;> simp at h <;> omega
  simp only [encodeInt, h, if_true, pow256_cast, toNat_emod_natCast hlt]

theorem encodeInt_iff_IntLE (s : Bool) (w : Nat) (n : Int) (bs : Bytes) (hw : 0 < w) :
    encodeInt s w n = some bs ↔ IntLE s w n bs := by
  constructor
  · intro h
    have hr := (encodeInt_eq_some.1 h).1
    by_cases hn : 0 ≤ n
    · obtain ⟨m, rfl⟩ : ∃ m : Nat, n = m := ⟨n.toNat, by omega⟩
      rw [encodeInt_natCast s _ m hr] at h
      cases h
      have hm := (intInRange_natCast s hw m).1 hr
      cases s
      · exact .unsigned (LE_iff.2 ⟨hm, rfl⟩)
      · exact .nonneg hm (LE_iff.2 ⟨by simp only [if_true] at hm; omega, rfl⟩)
    · obtain ⟨m, rfl, hm⟩ : ∃ m : Nat, n = -(m : Int) ∧ 0 < m := ⟨n.natAbs, by omega, by omega⟩
      obtain ⟨rfl, h2⟩ := (intInRange_neg s hw hm).1 hr
      rw [encodeInt_neg _ m hm h2] at h
      cases h
      exact .neg hm h2 (LE_iff.2 ⟨by omega, rfl⟩)
  · intro h
    cases h with
    | unsigned hle =>
      obtain ⟨hn, rfl⟩ := LE_iff.1 hle
      exact encodeInt_natCast _ _ _ ((intInRange_natCast false hw _).2 hn)
    | nonneg h2 hle =>
      obtain ⟨_, rfl⟩ := LE_iff.1 hle
      exact encodeInt_natCast _ _ _ ((intInRange_natCast true hw _).2 h2)
    | neg hm h2 hle =>
      obtain ⟨_, rfl⟩ := LE_iff.1 hle
      exact encodeInt_neg _ _ hm h2

theorem intFmt_eq (l : Leaf) :
    intFmt l = if l.isInt then some (l.signed, l.width) else none := by
  cases l <;> rfl

theorem intFmt_pos {l : Leaf} {s : Bool} {w : Nat} (h : intFmt l = some (s, w)) :
    l.isInt = true ∧ s = l.signed ∧ w = l.width ∧ 0 < w := by
  cases l <;> simp [intFmt] at h <;> (obtain ⟨rfl, rfl⟩ := h; simp [Leaf.isInt, Leaf.signed, Leaf.width])

section
variable (nu : Nat → Bytes)

theorem encodeElem_Wire {e : Val} {u : Bytes} (h : encodeElem nu e = some u) :
    Wire nu (.leaf .uuid) e u := by
  obtain ⟨rfl | ⟨id, rfl, rfl⟩, hl⟩ := encodeElem_eq_some.1 h
  · exact .uuid hl
  · exact .node hl

/-- along the cases of `encodeLeaf`: each successful one is a constructor of `Wire` -/
theorem encodeLeaf_Wire {l : Leaf} {v : Val} {bs : Bytes} (h : encodeLeaf nu l v = some bs) :
    Wire nu (.leaf l) v bs := by
  revert h
  fun_cases encodeLeaf nu l v <;> intro h
  case case1 b =>
    cases h
    cases b
    · exact .boolFalse
    · exact .boolTrue
  case case2 hb =>
    cases h
    exact .float (LE_iff.2 ⟨by simpa using hb, rfl⟩)
  case case4 hb =>
    cases h
    exact .double (LE_iff.2 ⟨by simpa using hb, rfl⟩)
  case case6 hb =>
    cases h
    exact .string (LE_u64.2 ⟨hb, rfl⟩)
  case case8 => exact encodeElem_Wire nu h
  case case9 u hu hd =>
    cases h
    exact .offset (encodeElem_Wire nu hu) (LE_u64.2 ⟨hd, rfl⟩)
  case case12 hl =>
    exact .int (by rw [intFmt_eq, hl]; rfl)
      ((encodeInt_iff_IntLE _ _ _ _ (Leaf.width_pos_of_isInt l hl)).1 h)
  all_goals cases h

theorem encodeMany_Wire {t : Ty} (ih : ∀ x a, encode nu t x = some a → Wire nu t x a) :
    ∀ {xs : List Val} {body : Bytes}, encodeMany (encode nu t) xs = some body →
      WireMany nu t xs body
  | [], _, rfl => .nil
  | x :: xs, body, h => by
    obtain ⟨a, b, ha, hb, rfl⟩ := (C08_many_cons _ x xs body).1 h
    exact .cons (ih x a ha) (encodeMany_Wire ih hb)

theorem encodeManyPairs_Wire {kt vt : Ty} (ihk : ∀ x a, encode nu kt x = some a → Wire nu kt x a)
    (ihv : ∀ x a, encode nu vt x = some a → Wire nu vt x a) :
    ∀ {ks vs : List Val} {body : Bytes},
      encodeManyPairs (encode nu kt) (encode nu vt) ks vs = some body →
      WirePairs nu kt vt ks vs body
  | [], [], _, rfl => .nil
  | [], _ :: _, _, h => nomatch h
  | _ :: _, [], _, h => nomatch h
  | k :: ks, v :: vs, body, h => by
    obtain ⟨a, b, c, ha, hb, hc, rfl⟩ := (C08_manyPairs_cons _ _ k v ks vs body).1 h
    exact .cons (ihk k a ha) (ihv v b hb) (encodeManyPairs_Wire ihk ihv hc)

mutual
theorem encode_Wire : ∀ (t : Ty) (v : Val) (bs : Bytes), encode nu t v = some bs → Wire nu t v bs
  | .leaf l, v, bs, h => encodeLeaf_Wire nu h
  | .seq t, v, bs, h => by
    cases v with
    | seq xs =>
      obtain ⟨body, hb, hl, rfl⟩ := encode_seq_iff.1 h
      exact .seq (LE_u64.2 ⟨hl, rfl⟩)
        (encodeMany_Wire nu (encode_Wire t) hb)
    | _ => simp [encode] at h
  | .set t, v, bs, h => by
    cases v with
    | set xs =>
      obtain ⟨body, hb, hl, rfl⟩ := encode_set_iff.1 h
      exact .set (LE_u64.2 ⟨hl, rfl⟩)
        (encodeMany_Wire nu (encode_Wire t) hb)
    | _ => simp [encode] at h
  | .map kt vt, v, bs, h => by
    cases v with
    | map ks vs =>
      obtain ⟨body, hb, hl, rfl⟩ := encode_map_iff.1 h
      exact .map (LE_u64.2 ⟨hl, rfl⟩)
        (encodeManyPairs_Wire nu (encode_Wire kt) (encode_Wire vt) hb)
    | _ => simp [encode] at h
  | .tuple ts, v, bs, h => by
    cases v with
    | tuple xs => exact .tuple (encodeTuple_Wire ts xs bs h)
    | _ => simp [encode] at h
  | .variant ts, v, bs, h => by
    cases v with
    | variant i x =>
      obtain ⟨body, hb, hl, rfl⟩ := encode_variant_iff.1 h
      obtain ⟨t, ht, hw⟩ := encodeNth_Wire ts i x body hb
      exact .variant (LE_u64.2 ⟨hl, rfl⟩) ht hw
    | _ => simp [encode] at h
  | .unknown _ _, v, _, h => nomatch v, h
  | .badArity _ _, v, _, h => nomatch v, h
theorem encodeTuple_Wire : ∀ (ts : List Ty) (xs : List Val) (bs : Bytes),
    encodeTuple nu ts xs = some bs → WireFields nu ts xs bs
  | [], [], _, rfl => .nil
  | [], _ :: _, _, h => nomatch h
  | _ :: _, [], _, h => nomatch h
  | t :: ts, x :: xs, bs, h => by
    obtain ⟨a, b, ha, hb, rfl⟩ := append_eq_some.1 h
    exact .cons (encode_Wire t x a ha) (encodeTuple_Wire ts xs b hb)
theorem encodeNth_Wire : ∀ (ts : List Ty) (i : Nat) (v : Val) (bs : Bytes),
    encodeNth nu ts i v = some bs → ∃ t, ts[i]? = some t ∧ Wire nu t v bs
  | [], _, _, _, h => nomatch h
  | t :: _, 0, v, bs, h => ⟨t, rfl, encode_Wire t v bs h⟩
  | _ :: ts, i + 1, v, bs, h => by
    obtain ⟨t, ht, hw⟩ := encodeNth_Wire ts i v bs h
    exact ⟨t, by simpa using ht, hw⟩
end

theorem Wire_encodeElem {e : Val} {u : Bytes} (h : Wire nu (.leaf .uuid) e u) :
    encodeElem nu e = some u := by
  cases h with
  | int hf _ => simp [intFmt] at hf
  | uuid hl => simp [encodeElem, hl]
  | node hl => simp [encodeElem, hl]

theorem Wire_encodeLeaf {l : Leaf} {v : Val} {bs : Bytes} (h : Wire nu (.leaf l) v bs) :
    encodeLeaf nu l v = some bs := by
  cases h with
  | int hf hi =>
    obtain ⟨hl, rfl, rfl, hw⟩ := intFmt_pos hf
    rw [encodeLeaf_int nu l _ hl]
    exact (encodeInt_iff_IntLE _ _ _ _ hw).2 hi
  | boolTrue => rfl
  | boolFalse => rfl
  | float hle =>
    obtain ⟨hn, rfl⟩ := LE_iff.1 hle
    simp only [encodeLeaf]
    rw [if_pos (by simpa using hn)]
  | double hle =>
    obtain ⟨hn, rfl⟩ := LE_iff.1 hle
    simp only [encodeLeaf]
    rw [if_pos (by simpa using hn)]
  | string hle =>
    obtain ⟨hn, rfl⟩ := LE_u64.1 hle
    simp only [encodeLeaf]
    rw [if_pos hn]
  | uuid hl => simp [encodeLeaf, encodeElem, hl]
  | node hl => simp [encodeLeaf, encodeElem, hl]
  | offset he hle =>
    obtain ⟨hn, rfl⟩ := LE_u64.1 hle
    simp [encodeLeaf, Wire_encodeElem nu he, hn]

theorem WireMany_encode {t : Ty} (ih : ∀ x a, Wire nu t x a → encode nu t x = some a) :
    ∀ {xs : List Val} {body : Bytes}, WireMany nu t xs body →
      encodeMany (encode nu t) xs = some body
  | [], body, h => by
    cases h
    rfl
  | x :: xs, body, h => by
    cases h with
    | cons hx hxs => simp [encodeMany, ih _ _ hx, WireMany_encode ih hxs]

theorem WirePairs_encode {kt vt : Ty} (ihk : ∀ x a, Wire nu kt x a → encode nu kt x = some a)
    (ihv : ∀ x a, Wire nu vt x a → encode nu vt x = some a) :
    ∀ {ks vs : List Val} {body : Bytes}, WirePairs nu kt vt ks vs body →
      encodeManyPairs (encode nu kt) (encode nu vt) ks vs = some body
  | [], _, _, h => by
    cases h
    rfl
  | k :: ks, vs, body, h => by
    cases h with
    | cons hk hv hr =>
      simp [encodeManyPairs, ihk _ _ hk, ihv _ _ hv, WirePairs_encode ihk ihv hr]

mutual
theorem Wire_encode : ∀ (t : Ty) (v : Val) (bs : Bytes), Wire nu t v bs → encode nu t v = some bs
  | .leaf l, v, bs, h => Wire_encodeLeaf nu h
  | .seq t, v, bs, h => by
    cases h with
    | seq hle hm =>
      obtain ⟨hn, rfl⟩ := LE_u64.1 hle
      exact encode_seq_iff.2
        ⟨_, WireMany_encode nu (Wire_encode t) hm, hn, rfl⟩
  | .set t, v, bs, h => by
    cases h with
    | set hle hm =>
      obtain ⟨hn, rfl⟩ := LE_u64.1 hle
      exact encode_set_iff.2
        ⟨_, WireMany_encode nu (Wire_encode t) hm, hn, rfl⟩
  | .map kt vt, v, bs, h => by
    cases h with
    | map hle hm =>
      obtain ⟨hn, rfl⟩ := LE_u64.1 hle
      exact encode_map_iff.2
        ⟨_, WirePairs_encode nu (Wire_encode kt) (Wire_encode vt) hm, hn, rfl⟩
  | .tuple ts, v, bs, h => by
    cases h with
    | tuple hf => exact WireFields_encode ts _ _ hf
  | .variant ts, v, bs, h => by
    cases h with
    | variant hle ht hw =>
      obtain ⟨hn, rfl⟩ := LE_u64.1 hle
      exact encode_variant_iff.2 ⟨_, WireNth_encode ts _ _ _ _ ht hw, hn, rfl⟩
  | .unknown _ _, _, _, h => nomatch h
  | .badArity _ _, _, _, h => nomatch h
theorem WireFields_encode : ∀ (ts : List Ty) (xs : List Val) (bs : Bytes),
    WireFields nu ts xs bs → encodeTuple nu ts xs = some bs
  | [], _, _, h => by
    cases h
    rfl
  | t :: ts, xs, bs, h => by
    cases h with
    | cons hx hr => simp [encodeTuple, Wire_encode t _ _ hx, WireFields_encode ts _ _ hr]
theorem WireNth_encode : ∀ (ts : List Ty) (i : Nat) (t : Ty) (v : Val) (bs : Bytes),
    ts[i]? = some t → Wire nu t v bs → encodeNth nu ts i v = some bs
  | [], _, _, _, _, ht, _ => nomatch ht
  | t' :: _, 0, _, v, bs, rfl, hw => Wire_encode t' v bs hw
  | _ :: ts, i + 1, t, v, bs, ht, hw => WireNth_encode ts i t v bs ht hw
end

end

/-- DOUBLE ENTRY: the model's encoder and the declarative format are the same relation -
for every type, value and byte string, with no typing hypothesis (the ranges of integers,
counts and indices and the 16 bytes of a UUID are premises of `Wire`'s constructors). -/
theorem encode_iff_Wire (nu : Nat → Bytes) (t : Ty) (v : Val) (bs : Bytes) :
    encode nu t v = some bs ↔ Wire nu t v bs :=
  ⟨encode_Wire nu t v bs, Wire_encode nu t v bs⟩

/-- functional: a value has at most one serialisation -/
theorem Wire_functional (nu : Nat → Bytes) (t : Ty) (v : Val) (bs bs' : Bytes)
    (h : Wire nu t v bs) (h' : Wire nu t v bs') : bs = bs' := by
  have e := (encode_iff_Wire nu t v bs).2 h
  have e' := (encode_iff_Wire nu t v bs').2 h'
  rw [e] at e'
  exact Option.some.inj e'

/-- `C08_foreign_bytes` with content: whatever bytes an independent producer emits for a typed
value, IF they follow the format as the reference states it (`Wire`), the decoder reads the
value back from them, whatever follows. (`C08_foreign_bytes` says this of `encode`'s own
output only.) -/
theorem C08_foreign_bytes_Wire (lookup : Bytes → Option Nat) (nu : Nat → Bytes) (t : Ty) (v : Val)
    (bs : Bytes) (h : hasType lookup nu t v = true) (hw : Wire nu t v bs) :
    ∀ rest, decode lookup t (bs ++ rest) = .ok (v, rest) :=
  decode_encode h ((encode_iff_Wire nu t v bs).2 hw)

/-- every value of a type has a serialisation in the format -/
theorem Wire_total (lookup : Bytes → Option Nat) (nu : Nat → Bytes) (t : Ty) (v : Val)
    (h : hasType lookup nu t v = true) : ∃ bs, Wire nu t v bs := by
  obtain ⟨b, hb, _⟩ := C07_roundtrip lookup nu t v h
  exact ⟨b, (encode_iff_Wire nu t v b).1 hb⟩

section WireExamples

/-- `Wire.string` with the UTF-8 bytes spelled out -/
theorem Wire.string' {nu : Nat → Bytes} {s : String} {cnt payload : Bytes}
    (hp : s.toUTF8.toList = payload) (hc : LE 8 payload.length cnt) :
    Wire nu (.leaf .string) (.str s) (cnt ++ payload) := by
  subst hp
  exact .string hc

/-- `mapping<string,sequence<tuple<UUID,int16_t>>>`: `{"hé": [(node 1, -2), (UUID 07.., 258)]}` -/
example : Wire exNodeUuid
    (.map (.leaf .string) (.seq (.tuple [.leaf .uuid, .leaf .i16])))
    (.map [.str "hé"]
      [.seq [.tuple [.node 1, .int (-2)], .tuple [.uuid (List.replicate 16 7), .int 258]]])
    ([1, 0, 0, 0, 0, 0, 0, 0] ++                       -- one pair
      (([3, 0, 0, 0, 0, 0, 0, 0] ++ [0x68, 0xc3, 0xa9]) ++   -- key: 3 bytes of UTF-8
       ([2, 0, 0, 0, 0, 0, 0, 0] ++                     -- value: two elements
         ((List.replicate 16 1 ++ ([0xfe, 0xff] ++ [])) ++      -- node 1's uuid, -2
          ((List.replicate 16 7 ++ ([0x02, 0x01] ++ [])) ++ []))) ++ [])) :=   -- the UUID, 258
  .map (by decide)
    (.cons (.string' (by decide +kernel) (by decide))
      (.seq (by decide)
        (.cons (.tuple (.cons (.node (by decide))
            (.cons (.int (s := true) (w := 2) rfl (.neg (n := 2) (by decide) (by decide) (by decide)))
              .nil)))
          (.cons (.tuple (.cons (.uuid (by decide))
              (.cons (.int (s := true) (w := 2) rfl (.nonneg (n := 258) (by decide) (by decide)))
                .nil)))
            .nil)))
      .nil)

/-- the same bytes, flat -/
example : ([1, 0, 0, 0, 0, 0, 0, 0] ++
      (([3, 0, 0, 0, 0, 0, 0, 0] ++ [0x68, 0xc3, 0xa9]) ++
       ([2, 0, 0, 0, 0, 0, 0, 0] ++
         ((List.replicate 16 1 ++ ([0xfe, 0xff] ++ [])) ++
          ((List.replicate 16 7 ++ ([0x02, 0x01] ++ [])) ++ []))) ++ []) : Bytes) =
    [1, 0, 0, 0, 0, 0, 0, 0, 3, 0, 0, 0, 0, 0, 0, 0, 0x68, 0xc3, 0xa9, 2, 0, 0, 0, 0, 0, 0, 0,
     1, 1, 1, 1, 1, 1, 1, 1, 1, 1, 1, 1, 1, 1, 1, 1, 0xfe, 0xff,
     7, 7, 7, 7, 7, 7, 7, 7, 7, 7, 7, 7, 7, 7, 7, 7, 0x02, 0x01] := by rfl

/-- `variant<bool,tuple<double,Addr>>`, alternative 1: `(1.0, 0x1000)` -/
example : Wire exNodeUuid
    (.variant [.leaf .bool, .tuple [.leaf .f64, .leaf .addr]])
    (.variant 1 (.tuple [.f64 0x3ff0000000000000, .int 4096]))
    ([1, 0, 0, 0, 0, 0, 0, 0] ++
      ([0, 0, 0, 0, 0, 0, 0xf0, 0x3f] ++ ([0, 0x10, 0, 0, 0, 0, 0, 0] ++ []))) :=
  .variant (t := .tuple [.leaf .f64, .leaf .addr]) (by decide) rfl
    (.tuple (.cons (.double (by decide))
      (.cons (.int (s := false) (w := 8) rfl (.unsigned (n := 4096) (by decide))) .nil)))

/-- `set<Offset>`: an offset into node 2 at 0x140 and one into a non-node UUID at 0 -/
example : Wire exNodeUuid (.set (.leaf .offset))
    (.set [.offset (.node 2) 0x140, .offset (.uuid (List.replicate 16 9)) 0])
    ([2, 0, 0, 0, 0, 0, 0, 0] ++
      ((List.replicate 16 2 ++ [0x40, 0x01, 0, 0, 0, 0, 0, 0]) ++
       ((List.replicate 16 9 ++ [0, 0, 0, 0, 0, 0, 0, 0]) ++ []))) :=
  .set (by decide)
    (.cons (.offset (.node (by decide)) (by decide))
      (.cons (.offset (.uuid (by decide)) (by decide)) .nil))

/-- and `encode` produces exactly these bytes (an instance of `encode_iff_Wire`) -/
example : encode exNodeUuid (.set (.leaf .offset))
    (.set [.offset (.node 2) 0x140, .offset (.uuid (List.replicate 16 9)) 0]) =
    some ([2, 0, 0, 0, 0, 0, 0, 0] ++
      ((List.replicate 16 2 ++ [0x40, 0x01, 0, 0, 0, 0, 0, 0]) ++
       ((List.replicate 16 9 ++ [0, 0, 0, 0, 0, 0, 0, 0]) ++ []))) := by decide

/-- `Wire` is not trivially true: big-endian bytes, an out-of-range value, a wrong count
and a 15-byte UUID are not in the format -/
example : ¬ Wire exNodeUuid (.leaf .u16) (.int 258) [0x01, 0x02] :=
  fun h => absurd ((encode_iff_Wire _ _ _ _).2 h) (by decide)
example : ∀ bs, ¬ Wire exNodeUuid (.leaf .u8) (.int 256) bs := fun bs h => by
  have e : encode exNodeUuid (.leaf .u8) (.int 256) = none := by decide
  rw [(encode_iff_Wire _ _ _ _).2 h] at e
  cases e
example : ¬ Wire exNodeUuid (.seq (.leaf .u8)) (.seq [.int 1]) ([2, 0, 0, 0, 0, 0, 0, 0] ++ [1]) :=
  fun h => absurd ((encode_iff_Wire _ _ _ _).2 h) (by decide)
example : ∀ bs, ¬ Wire exNodeUuid (.leaf .uuid) (.uuid (List.replicate 15 7)) bs := fun bs h => by
  have e : encode exNodeUuid (.leaf .uuid) (.uuid (List.replicate 15 7)) = none := by decide
  rw [(encode_iff_Wire _ _ _ _).2 h] at e
  cases e
/-- ... directly from the definition: a little-endian relation that a big-endian string fails -/
example : LE 2 258 [0x02, 0x01] ∧ ¬ LE 2 258 [0x01, 0x02] := by decide

end WireExamples

end Gtirb.Codec
