import GtirbProofs.Lemmas.CacheProofs
import GtirbProofs.Lemmas.RunLemmas
/-! Property C03: the per-IR UUID table always equals the scan.

`ir.get_by_uuid(u)` returns node `n` iff `n` is attached to `ir` (through containment) and
`n.uuid == u`; independently for every IR; after any sequence of operations; under the hypothesis
that the UUIDs of the nodes attached to one IR at the same time are pairwise distinct.

The hypothesis speaks about *every moment*. `Distinct g`/`Distinct g'` (before and after an
operation) is enough for every operation except `^=` (`Op.ixor`), which mixes detaching and attaching
of different nodes in one loop: `C03_ixor_counterexample` below. For `Op.ixor` the intermediate
moments are demanded explicitly (`DistinctFine`). The `KeyError` of `del cache[uuid]` is excluded from
the pre-state alone for every operation that attaches at most one subtree; for the loops
`update/extend/ixor` it needs the intermediate moments as well (`C03_update_keyerror_example`). -/
namespace Gtirb.Forest

theorem C03_init : CacheInv ({} : G) := by
  intro i u x
  constructor
  · intro h; cases h
  · intro h; exact absurd h.1 (Nat.not_lt_zero i)

/-- the lookup finds exactly the nodes attached to the IR, attachment read through `irOf`; as a scan of
the owning collections: `C03_lookup_scan` -/
theorem C03_lookup_iff (g : G) (hc : CacheInv g) (i u x : Nat) :
    getByUuid g i u = some x ↔ (i < g.n ∧ g.kind i = .ir ∧ x < g.n ∧ irOf g x = some i ∧ g.uuid x = u) :=
  hc i u x

theorem C03_lookup_none (g : G) (hc : CacheInv g) (i u : Nat) :
    getByUuid g i u = none ↔ ¬ ∃ x, x < g.n ∧ irOf g x = some i ∧ g.uuid x = u ∧ i < g.n ∧ g.kind i = .ir :=
  Option.eq_none_iff_forall_ne_some.trans
    ⟨fun h ⟨x, h1, h2, h3, h4, h5⟩ => h x ((hc i u x).2 ⟨h4, h5, h1, h2, h3⟩),
     fun h x hx => have t := (hc i u x).1 hx; h ⟨x, t.2.2.1, t.2.2.2.1, t.2.2.2.2, t.1, t.2.1⟩⟩

/-- no leakage between IRs: what IR i's table returns is rooted at i -/
theorem C03_no_leak (g : G) (hc : CacheInv g) (i j u x : Nat) (h : getByUuid g i u = some x)
    (hj : irOf g x = some j) : j = i := by
  have := ((hc i u x).1 h).2.2.2.1
  rw [hj] at this; exact Option.some.inj this

/-- one public operation keeps the table exact; all operations, with the hypothesis also at the
moments inside the multi-attach loops (`DistinctFine`, `True` for all but `update/extend/ixor`) -/
theorem C03_step_fine (g g' : G) (op : Op) (hf : ForestInv g) (hc : CacheInv g)
    (hd : Distinct g) (hd' : Distinct g') (hop : OpOK g op) (hfine : DistinctFine g op)
    (hs : step g op = .ok g') : CacheInv g' :=
  (cache_step_good g op hf hc hop hfine).of_ok hs hd'

/-- one public operation keeps the table exact: every operation except `^=`, from distinctness
before and after the operation only.
(Intended full statement, without `hx`, is false for `Op.ixor`: `C03_ixor_counterexample`.) -/
theorem C03_step_partial (g g' : G) (op : Op) (hf : ForestInv g) (_hf' : ForestInv g') (hc : CacheInv g)
    (hd : Distinct g) (hd' : Distinct g') (hop : OpOK g op) (hx : cacheNotIxor op = true)
    (hs : step g op = .ok g') : CacheInv g' :=
  C03_step_fine g g' op hf hc hd hd' hop (cache_distinctFine_of_ends hf hd hd' hop hs hx) hs

/-- `^=`: the table stays exact if the UUIDs are distinct at every moment of the loop -/
theorem C03_step_ixor (g g' : G) (p : Nat) (s : Slot) (vs : List Nat) (hf : ForestInv g) (hc : CacheInv g)
    (hd' : Distinct g') (hop : OpOK g (.ixor p s vs))
    (hfold : cache_DistinctFold (cache_ixorStep p s) g vs)
    (hs : step g (.ixor p s vs) = .ok g') : CacheInv g' :=
  (cache_step_ixor hf hc hop hfold).of_ok hs hd'

/-- `^=` with the hypothesis in the other formulation: the UUIDs are distinct in the state reached
after every proper prefix of the loop (and after the whole loop: `hd'`) -/
theorem C03_step_ixor_prefixes (g g' : G) (p : Nat) (s : Slot) (vs : List Nat) (hf : ForestInv g)
    (hc : CacheInv g) (hd' : Distinct g') (hop : OpOK g (.ixor p s vs))
    (hpre : ∀ vs' gk, vs' <+: vs → vs' ≠ vs → foldE (cache_ixorStep p s) vs' g = .ok gk → Distinct gk)
    (hs : step g (.ixor p s vs) = .ok g') : CacheInv g' :=
  C03_step_ixor g g' p s vs hf hc hd' hop (cache_distinctFold_of_prefixes vs g hpre) hs

/-- the `KeyError` of `del cache[uuid]` is never raised; all operations, hypothesis also inside the loops -/
theorem C03_no_cache_keyerror_fine (g : G) (op : Op) (hf : ForestInv g) (hc : CacheInv g) (hd : Distinct g)
    (hop : OpOK g op) (hfine : DistinctFine g op) : step g op ≠ .error .cacheKeyError :=
  fun h => (cache_step_good g op hf hc hop hfine).of_error h rfl

/-- the `KeyError` of `del cache[uuid]` is never raised, from the pre-state alone: every operation
that attaches at most one subtree (all but `update/extend/ixor`).
(Intended full statement, without `h1`, is false: `C03_update_keyerror_example`.) -/
theorem C03_no_cache_keyerror_partial (g : G) (op : Op) (hf : ForestInv g) (hc : CacheInv g)
    (hd : Distinct g) (hop : OpOK g op) (h1 : cacheSingleAttach op = true) :
    step g op ≠ .error .cacheKeyError :=
  C03_no_cache_keyerror_fine g op hf hc hd hop (cache_distinctFine_single h1)

theorem C03_skipStep {g : G} {op : Op} {ops : List Op} (hf : ForestInv g) (hc : CacheInv g) (hop : OpOK g op)
    (hd : DistinctAlongFine g (op :: ops)) : CacheInv (skipStep g op) :=
  skipStep_cases hc fun g' hs =>
    C03_step_fine g g' op hf hc hd.1 (skipStep_ok hs ▸ hd.2.2.head) hop hd.2.1 hs

theorem C03_history_from (ops : List Op) : ∀ (g : G), CacheInv g → OpsOK g ops → DistinctAlongFine g ops →
    (∀ (pre : List Op), pre <+: ops → ForestInv (run g pre)) → CacheInv (run g ops) :=
  fun _ hc hops hd hf =>
    run_induction_hist (H := DistinctAlongFine) (fun _ _ _ hd => hd.2.2)
      (fun _ _ _ hf _ hd hc hop => C03_skipStep hf hc hop hd) hc hops hd hf

/-- every reachable state, given that the forest invariant holds along the history (C04) and the
UUIDs are distinct at every moment (`DistinctAlongFine` = `DistinctAlong` plus the moments inside
`update/extend/ixor`) -/
theorem C03_history_fine (ops : List Op) (hops : OpsOK {} ops) (hd : DistinctAlongFine {} ops)
    (hforest : ∀ (pre : List Op), pre <+: ops → ForestInv (run {} pre)) : CacheInv (run {} ops) :=
  C03_history_from ops {} C03_init hops hd hforest

theorem C03_history_partial_from (ops : List Op) : ∀ (g : G), CacheInv g → OpsOK g ops → DistinctAlong g ops →
    (∀ op, op ∈ ops → cacheNotIxor op = true) →
    (∀ (pre : List Op), pre <+: ops → ForestInv (run g pre)) → CacheInv (run g ops) :=
  fun _ hc hops hd hx hf =>
    run_induction_hist (H := fun g ops => DistinctAlong g ops ∧ ∀ op, op ∈ ops → cacheNotIxor op = true)
      (fun _ _ _ h => ⟨h.1.2, fun o ho => h.2 o (List.mem_cons_of_mem _ ho)⟩)
      (fun g op _ hf hf' h hc hop => skipStep_cases hc fun g' hs =>
        C03_step_partial g g' op hf (skipStep_ok hs ▸ hf') hc h.1.1 (skipStep_ok hs ▸ DistinctAlong_head h.1.2) hop
          (h.2 op List.mem_cons_self) hs)
      hc hops ⟨hd, hx⟩ hf

/-- every reachable state of a history without `^=`, from `DistinctAlong` (distinctness between the
operations) and the forest invariant along the history (C04).
(Intended full statement, without `hx`, is false: `C03_ixor_counterexample`.) -/
theorem C03_history_partial (ops : List Op) (hops : OpsOK {} ops) (hd : DistinctAlong {} ops)
    (hx : ∀ op, op ∈ ops → cacheNotIxor op = true)
    (hforest : ∀ (pre : List Op), pre <+: ops → ForestInv (run {} pre)) : CacheInv (run {} ops) :=
  C03_history_partial_from ops {} C03_init hops hd hx hforest

/-! ### why the hypotheses cannot be weakened: concrete states -/

def cacheDistinctB (g : G) : Bool :=
  (List.range g.n).all fun a => (List.range g.n).all fun b =>
    (irOf g a).isNone || irOf g a != irOf g b || g.uuid a != g.uuid b || a == b

theorem cacheDistinctB_sound {g : G} (h : cacheDistinctB g = true) : Distinct g := by
  intro a b i ha hb hia hib hab
  unfold cacheDistinctB at h
  rw [List.all_eq_true] at h
  have h1 := h a (List.mem_range.2 ha)
  rw [List.all_eq_true] at h1
  have h2 := h1 b (List.mem_range.2 hb)
  simp [hia, hib, hab] at h2
  exact h2

def cacheIsOk : Except Exc G → Bool
  | .ok _ => true
  | .error _ => false

def cacheIsKeyError : Except Exc G → Bool
  | .error .cacheKeyError => true
  | _ => false

/-- IR 0, module 1, symbol 2 (uuid 5) in the module, symbol 3 (uuid 5) detached -/
def cacheCexOps : List Op :=
  [.mkIR 100, .mk .module 101 [] (some 0), .mkSym 5 0 .none (some 1), .mkSym 5 0 .none none]

/-- `syms ^= {3, 2}` iterated as 3, 2: the UUIDs are distinct before and after, the operation
succeeds, yet afterwards node 3 is attached to IR 0 with uuid 5 and `get_by_uuid(5)` finds nothing.
Between the two steps both symbols with uuid 5 are in the IR: the property's hypothesis is violated at
that moment, which `Distinct` before/after does not see. -/
theorem C03_ixor_counterexample :
    let g := run {} cacheCexOps
    let op := Op.ixor 1 .syms [3, 2]
    let g' := run g [op]
    cacheIsOk (step g op) = true ∧ OpOK g op ∧ Distinct g ∧ Distinct g' ∧
      getByUuid g 0 5 = some 2 ∧ getByUuid g' 0 5 = none ∧ irOf g' 3 = some 0 ∧ g'.uuid 3 = 5 ∧
      ¬ CacheInv g' := by
  intro g op g'
  have hev : cacheIsOk (step g op) = true ∧ (1 < g.n ∧ ∀ v ∈ [3, 2], v < g.n ∧ slotOf (g.kind v) = some .syms ∧
      parentKind (g.kind v) = some (g.kind 1)) ∧ cacheDistinctB g = true ∧ cacheDistinctB g' = true ∧
      getByUuid g 0 5 = some 2 ∧ getByUuid g' 0 5 = none ∧ irOf g' 3 = some 0 ∧ g'.uuid 3 = 5 ∧
      0 < g'.n ∧ g'.kind 0 = .ir ∧ 3 < g'.n := by decide
  obtain ⟨h1, ⟨hp, h2⟩, h3, h4, h5, h6, h7, h8, h9, h10, h11⟩ := hev
  refine ⟨h1, ⟨by decide, hp, fun v hv => ⟨hp, h2 v hv⟩⟩, cacheDistinctB_sound h3, cacheDistinctB_sound h4,
    h5, h6, h7, h8, fun hc => ?_⟩
  have := (hc 0 5 3).2 ⟨h9, h10, h11, h7, h8⟩
  rw [show g'.cache 0 5 = none from h6] at this
  cases this

/-- the same state, `syms ^= [3, 2, 3]`: the `KeyError` of `del cache[uuid]` -/
theorem C03_ixor_keyerror_example :
    cacheIsKeyError (step (run {} cacheCexOps) (.ixor 1 .syms [3, 2, 3])) = true := by decide

/-- a detached section 4 that holds two intervals with equal UUIDs; `secs.update([4, 4])` on a module
inside an IR raises the `KeyError` although the UUIDs are distinct in the state before (nothing of
the section is attached); `secs.update([4])` is fine -/
def cacheCexOps2 : List Op :=
  [.mkIR 100, .mk .module 101 [] (some 0), .mk .interval 7 [] none, .mk .interval 7 [] none,
   .mk .section 8 [(.bis, [2, 3])] none]

theorem C03_update_keyerror_example :
    let g := run {} cacheCexOps2
    Distinct g ∧ cacheIsKeyError (step g (.update 1 .secs [4, 4])) = true ∧
      cacheIsOk (step g (.update 1 .secs [4])) = true := by
  intro g
  exact ⟨cacheDistinctB_sound (by decide), by decide, by decide⟩

end Gtirb.Forest
