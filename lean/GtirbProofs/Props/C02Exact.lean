import GtirbProofs.Props.C02Accepts
import GtirbProofs.Props.C17
import GtirbProofs.Props.C01
/-! C02, reader direction, in one statement: `C02_reader_exact : fromMsg m = .ok v → toMsg v = normMsg m`.

`normMsg m` (Lemmas/RoundTrip.lean) is the message with exactly the information the reader
*ignores or merges* removed: `address` without `has_address` is dropped (proto3 default 0),
repeated section flags / expression attributes / CFG edges are kept once (first occurrence, in
order), and the CFG vertex list (which the reader never looks at) is recomputed from the modules.
Everything else is untouched, so every field of `normMsg m` is a field of `toMsg v`; the statement
subsumes the stage lemmas `C02_reader_*` of Props/C02.lean. With it: the converse of
`C02_reader_accepts` for messages with pairwise distinct node UUIDs, and `structOK`, "everything
except the references is fine" (for Props/C09Errors.lean). -/
namespace Gtirb.Msg
open Gtirb

theorem mem_dedupM {α : Type} [DecidableEq α] {l : List α} {a : α} : a ∈ dedupM l ↔ a ∈ l := by
  simp [dedupM, mem_dedup_foldl]

theorem nodup_dedupM {α : Type} [DecidableEq α] (l : List α) : (dedupM l).Nodup := by
  simpa [dedupM] using nodup_dedup_foldl l [] (by simp)

theorem dedupM_id {α : Type} [DecidableEq α] {l : List α} (h : l.Nodup) : dedupM l = l := by
  have := dedup_foldl_id l [] (by simpa using h)
  simpa [dedupM] using this

theorem mintervalKinds_norm (x : MByteInterval) : mintervalKinds (normInterval x) = mintervalKinds x := rfl

theorem normModule_refUuids (m : MModule) : (normModule m).refUuids = m.refUuids := by
  simp [MModule.refUuids, normModule, normSection, normInterval, List.flatMap_map]

theorem normMsg_nodeUuids (m : MIR) : (normMsg m).nodeUuids = m.nodeUuids := by
  simp [MIR.nodeUuids, normMsg, List.flatMap_map, normModule_nodeUuids]

/-- what the reader returns, written out again, is the normal form of what it read:
nothing is lost, nothing is invented -/
theorem C02_reader_exact (m : MIR) (v : IRV) (h : fromMsg m = .ok v) : toMsg v = normMsg m :=
  toMsg_of_fromMsg h

/-- two messages that yield the same IR have the same normal form: the reader identifies
exactly the messages `normMsg` identifies (on what it accepts) -/
theorem C02_reader_exact_inj (m m' : MIR) (v : IRV) (h : fromMsg m = .ok v) (h' : fromMsg m' = .ok v) :
    normMsg m = normMsg m' := by
  rw [← C02_reader_exact m v h, ← C02_reader_exact m' v h']

theorem C02_normMsg_toMsg (v : IRV) (h : wfir v = true) : normMsg (toMsg v) = toMsg v :=
  normMsg_toMsg h

/-- non-vacuity: `exClosedMsg` has a stale address, duplicate flags, attributes and edges and
an empty vertex list; its normal form differs from it and is what `toMsg` of the loaded IR gives -/
example : ∃ v, fromMsg exClosedMsg = .ok v ∧ toMsg v = normMsg exClosedMsg
    ∧ normMsg exClosedMsg ≠ exClosedMsg := by
  obtain ⟨v, hv⟩ := C02_reader_accepts exClosedMsg closedMsg_exClosedMsg
  exact ⟨v, hv, C02_reader_exact _ _ hv, fun h => absurd (congrArg (·.cfg.edges.length) h) (by decide)⟩

example : (normMsg exClosedMsg).cfg.edges.length = 3 ∧ exClosedMsg.cfg.edges.length = 4
    ∧ (normMsg exClosedMsg).cfg.vertices = [accU 5, accU 3, accU 23] := by decide

theorem all_dedupM {α : Type} [DecidableEq α] (l : List α) (p : α → Bool) :
    (dedupM l).all p = l.all p := by
  rw [Bool.eq_iff_iff]
  simp only [List.all_eq_true, mem_dedupM]

theorem mmodulesOK_norm : ∀ (ms earlier : List MModule),
    mmodulesOK (earlier.map normModule) (ms.map normModule) = mmodulesOK earlier ms := by
  intro ms
  induction ms with
  | nil => intro _; rfl
  | cons m ms ih =>
    intro earlier
    have := ih (earlier ++ [m])
    simp only [List.map_append, List.map_cons, List.map_nil] at this
    simp only [List.map_cons, mmodulesOK, mmoduleOK_norm, this]

theorem closedMsg_normMsg (m : MIR) : closedMsg (normMsg m) = closedMsg m := by
  have hmods := mmodulesOK_norm m.modules []
  simp only [List.map_nil] at hmods
  have hcfg : ((m.modules.map normModule).flatMap fun mm => mm.codeUuids ++ mm.proxies)
      = m.modules.flatMap fun mm => mm.codeUuids ++ mm.proxies :=
    by simp only [List.flatMap_map, normModule_codeUuids]; rfl
  simp only [closedMsg, normMsg_nodeUuids]
  simp only [normMsg, hmods, hcfg, all_dedupM]

/-- a message the reader accepts is closed, provided its node UUIDs are pairwise distinct
(the reader lets exactly one kind of duplicate through, `C17_accepted_dup_counterexample`) -/
theorem C02_accepted_closed (m : MIR) (v : IRV) (h : fromMsg m = .ok v)
    (hnd : nodupM m.nodeUuids = true) : closedMsg m = true := by
  obtain ⟨h16, hver, hmods, hedges⟩ := closed_of_chkMsg (fromMsg_ok_iff.1 h).1
  exact closedMsg_iff.2 ⟨h16, (nodupM_iff _).1 hnd, hver, hmods, hedges⟩

/-- among messages with pairwise distinct node UUIDs, `closedMsg` is exactly the accepted set -/
theorem C02_accepts_iff_closed' (m : MIR) (hnd : nodupM m.nodeUuids = true) :
    (∃ v, fromMsg m = .ok v) ↔ closedMsg m = true :=
  ⟨fun ⟨v, h⟩ => C02_accepted_closed m v h hnd, C02_reader_accepts m⟩

/-- enum numbers known, stored bytes within the interval size, one-ofs set -/
def mmoduleStructOK (m : MModule) : Bool :=
  pyEnumHas "ISA" m.isa && pyEnumHas "FileFormat" m.fileFormat && pyEnumHas "ByteOrder" m.byteOrder
  && m.sections.all (fun s => s.sectionFlags.all (pyEnumHas "SectionFlag")
      && s.byteIntervals.all fun x => decide (x.contents.length ≤ x.size) && x.blocks.all mblockOK
          && x.symbolicExpressions.all fun kv => kv.2.value.isSome)

/-- 16-byte UUIDs (nodes and references), pairwise distinct node UUIDs, the version, and
the per-module conditions: a message in which only *references* can be wrong -/
def structOK (m : MIR) : Bool :=
  m.nodeUuids.all (·.length == 16) && m.refUuids.all (·.length == 16) && nodupM m.nodeUuids
  && m.version == Generated.protobufVersion && m.modules.all mmoduleStructOK
  && m.cfg.edges.all (fun e => match e.label with | none => true | some l => pyEnumHas "EdgeType" l.type)

/-- for structurally sound messages, accepted = closed (of `structOK` only the distinctness
of the node UUIDs is used: `C02_accepts_iff_closed'`) -/
theorem C02_accepts_iff_closed (m : MIR) (hs : structOK m = true) :
    (∃ v, fromMsg m = .ok v) ↔ closedMsg m = true := by
  apply C02_accepts_iff_closed'
  simp only [structOK, Bool.and_eq_true] at hs
  exact hs.1.1.1.2

/-- `structOK` looks at the node UUIDs only through their list -/
theorem structOK_of_same_nodes {m m' : MIR} (hn : m'.nodeUuids = m.nodeUuids) (h : structOK m = true)
    (h' : (m'.refUuids.all (·.length == 16) && m'.version == Generated.protobufVersion
      && m'.modules.all mmoduleStructOK
      && m'.cfg.edges.all (fun e => match e.label with
          | none => true
          | some l => pyEnumHas "EdgeType" l.type)) = true) : structOK m' = true := by
  simp only [structOK, Bool.and_eq_true, hn] at h h' ⊢
  exact ⟨⟨⟨⟨⟨h.1.1.1.1.1, h'.1.1.1⟩, h.1.1.1.2⟩, h'.1.1.2⟩, h'.1.2⟩, h'.2⟩

theorem mmoduleOK_refs_mem {earlier : List MModule} {mm : MModule} (h : mmoduleOK earlier mm = true) :
    ∀ u ∈ mm.refUuids, ∃ m' ∈ earlier ++ [mm], u ∈ m'.nodeUuids := by
  obtain ⟨⟨hentry, hrefs, hexprs⟩, _⟩ := mmoduleOK_iff.1 h
  intro u hu
  simp only [MModule.refUuids, List.mem_append, List.mem_flatMap] at hu
  rcases hu with (hu | ⟨s, hs, hu⟩) | ⟨s, hs, x, hx, kv, hkv, hu⟩
  · by_cases he : mm.entryPoint.isEmpty = true
    · simp [he] at hu
    · simp only [he, if_false, List.mem_singleton, Bool.false_eq_true] at hu
      subst hu
      obtain ⟨m', hm', hc⟩ := List.mem_flatMap_snoc.1 (hentry.resolve_left he)
      exact ⟨m', hm', codeUuids_sub hc⟩
  · obtain ⟨su, sp, sn, sa⟩ := s
    cases sp with
    | none => simp at hu
    | some p =>
      cases p with
      | value n => simp at hu
      | referentUuid r =>
        simp only [List.mem_singleton] at hu
        subst hu
        obtain ⟨m', hm', hc⟩ := List.mem_flatMap_snoc.1 (hrefs _ hs u rfl)
        exact ⟨m', hm', blockUuids_sub hc⟩
  · obtain ⟨m', hm', hc⟩ := List.mem_flatMap_snoc.1 (hexprs s hs x hx kv hkv u hu)
    exact ⟨m', hm', symbolUuids_sub hc⟩

/-- a closed message is closed in the plain sense: every reference field names a node of
the message -/
theorem closedMsg_refs_mem (m : MIR) (h : closedMsg m = true) : ∀ u ∈ m.refUuids, u ∈ m.nodeUuids := by
  have hedges := (closedMsg_iff.1 h).edges
  have hsub : ∀ mm ∈ m.modules, ∀ u ∈ mm.nodeUuids, u ∈ m.nodeUuids := by
    intro mm hm u hu
    simp only [MIR.nodeUuids, List.mem_cons, List.mem_flatMap]
    exact .inr ⟨mm, hm, hu⟩
  intro u hu
  simp only [MIR.refUuids, List.mem_append, List.mem_flatMap] at hu
  rcases hu with ⟨mm, hm, hu⟩ | ⟨e, he, hu⟩
  · obtain ⟨pre, post, hsplit⟩ := List.append_of_mem hm
    have hok := (closedMsg_iff.1 h).moduleOK hsplit
    obtain ⟨m', hm', hn⟩ := mmoduleOK_refs_mem hok u hu
    apply hsub m' _ u hn
    rw [hsplit]
    simp only [List.mem_append, List.mem_cons, List.not_mem_nil, or_false] at hm' ⊢
    rcases hm' with h' | h'
    · exact .inl h'
    · exact .inr (.inl h')
  · have hcfg : ∀ w, w ∈ (m.modules.flatMap fun mm => mm.codeUuids ++ mm.proxies) → w ∈ m.nodeUuids := by
      intro w hw
      obtain ⟨mm, hm, hw⟩ := List.mem_flatMap.1 hw
      rcases List.mem_append.1 hw with hc | hp
      · exact hsub mm hm w (codeUuids_sub hc)
      · exact hsub mm hm w (proxies_sub hp)
    have := (hedges e he).1
    simp only [List.mem_cons, List.not_mem_nil, or_false] at hu
    rcases hu with rfl | rfl
    · exact hcfg _ this.1
    · exact hcfg _ this.2

theorem mmoduleOK_struct {earlier : List MModule} {mm : MModule} (h : mmoduleOK earlier mm = true) :
    mmoduleStructOK mm = true := by
  obtain ⟨_, hen, hsecs⟩ := mmoduleOK_iff.1 h
  simp only [mmoduleStructOK, Bool.and_eq_true, List.all_eq_true, decide_eq_true_eq]
  exact ⟨⟨⟨hen.1, hen.2.1⟩, hen.2.2⟩, fun s hs => ⟨List.all_eq_true.1 (hsecs s hs).1, fun x hx =>
    ⟨⟨((hsecs s hs).2 x hx).1, ((hsecs s hs).2 x hx).2.1⟩, ((hsecs s hs).2 x hx).2.2⟩⟩⟩

/-- closed messages are structurally sound: `structOK` is `closedMsg` minus the references -/
theorem closedMsg_structOK (m : MIR) (h : closedMsg m = true) : structOK m = true := by
  have hrefs := closedMsg_refs_mem m h
  obtain ⟨h16, hnd, hver, _, hedges⟩ := closedMsg_iff.1 h
  simp only [structOK, Bool.and_eq_true, List.all_eq_true, beq_iff_eq, nodupM_iff]
  refine ⟨⟨⟨⟨⟨h16, fun u hu => h16 u (hrefs u hu)⟩, hnd⟩, hver⟩, ?_⟩, fun e he => ?_⟩
  · intro mm hm
    obtain ⟨pre, post, hsplit⟩ := List.append_of_mem hm
    exact mmoduleOK_struct ((closedMsg_iff.1 h).moduleOK hsplit)
  · cases hl : e.label with
    | none => rfl
    | some l => exact (hedges e he).2 l hl

/-- every reference field the writer emits for a self-contained IR (entry points, symbol
referents, expression symbols, edge endpoints) is a 16-byte UUID -/
theorem C02_ref_uuid_16 (v : IRV) (h : wfir v = true) : ∀ u ∈ (toMsg v).refUuids, u.length = 16 := by
  have hc := C02_toMsg_closed v h
  have hs := closedMsg_structOK _ hc
  simp only [structOK, Bool.and_eq_true, List.all_eq_true, beq_iff_eq] at hs
  exact hs.1.1.1.1.2

theorem structOK_exClosedMsg : structOK exClosedMsg = true :=
  closedMsg_structOK _ closedMsg_exClosedMsg

example : structOK exClosedMsg = true ∧ closedMsg exClosedMsg = true :=
  ⟨structOK_exClosedMsg, closedMsg_exClosedMsg⟩

theorem structOK_k5Msg : structOK k5Msg = true := by decide +kernel

/-- the forward-reference message is structurally sound but not closed, and not accepted -/
example : structOK k5Msg = true ∧ closedMsg k5Msg = false ∧ ¬ ∃ v, fromMsg k5Msg = .ok v := by
  refine ⟨structOK_k5Msg, closedMsg_k5Msg, ?_⟩
  rw [C02_accepts_iff_closed k5Msg structOK_k5Msg, closedMsg_k5Msg]
  decide

/-- `dupMsg` (an interval sharing the UUID of its own block) shows the hypothesis of
`C02_accepted_closed` is needed: accepted, not closed -/
example : (∃ v, fromMsg dupMsg = .ok v) ∧ closedMsg dupMsg = false ∧ nodupM dupMsg.nodeUuids = false :=
  ⟨let ⟨v, h, _⟩ := C17_accepted_dup_counterexample; ⟨v, h⟩, by decide, by decide⟩

example : (toMsg exIR).refUuids.length = 13 ∧ ∀ u ∈ (toMsg exIR).refUuids, u.length = 16 :=
  ⟨by decide, C02_ref_uuid_16 exIR wfir_exIR⟩

end Gtirb.Msg
