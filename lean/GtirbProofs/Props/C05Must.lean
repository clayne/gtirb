import GtirbProofs.Props.C05Scopes
/-! C05, the must side of the sandwich at section / module / IR scope.

The code reaches a block through `byte_intervals_on(addrs)`, i.e. only through
intervals whose DECLARED extent `[address, address + size)` meets the query. A
block may stick out of (or lie wholly beyond) the declared extent of its
interval; the part outside is what the property allows to be missed. What MUST
be reported:

* 'at': a block whose first address lies inside the declared extent and is a
  member of the queried range (`C05_section_at_inside`, `C05_scope_at_inside`);
* 'on': a block such that query ∩ block ∩ declared extent is non-empty - whether
  the block lies wholly inside the extent or straddles its end
  (`C05_section_on_part_inside`, `C05_scope_on_part_inside`; a block wholly
  inside, `C05_section_on_inside`, is a special case).

`C05_section_on_blk` / `C05_section_at_blk` give the exact condition for one
block: it is reported iff it qualifies AND its interval's declared extent is
'on' the query. -/
namespace Gtirb.Index

theorem mem_scanBlocksOn_of_blocksOf {d : D} (h : DInv d) {y : BI} {s : Nat} (hy : y ∈ d.bisOf s)
    {blk : Blk} (hblk : blk ∈ d.blocksOf y.id) (r : Rng) :
    blk.id ∈ scanBlocksOn d y.id r ↔ ∃ a : Nat, y.addr = some a ∧ blk.size ≠ 0 ∧ r.start < r.stop ∧
      (a : Int) + blk.offset < r.stop ∧ (a : Int) + blk.offset + blk.size > r.start :=
  mem_scanBlocksOn.trans (scan_of_blocksOf h hy hblk)

theorem mem_scanBlocksAt_of_blocksOf {d : D} (h : DInv d) {y : BI} {s : Nat} (hy : y ∈ d.bisOf s)
    {blk : Blk} (hblk : blk ∈ d.blocksOf y.id) (r : Rng) :
    blk.id ∈ scanBlocksAt d y.id r ↔ ∃ a : Nat, y.addr = some a ∧
      r.mem ((a : Int) + blk.offset) = true :=
  mem_scanBlocksAt.trans (scan_of_blocksOf h hy hblk)

/-- exact condition for one block, 'on': reported iff the block meets the query
envelope AND the declared extent of its interval does -/
theorem C05_section_on_blk (d : D) (s : Nat) (r : Rng) (h : DInv d) (hs : (d.sec? s).isSome)
    (y : BI) (blk : Blk) (hy : y ∈ d.bisOf s) (hblk : blk ∈ d.blocksOf y.id) :
    blk.id ∈ (secBlocksOn d s r).2 ↔ ∃ a : Nat, y.addr = some a ∧ r.start < r.stop ∧
      (blk.size ≠ 0 ∧ (a : Int) + blk.offset < r.stop ∧ (a : Int) + blk.offset + blk.size > r.start) ∧
      (y.size ≠ 0 ∧ (a : Int) < r.stop ∧ (a : Int) + y.size > r.start) := by
  rw [C05_section_on d s r h hs, exists_owner_iff h scanBlocksOn_owner hblk, mem_scanBisOn_of_bisOf h hy,
    mem_scanBlocksOn_of_blocksOf h hy hblk]
  constructor
  · rintro ⟨⟨a', ha', g1, _, g3, g4⟩, a, ha, h1, h2, h3, h4⟩
    obtain rfl : a = a' := Option.some.inj (ha.symm.trans ha')
    exact ⟨a, ha, h2, ⟨h1, h3, h4⟩, g1, g3, g4⟩
  · rintro ⟨a, ha, h2, ⟨h1, h3, h4⟩, g1, g3, g4⟩
    exact ⟨⟨a, ha, g1, h2, g3, g4⟩, a, ha, h1, h2, h3, h4⟩

/-- exact condition for one block, 'at': reported iff its first address is a
member of the range AND the declared extent of its interval meets the envelope -/
theorem C05_section_at_blk (d : D) (s : Nat) (r : Rng) (h : DInv d) (hs : (d.sec? s).isSome)
    (y : BI) (blk : Blk) (hy : y ∈ d.bisOf s) (hblk : blk ∈ d.blocksOf y.id) :
    blk.id ∈ (secBlocksAt d s r).2 ↔ ∃ a : Nat, y.addr = some a ∧
      r.mem ((a : Int) + blk.offset) = true ∧
      (y.size ≠ 0 ∧ (a : Int) < r.stop ∧ (a : Int) + y.size > r.start) := by
  rw [C05_section_at d s r h hs, exists_owner_iff h scanBlocksAt_owner hblk, mem_scanBisOn_of_bisOf h hy,
    mem_scanBlocksAt_of_blocksOf h hy hblk]
  constructor
  · rintro ⟨⟨a', ha', g1, _, g3, g4⟩, a, ha, hm⟩
    obtain rfl : a = a' := Option.some.inj (ha.symm.trans ha')
    exact ⟨a, ha, hm, g1, g3, g4⟩
  · rintro ⟨a, ha, hm, g1, g3, g4⟩
    have := Rng.mem_bounds hm
    exact ⟨⟨a, ha, g1, by omega, g3, g4⟩, a, ha, hm⟩

/-- 'at', must side: a block whose first address is inside the declared extent
of its interval (`offset < size` of the interval) and is a member of the queried
range is reported -/
theorem C05_section_at_inside (d : D) (s : Nat) (r : Rng) (h : DInv d) (hs : (d.sec? s).isSome)
    (y : BI) (blk : Blk) (hy : y ∈ d.bisOf s) (hblk : blk ∈ d.blocksOf y.id)
    (hin : blk.offset < y.size) (hb : blk.id ∈ scanBlocksAt d y.id r) :
    blk.id ∈ (secBlocksAt d s r).2 := by
  obtain ⟨a, ha, hm⟩ := (mem_scanBlocksAt_of_blocksOf h hy hblk r).1 hb
  have := Rng.mem_bounds hm
  exact (C05_section_at_blk d s r h hs y blk hy hblk).2 ⟨a, ha, hm, by omega⟩

/-- 'on', must side, "or part of a block": when some address lies in the query
envelope, in the block and in the declared extent of the block's interval, the
block is reported - also when the block straddles the end of the extent -/
theorem C05_section_on_part_inside (d : D) (s : Nat) (r : Rng) (h : DInv d) (hs : (d.sec? s).isSome)
    (y : BI) (blk : Blk) (a : Nat) (hy : y ∈ d.bisOf s) (ha : y.addr = some a)
    (hblk : blk ∈ d.blocksOf y.id)
    (hq : max (max r.start ((a : Int) + blk.offset)) (a : Int) <
          min (min r.stop ((a : Int) + blk.offset + blk.size)) ((a : Int) + y.size)) :
    blk.id ∈ (secBlocksOn d s r).2 := by
  simp only [Int.max_lt, Int.lt_min] at hq
  exact (C05_section_on_blk d s r h hs y blk hy hblk).2 ⟨a, ha, by omega⟩

/-- the same with the common address as a witness instead of `max < min` -/
theorem C05_section_on_part_inside_witness (d : D) (s : Nat) (r : Rng) (h : DInv d)
    (hs : (d.sec? s).isSome) (y : BI) (blk : Blk) (a : Nat) (hy : y ∈ d.bisOf s) (ha : y.addr = some a)
    (hblk : blk ∈ d.blocksOf y.id) (p : Int)
    (hp_query : r.start ≤ p ∧ p < r.stop)
    (hp_block : (a : Int) + blk.offset ≤ p ∧ p < (a : Int) + blk.offset + blk.size)
    (hp_extent : (a : Int) ≤ p ∧ p < (a : Int) + y.size) :
    blk.id ∈ (secBlocksOn d s r).2 :=
  (C05_section_on_blk d s r h hs y blk hy hblk).2 ⟨a, ha, by omega⟩

/-- `C05_section_on_inside` (block wholly inside the extent) is the special case -/
theorem C05_section_on_inside_of_part (d : D) (s : Nat) (r : Rng) (h : DInv d) (hs : (d.sec? s).isSome)
    (y : BI) (blk : Blk) (hy : y ∈ d.bisOf s) (hblk : blk ∈ d.blocksOf y.id)
    (hin : blk.offset + blk.size ≤ y.size) (hb : blk.id ∈ scanBlocksOn d y.id r) :
    blk.id ∈ (secBlocksOn d s r).2 :=
  C05_section_on_inside d s r h hs y blk hy hblk hin hb

theorem C05_scope_at_inside (d : D) (ss : List Nat) (r : Rng) (h : DInv d) (s : Nat) (hs : s ∈ ss)
    (hsome : (d.sec? s).isSome) (y : BI) (blk : Blk) (hy : y ∈ d.bisOf s)
    (hblk : blk ∈ d.blocksOf y.id) (hin : blk.offset < y.size)
    (hb : blk.id ∈ scanBlocksAt d y.id r) :
    blk.id ∈ (chain (fun d s => secBlocksAt d s r) d ss).2 :=
  (scope_at_iff h).2 ⟨s, hs, C05_section_at_inside d s r h hsome y blk hy hblk hin hb⟩

theorem C05_scope_on_part_inside (d : D) (ss : List Nat) (r : Rng) (h : DInv d) (s : Nat) (hs : s ∈ ss)
    (hsome : (d.sec? s).isSome) (y : BI) (blk : Blk) (a : Nat) (hy : y ∈ d.bisOf s)
    (ha : y.addr = some a) (hblk : blk ∈ d.blocksOf y.id)
    (hq : max (max r.start ((a : Int) + blk.offset)) (a : Int) <
          min (min r.stop ((a : Int) + blk.offset + blk.size)) ((a : Int) + y.size)) :
    blk.id ∈ (chain (fun d s => secBlocksOn d s r) d ss).2 :=
  (scope_on_iff h).2 ⟨s, hs, C05_section_on_part_inside d s r h hsome y blk a hy ha hblk hq⟩

/-- exact condition for one block at module / IR scope (the block's section is
listed once or more) -/
theorem C05_scope_on_blk (d : D) (ss : List Nat) (r : Rng) (h : DInv d) (s : Nat) (hs : s ∈ ss)
    (hsome : (d.sec? s).isSome) (y : BI) (blk : Blk) (hy : y ∈ d.bisOf s)
    (hblk : blk ∈ d.blocksOf y.id) :
    blk.id ∈ (chain (fun d s => secBlocksOn d s r) d ss).2 ↔ blk.id ∈ (secBlocksOn d s r).2 := by
  rw [scope_on_iff h]
  refine ⟨?_, fun hb => ⟨s, hs, hb⟩⟩
  rintro ⟨s', _, hb⟩
  have hx := ((C05_section_on_any d s' r h _).1 hb).2
  rw [exists_owner_iff h scanBlocksOn_owner hblk] at hx
  cases sec_of_mem_scanBisOn h hy hx.1
  exact hb

theorem find?_getD_mem {α : Type} {l : List α} {p : α → Bool} (dflt : α) (h : (l.find? p).isSome) :
    (l.find? p).getD dflt ∈ l :=
  Option.get_eq_getD (l.find? p) (h := h) ▸ List.get_find?_mem h

/-- `exS` with block 3 moved to offset 12, size 8 in interval 11 (address 204,
size 16, section 21): the block occupies [216, 224), the declared extent ends at
220 - the block straddles the end -/
def exStraddle : D := blkSet exS 3 12 8
theorem exStraddle_inv : DInv exStraddle := C12_edit_inv exS (.blkSet 3 12 8) exS_inv

/-- the records as they stand in `exStraddle`, lazy state included (the `∈ bisOf` / `∈ blocksOf`
hypotheses of the theorems ask for the members themselves); looked up instead of written out -/
def exMustBI : BI := (exStraddle.bi? 11).getD { id := 0, addr := none, size := 0, sec := none }
def exMustBlk : Blk := (exStraddle.blk? 3).getD ⟨0, false, 0, 0, none⟩

theorem exMustBI_val : exMustBI =
    { id := 11, addr := some 204, size := 16, sec := some 21,
      lz := { events := [(true, ⟨0, 5, 3⟩), (true, ⟨2, 3, 4⟩), (false, ⟨0, 5, 3⟩), (true, ⟨12, 21, 3⟩)] } } := by
  rw [exMustBI, exStraddle, exS_val]; rfl
theorem exMustBlk_val : exMustBlk = ⟨3, true, 12, 8, some 11⟩ := by
  rw [exMustBlk, exStraddle, exS_val]; rfl
theorem exStraddle_sec : (exStraddle.sec? 21).isSome := by rw [exStraddle, exS_val]; decide

theorem exMustBI_mem : exMustBI ∈ exStraddle.bisOf 21 :=
  mem_bisOf.2 ⟨find?_getD_mem _ (by rw [exStraddle, exS_val]; decide), by rw [exMustBI_val]⟩
theorem exMustBlk_mem : exMustBlk ∈ exStraddle.blocksOf exMustBI.id :=
  mem_blocksOf.2 ⟨find?_getD_mem _ (by rw [exStraddle, exS_val]; decide), by rw [exMustBI_val, exMustBlk_val]⟩

example : exMustBI.id = 11 ∧ exMustBI.addr = some 204 ∧ exMustBI.size = 16 ∧ exMustBlk.id = 3 ∧ exMustBlk.offset = 12 ∧
    exMustBlk.size = 8 := by rw [exMustBI_val, exMustBlk_val]; decide

/-- a query inside the part of the block that lies inside the extent: must be reported -/
example : 3 ∈ (secBlocksOn exStraddle 21 ⟨217, 218, 1⟩).2 := by
  have := C05_section_on_part_inside exStraddle 21 ⟨217, 218, 1⟩ exStraddle_inv exStraddle_sec exMustBI
    exMustBlk 204 exMustBI_mem (by rw [exMustBI_val]) exMustBlk_mem (by rw [exMustBI_val, exMustBlk_val]; decide)
  rwa [exMustBlk_val] at this
example : (secBlocksOn exStraddle 21 ⟨217, 218, 1⟩).2 = [3] := by rw [exStraddle, exS_val]; decide

/-- a query that only hits the part beyond the extent: may be (and is) missed,
although the fresh scan of the interval finds the block - the premise of
`C05_section_on_part_inside` fails -/
example : (secBlocksOn exStraddle 21 ⟨221, 223, 1⟩).2 = [] ∧
    scanBlocksOn exStraddle 11 ⟨221, 223, 1⟩ = [3] ∧
    ¬ (max (max (221 : Int) (204 + 12)) 204 < min (min 223 (204 + 12 + 8)) (204 + 16)) := by rw [exStraddle, exS_val]; decide

/-- `C05_section_on_inside` does not apply to the straddling block (12 + 8 > 16) -/
example : ¬ (exMustBlk.offset + exMustBlk.size ≤ exMustBI.size) := by
  rw [exMustBI_val, exMustBlk_val]; decide

example : 3 ∈ (chain (fun d s => secBlocksOn d s ⟨217, 218, 1⟩) exStraddle [20, 21]).2 := by
  have := C05_scope_on_part_inside exStraddle [20, 21] ⟨217, 218, 1⟩ exStraddle_inv 21 (by decide)
    exStraddle_sec exMustBI exMustBlk 204 exMustBI_mem (by rw [exMustBI_val]) exMustBlk_mem
    (by rw [exMustBI_val, exMustBlk_val]; decide)
  rwa [exMustBlk_val] at this

/-- 'at': block 3 begins at 216 < 220: inside, must be reported -/
theorem exMustBlk_at : exMustBlk.id ∈ scanBlocksAt exStraddle exMustBI.id ⟨216, 217, 1⟩ := by
  rw [exMustBI_val, exMustBlk_val, exStraddle, exS_val]; decide
example : 3 ∈ (secBlocksAt exStraddle 21 ⟨216, 217, 1⟩).2 := by
  have := C05_section_at_inside exStraddle 21 ⟨216, 217, 1⟩ exStraddle_inv exStraddle_sec exMustBI exMustBlk
    exMustBI_mem exMustBlk_mem (by rw [exMustBI_val, exMustBlk_val]; decide) exMustBlk_at
  rwa [exMustBlk_val] at this
example : 3 ∈ (chain (fun d s => secBlocksAt d s ⟨216, 217, 1⟩) exStraddle [20, 21]).2 := by
  have := C05_scope_at_inside exStraddle [20, 21] ⟨216, 217, 1⟩ exStraddle_inv 21 (by decide) exStraddle_sec
    exMustBI exMustBlk exMustBI_mem exMustBlk_mem (by rw [exMustBI_val, exMustBlk_val]; decide) exMustBlk_at
  rwa [exMustBlk_val] at this

/-- 'at', may side: a zero-sized block at offset = size of the interval begins
at the first address beyond the extent; the scan of the interval finds it, the
section lookup does not -/
example : (secBlocksAt (blkSet exS 3 16 0) 21 ⟨220, 221, 1⟩).2 = [] ∧
    scanBlocksAt (blkSet exS 3 16 0) 11 ⟨220, 221, 1⟩ = [3] := by rw [exS_val]; decide

end Gtirb.Index
