import GtirbProofs.Lemmas.RoundTrip
/-! C01: for every self-contained IR (`wfir`), saving and loading yields an IR with
identical observable content, and saving the loaded IR again yields the same message. -/
namespace Gtirb.Msg
open Gtirb

theorem C01_roundtrip (v : IRV) (h : wfir v = true) : fromMsg (toMsg v) = .ok v := by
  have hv' : fromMsg (toMsg v) = .ok (ofMsg (toMsg v)) :=
    fromMsg_ok_iff.2 ⟨chkMsg_of_closed (closedMsg_toMsg h), rfl⟩
  have hx : toMsg (ofMsg (toMsg v)) = toMsg v := (toMsg_of_fromMsg hv').trans (normMsg_toMsg h)
  have hent : ∀ m ∈ (ofMsg (toMsg v)).modules, m.entryPoint ≠ some [] := fun m hm => by
    obtain ⟨mm, _, rfl⟩ := List.mem_map.1 hm
    exact ofModule_entry mm
  rw [hv', toMsg_inj _ v hent (fun m hm => wfir_entry h hm) hx]

/-- lifted through the header for any parse/serialize pair that are inverse on the message -/
theorem C01_loadBytes_saveBytes (serialize : MIR → Bytes) (parse : Bytes → Option MIR)
    (hps : ∀ m, parse (serialize m) = some m) (v : IRV) (h : wfir v = true) :
    loadBytes parse (saveBytes serialize v) = .ok v :=
  loadBytes_ok (hps _) (C01_roundtrip v h)

theorem C01_resave (v v' : IRV) (h : wfir v = true) (hl : fromMsg (toMsg v) = .ok v') :
    toMsg v' = toMsg v := by
  rw [C01_roundtrip v h] at hl
  cases hl
  rfl

/-- the same file again, whatever the (deterministic) serializer -/
theorem C01_resave_bytes (serialize : MIR → Bytes) (parse : Bytes → Option MIR)
    (hps : ∀ m, parse (serialize m) = some m) (v v' : IRV) (h : wfir v = true)
    (hl : loadBytes parse (saveBytes serialize v) = .ok v') :
    saveBytes serialize v' = saveBytes serialize v := by
  rw [C01_loadBytes_saveBytes serialize parse hps v h] at hl
  cases hl
  rfl

def exU (k : UInt8) : U := List.replicate 15 0 ++ [k]

/-- two modules; a section with an interval at address `some 0` holding overlapping and
zero-sized code and data blocks and a symbolic expression with an unknown attribute number;
a symbol with value 0, a symbol referring to a block, a symbol of the second module
referring to a block of the first; an entry point; a proxy; an edge with no label next to
one with an all-false label -/
def exIR : IRV :=
  { uuid := exU 1, version := Generated.protobufVersion,
    modules := [
      { uuid := exU 2, name := "m1", binaryPath := "/bin/x", preferredAddr := 0, rebaseDelta := -4,
        fileFormat := 2, isa := 3, byteOrder := 2, entryPoint := some (exU 5), proxies := [exU 3],
        sections := [
          { uuid := exU 4, name := ".text", flags := [1, 3],
            intervals := [
              { uuid := exU 9, addr := some 0, size := 8, contents := [1, 2, 3, 4],
                blocks := [.code (exU 5) 0 4 0, .code (exU 6) 2 4 1, .data (exU 7) 0 8,
                           .data (exU 8) 4 0, .code (exU 14) 8 0 0],
                exprs := [⟨0, .addrConst (-8) (exU 11), [1, 9999]⟩,
                          ⟨4, .addrAddr 2 0 (exU 10) (exU 11), []⟩] },
              { uuid := exU 12, addr := none, size := 0, contents := [], blocks := [], exprs := [] }] }],
        symbols := [⟨exU 10, "zero", .value 0, false⟩, ⟨exU 11, "blk", .referent (exU 5), true⟩,
                    ⟨exU 13, "nothing", .none, false⟩],
        aux := [⟨"k1", "mapping<UUID,uint64_t>", [0, 0, 0, 0, 0, 0, 0, 0]⟩, ⟨"k2", "weird<", []⟩] },
      { uuid := exU 20, name := "", binaryPath := "", preferredAddr := 4096, rebaseDelta := 0,
        fileFormat := 0, isa := 0, byteOrder := 0, entryPoint := none, proxies := [],
        sections := [], symbols := [⟨exU 21, "cross", .referent (exU 7), false⟩,
                                    ⟨exU 22, "toProxy", .referent (exU 3), false⟩],
        aux := [] }],
    edges := [⟨exU 5, exU 6, none⟩, ⟨exU 5, exU 6, some ⟨0, false, false⟩⟩,
              ⟨exU 6, exU 3, some ⟨3, true, true⟩⟩],
    aux := [⟨"ir", "string", [0, 0, 0, 0, 0, 0, 0, 0]⟩] }

theorem wfir_exIR : wfir exIR = true := by decide +kernel

theorem roundtrip_exIR : fromMsg (toMsg exIR) = .ok exIR := C01_roundtrip exIR wfir_exIR

example : wfir exIR = true := wfir_exIR

/-- the hypotheses are satisfiable: the theorems apply to `exIR` -/
example : fromMsg (toMsg exIR) = .ok exIR := roundtrip_exIR

/-- the precondition is not vacuous the other way either: an IR whose symbol refers to a
node outside the IR is not self-contained, and the reader rejects what the writer emits -/
def exDangling : IRV :=
  { uuid := exU 1, version := Generated.protobufVersion,
    modules := [
      { uuid := exU 2, name := "m", binaryPath := "", preferredAddr := 0, rebaseDelta := 0,
        fileFormat := 0, isa := 0, byteOrder := 0, entryPoint := none, proxies := [],
        sections := [], symbols := [⟨exU 3, "dangling", .referent (exU 99), false⟩], aux := [] }],
    edges := [], aux := [] }

theorem wfir_exDangling : wfir exDangling = false := by decide

example : wfir exDangling = false := wfir_exDangling
example : fromMsg (toMsg exDangling) = .error .deserializationError :=
  eq_error_of_eval (by decide +kernel)

end Gtirb.Msg
