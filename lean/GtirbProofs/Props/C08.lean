import GtirbProofs.Lemmas.Codec
import GtirbProofs.Props.C07
/-! C08: the clauses of the documented AuxData wire format, each stated about
`encode` (include/gtirb/AuxData.hpp, "Serialization Format"), and
prefix-decodability of what `encode` emits (`Props/C08Wire.lean` states the format without
`encode` and extends this to any producer following it). -/
namespace Gtirb.Codec

/-- integers: fixed width, little-endian, two's complement -/
theorem C08_int_le (nu : Nat → Bytes) (l : Leaf) (n : Int) (bs : Bytes) (hl : l.isInt = true)
    (h : encode nu (.leaf l) (.int n) = some bs) :
    bs = leBytes l.width (n % (256 ^ l.width : Int)).toNat ∧ bs.length = l.width := by
  simp only [encode, encodeLeaf_int nu l n hl] at h
  obtain ⟨_, rfl⟩ := encodeInt_eq_some.1 h
  exact ⟨rfl, leBytes_length _ _⟩

/-- the integer widths: 1, 2, 4, 8 bytes; `Addr` is a uint64 -/
theorem C08_int_widths :
    Leaf.width .u8 = 1 ∧ Leaf.width .i8 = 1 ∧ Leaf.width .u16 = 2 ∧ Leaf.width .i16 = 2 ∧
    Leaf.width .u32 = 4 ∧ Leaf.width .i32 = 4 ∧ Leaf.width .u64 = 8 ∧ Leaf.width .i64 = 8 ∧
    Leaf.width .addr = 8 ∧ Leaf.signed .addr = false := by
  simp [Leaf.width, Leaf.signed]

/-- bool: one byte, 1 or 0 -/
theorem C08_bool_1 (nu : Nat → Bytes) (b : Bool) :
    encode nu (.leaf .bool) (.bool b) = some [if b then 1 else 0] := rfl

/-- float: the 4 bytes of the IEEE bit pattern, little-endian -/
theorem C08_float_le (nu : Nat → Bytes) (bits : Nat) (bs : Bytes)
    (h : encode nu (.leaf .f32) (.f32 bits) = some bs) :
    bs = leBytes 4 bits ∧ bs.length = 4 := by
  simp only [encode, encodeLeaf, Option.ite_none_right_eq_some] at h
  obtain ⟨_, h⟩ := h
  cases h
  exact ⟨rfl, leBytes_length _ _⟩

/-- double: the 8 bytes of the IEEE bit pattern, little-endian -/
theorem C08_double_le (nu : Nat → Bytes) (bits : Nat) (bs : Bytes)
    (h : encode nu (.leaf .f64) (.f64 bits) = some bs) :
    bs = leBytes 8 bits ∧ bs.length = 8 := by
  simp only [encode, encodeLeaf, Option.ite_none_right_eq_some] at h
  obtain ⟨_, h⟩ := h
  cases h
  exact ⟨rfl, leBytes_length _ _⟩

/-- UUID: 16 raw bytes -/
theorem C08_uuid_16 (nu : Nat → Bytes) (v : Val) (bs : Bytes)
    (h : encode nu (.leaf .uuid) v = some bs) : bs.length = 16 := by
  exact (encodeElem_eq_some.1 (show encodeElem nu v = some bs from h)).2

/-- Offset: the element id's UUID (16 bytes) then the displacement as uint64 -/
theorem C08_offset (nu : Nat → Bytes) (e : Val) (d : Nat) (bs : Bytes)
    (h : encode nu (.leaf .offset) (.offset e d) = some bs) :
    ∃ u, encodeElem nu e = some u ∧ u.length = 16 ∧ bs = u ++ leBytes 8 d := by
  obtain ⟨u, hu, _, rfl⟩ := encode_offset_eq_some.1 h
  exact ⟨u, hu, (encodeElem_eq_some.1 hu).2, rfl⟩

/-- string: uint64 count of UTF-8 bytes, then the bytes -/
theorem C08_string_bytecount (nu : Nat → Bytes) (s : String) (bs : Bytes)
    (h : encode nu (.leaf .string) (.str s) = some bs) :
    bs = leBytes 8 s.toUTF8.toList.length ++ s.toUTF8.toList := by
  simp only [encode, encodeLeaf] at h
  split at h
  · cases h
    rfl
  · cases h

/-- sequence: uint64 element count, then the elements -/
theorem C08_seq_count (nu : Nat → Bytes) (t : Ty) (xs : List Val) (bs : Bytes)
    (h : encode nu (.seq t) (.seq xs) = some bs) :
    ∃ body, encodeMany (encode nu t) xs = some body ∧ bs = leBytes 8 xs.length ++ body := by
  obtain ⟨body, hb, _, rfl⟩ := encode_seq_iff.1 h
  exact ⟨body, hb, rfl⟩

/-- set: uint64 element count, then the elements -/
theorem C08_set_count (nu : Nat → Bytes) (t : Ty) (xs : List Val) (bs : Bytes)
    (h : encode nu (.set t) (.set xs) = some bs) :
    ∃ body, encodeMany (encode nu t) xs = some body ∧ bs = leBytes 8 xs.length ++ body := by
  obtain ⟨body, hb, _, rfl⟩ := encode_set_iff.1 h
  exact ⟨body, hb, rfl⟩

/-- mapping: uint64 pair count, then key, value, key, value, ... -/
theorem C08_map_count (nu : Nat → Bytes) (kt vt : Ty) (ks vs : List Val) (bs : Bytes)
    (h : encode nu (.map kt vt) (.map ks vs) = some bs) :
    ∃ body, encodeManyPairs (encode nu kt) (encode nu vt) ks vs = some body ∧
      bs = leBytes 8 ks.length ++ body := by
  obtain ⟨body, hb, _, rfl⟩ := encode_map_iff.1 h
  exact ⟨body, hb, rfl⟩

theorem C08_many_cons (f : Val → Option Bytes) (x : Val) (xs : List Val) (body : Bytes) :
    encodeMany f (x :: xs) = some body ↔
      ∃ a b, f x = some a ∧ encodeMany f xs = some b ∧ body = a ++ b :=
  append_eq_some

/-- the elements of a sequence/set are laid out one after another, each in its
own encoding, with nothing in between -/
theorem C08_many_concat (f : Val → Option Bytes) (xs : List Val) (body : Bytes) :
    encodeMany f xs = some body ↔
      ∃ parts : List Bytes, xs.map f = parts.map some ∧ body = parts.flatten := by
  induction xs generalizing body with
  | nil =>
    constructor
    · intro h
      exact ⟨[], rfl, by simpa [encodeMany] using h.symm⟩
    · rintro ⟨parts, hp, rfl⟩
      cases parts with
      | nil => rfl
      | cons _ _ => simp at hp
  | cons x xs ih =>
    simp only [C08_many_cons, ih]
    constructor
    · rintro ⟨a, b, ha, ⟨parts, hp, rfl⟩, rfl⟩
      exact ⟨a :: parts, by simp [ha, hp], rfl⟩
    · rintro ⟨parts, hp, rfl⟩
      cases parts with
      | nil => simp at hp
      | cons a parts =>
        simp only [List.map_cons, List.cons.injEq] at hp
        exact ⟨a, _, hp.1, ⟨parts, hp.2, rfl⟩, rfl⟩

theorem C08_many_nil (f : Val → Option Bytes) : encodeMany f [] = some [] := rfl

/-- the pairs of a mapping: key then value, pairs one after another -/
theorem C08_manyPairs_nil (f g : Val → Option Bytes) : encodeManyPairs f g [] [] = some [] := rfl

theorem C08_manyPairs_cons (f g : Val → Option Bytes) (k v : Val) (ks vs : List Val)
    (body : Bytes) :
    encodeManyPairs f g (k :: ks) (v :: vs) = some body ↔
      ∃ a b c, f k = some a ∧ g v = some b ∧ encodeManyPairs f g ks vs = some c ∧
        body = a ++ b ++ c := by
  simp only [encodeManyPairs]
  constructor
  · intro h
    split at h
    · rename_i a b c ha hb hc
      exact ⟨a, b, c, ha, hb, hc, (Option.some.inj h).symm⟩
    · cases h
  · rintro ⟨a, b, c, ha, hb, hc, rfl⟩
    simp [ha, hb, hc]

/-- a mapping with differing numbers of keys and values has no encoding -/
theorem C08_manyPairs_length (f g : Val → Option Bytes) (ks vs : List Val) (body : Bytes)
    (h : encodeManyPairs f g ks vs = some body) : ks.length = vs.length := by
  induction ks generalizing vs body with
  | nil => cases vs <;> simp_all [encodeManyPairs]
  | cons k ks ih =>
    cases vs with
    | nil => simp [encodeManyPairs] at h
    | cons v vs =>
      obtain ⟨_, _, c, _, _, hc, _⟩ := (C08_manyPairs_cons f g k v ks vs body).1 h
      simp [ih vs c hc]

/-- tuple: the fields one after another, nothing else -/
theorem C08_tuple_nil (nu : Nat → Bytes) : encode nu (.tuple []) (.tuple []) = some [] := rfl

theorem C08_tuple_fields (nu : Nat → Bytes) (t : Ty) (ts : List Ty) (x : Val) (xs : List Val)
    (bs : Bytes) :
    encode nu (.tuple (t :: ts)) (.tuple (x :: xs)) = some bs ↔
      ∃ a b, encode nu t x = some a ∧ encode nu (.tuple ts) (.tuple xs) = some b ∧
        bs = a ++ b := by
  simp only [encode, encodeTuple]
  exact append_eq_some

/-- variant: uint64 index of the alternative, then the alternative's encoding -/
theorem C08_variant_index (nu : Nat → Bytes) (ts : List Ty) (i : Nat) (v : Val) (bs : Bytes)
    (h : encode nu (.variant ts) (.variant i v) = some bs) :
    ∃ t body, ts[i]? = some t ∧ encode nu t v = some body ∧ bs = leBytes 8 i ++ body := by
  obtain ⟨body, hb, _, rfl⟩ := encode_variant_iff.1 h
  rw [encodeNth_eq] at hb
  split at hb
  · rename_i t ht
    exact ⟨t, body, ht, hb, rfl⟩
  · cases hb

/-- prefix-decodability: the bytes `encode` emits for a typed value decode to that value,
whatever follows them. That any producer following the format emits these bytes is
`C08_foreign_bytes_Wire` (`Props/C08Wire.lean`). -/
theorem C08_foreign_bytes (lookup : Bytes → Option Nat) (nodeUuid : Nat → Bytes) (t : Ty) (v : Val)
    (h : hasType lookup nodeUuid t v = true) :
    ∃ bs, encode nodeUuid t v = some bs ∧ ∀ rest, decode lookup t (bs ++ rest) = .ok (v, rest) :=
  C07_roundtrip lookup nodeUuid t v h

end Gtirb.Codec
