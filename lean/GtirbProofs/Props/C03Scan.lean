import GtirbProofs.Props.C03Full
/-! C03 as worded: `ir.get_by_uuid(u)` equals the *scan over the owning collections*.

`C03_lookup_iff` characterises the lookup through the chained back-pointer accessor `irOf`;
the property speaks about reachability "through containment", i.e. through the collections
(`reachable`, `scanByUuid` in `Forest.lean`: computed from `kids` only). The bridge is
`C04_reachable_iff`. -/
namespace Gtirb.Forest

theorem C03_reachable_lt (g : G) (hf : ForestInv g) (i x : Nat) (hi : i < g.n) (hk : g.kind i = .ir)
    (hx : x ∈ reachable g i) : x < g.n := by
  have hir : irOf g x = some i := (C04_reachable_iff g hf i x hk).1 hx
  cases hp : g.par x with
  | some p => exact (hf.alloc x p hp).1
  | none =>
    -- a root: `irOf` answers only for an IR node, which is then `i` itself
    rw [cache_irOf_root hp] at hir
    split at hir <;> cases hir
    exact hi

/-- lookup = scan over the owning collections: for an allocated IR node `i`, the table answers
`x` for `u` iff the walk over `modules / sections / byte_intervals / blocks / symbols / proxies`
from `i` meets `x` and `x.uuid == u` -/
theorem C03_lookup_scan (g : G) (hf : ForestInv g) (hc : CacheInv g) (i u x : Nat) (hi : i < g.n)
    (hk : g.kind i = .ir) : getByUuid g i u = some x ↔ x ∈ scanByUuid g i u := by
  rw [C03_lookup_iff g hc i u x]
  unfold scanByUuid
  rw [List.mem_filter, C04_reachable_iff g hf i x hk]
  constructor
  · rintro ⟨_, _, _, h4, h5⟩
    exact ⟨h4, by simpa using h5⟩
  · rintro ⟨h4, h5⟩
    refine ⟨hi, hk, ?_, h4, by simpa using h5⟩
    exact C03_reachable_lt g hf i x hi hk ((C04_reachable_iff g hf i x hk).2 h4)

/-- under the property's hypothesis the scan has at most one hit (as a set; that the scan lists no node twice is
`C04_reachable_nodup`) -/
theorem C03_scan_unique (g : G) (hf : ForestInv g) (hd : Distinct g) (i u x y : Nat) (hi : i < g.n)
    (hk : g.kind i = .ir) (hx : x ∈ scanByUuid g i u) (hy : y ∈ scanByUuid g i u) : x = y := by
  unfold scanByUuid at hx hy
  rw [List.mem_filter] at hx hy
  have hxi := (C04_reachable_iff g hf i x hk).1 hx.1
  have hyi := (C04_reachable_iff g hf i y hk).1 hy.1
  have hxu : g.uuid x = u := by simpa using hx.2
  have hyu : g.uuid y = u := by simpa using hy.2
  exact hd x y i (C03_reachable_lt g hf i x hi hk hx.1) (C03_reachable_lt g hf i y hi hk hy.1) hxi hyi
    (hxu.trans hyu.symm)

theorem C03_lookup_scan_none (g : G) (hf : ForestInv g) (hc : CacheInv g) (i u : Nat) (hi : i < g.n)
    (hk : g.kind i = .ir) : getByUuid g i u = none ↔ scanByUuid g i u = [] :=
  Option.eq_none_iff_forall_ne_some.trans <|
    (forall_congr' fun x => not_congr (C03_lookup_scan g hf hc i u x hi hk)).trans
      List.eq_nil_iff_forall_not_mem.symm

theorem C03_lookup_scan_history (ops : List Op) (hops : OpsOK {} ops) (hd : DistinctAlongFine {} ops)
    (i u x : Nat) (hi : i < (run {} ops).n) (hk : (run {} ops).kind i = .ir) :
    getByUuid (run {} ops) i u = some x ↔ x ∈ scanByUuid (run {} ops) i u :=
  C03_lookup_scan _ (C04_history ops hops) (C03_history_full ops hops hd) i u x hi hk

/-! ### non-vacuity: IR 0 (uuid 100), module 1 (uuid 101), symbol 2 (uuid 5) in it, detached symbol 3
(uuid 5): the scan for uuid 5 from IR 0 walks `modules` then `symbols` and finds node 2 only -/

example : scanByUuid (run {} cacheCexOps) 0 5 = [2] ∧ getByUuid (run {} cacheCexOps) 0 5 = some 2 ∧
    scanByUuid (run {} cacheCexOps) 0 101 = [1] ∧ getByUuid (run {} cacheCexOps) 0 101 = some 1 ∧
    scanByUuid (run {} cacheCexOps) 0 7 = [] ∧ getByUuid (run {} cacheCexOps) 0 7 = none := by decide

end Gtirb.Forest
