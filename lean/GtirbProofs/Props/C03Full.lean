import GtirbProofs.Props.C03
import GtirbProofs.Props.C04
/-! C03 for every reachable state, with the forest invariant supplied by C04. -/
namespace Gtirb.Forest

/-- In every state reachable through well-typed public operations during which
UUIDs stay pairwise distinct among the nodes attached to one IR at every moment
(`DistinctAlongFine`: at every operation boundary and between the elementary
moves of `update` / `extend` / `^=`), the UUID table of every IR holds exactly
the nodes attached to it. -/
theorem C03_history_full (ops : List Op) (hops : OpsOK {} ops) (hd : DistinctAlongFine {} ops) :
    CacheInv (run {} ops) :=
  C03_history_fine ops hops hd (fun pre hpre => C04_history pre (OpsOK_prefix pre ops {} hpre hops))

/-- `C03_lookup_iff` in every reachable state -/
theorem C03_lookup_full (ops : List Op) (hops : OpsOK {} ops) (hd : DistinctAlongFine {} ops) (i u x : Nat) :
    getByUuid (run {} ops) i u = some x ↔
      (i < (run {} ops).n ∧ (run {} ops).kind i = .ir ∧ x < (run {} ops).n ∧
       irOf (run {} ops) x = some i ∧ (run {} ops).uuid x = u) :=
  C03_lookup_iff _ (C03_history_full ops hops hd) i u x

end Gtirb.Forest
