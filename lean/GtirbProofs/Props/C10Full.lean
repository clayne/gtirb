import GtirbProofs.Props.C04
import GtirbProofs.Props.C10
/-! C10 for every reachable state, with the forest invariant supplied by C04. -/
namespace Gtirb.Forest

/-- symbol lookups by name and by referent equal the scan in every reachable state -/
theorem C10_history_full (ops : List Op) (hops : OpsOK {} ops) : IndexInv (run {} ops) :=
  C10_history ops hops (fun pre hpre => C04_history pre (OpsOK_prefix pre ops {} hpre hops))

end Gtirb.Forest
