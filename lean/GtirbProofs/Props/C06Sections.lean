import GtirbProofs.Props.C06
import GtirbProofs.Props.C05Scopes
/-! C06, module / IR scope: `sections_on` / `sections_at` are the linear scan
`util.nodes_on/nodes_at` over `Section.address` / `Section.size`; each of these forces the
section's lazy interval index. The extent the code reads off the forced index is the one a
fresh scan over the section's intervals computes (`scanExtent`), so the answers are the
filter of the section list by the scanned extents, in list order, and the structure is
left alone. -/
namespace Gtirb.Index

def addrPairs (l : List BI) : List (Int × Int) :=
  l.filterMap (fun x => x.addr.map fun a => ((a : Int), (a : Int) + x.size))

def pairsExtent : List (Int × Int) → Option (Int × Int)
  | [] => none
  | p :: ps =>
    some (ps.foldl (fun m q => if q.1 < m then q.1 else m) p.1,
      ps.foldl (fun m q => if q.2 > m then q.2 else m) p.2 -
        ps.foldl (fun m q => if q.1 < m then q.1 else m) p.1)

theorem scanExtent_eq (d : D) (s : Nat) : scanExtent d s =
    if (d.bisOf s).isEmpty || (d.bisOf s).any (fun x => x.addr.isNone) then none
    else pairsExtent (addrPairs (d.bisOf s)) := by
  unfold scanExtent
  simp only []
  split
  · rfl
  · show _ = pairsExtent (addrPairs (d.bisOf s))
    unfold addrPairs
    cases List.filterMap (fun x : BI => x.addr.map fun a => ((a : Int), (a : Int) + x.size)) (d.bisOf s) <;> rfl

theorem scanExtent_of_strip {d d' : D} (h : strip d = strip d') (s : Nat) :
    scanExtent d s = scanExtent d' s := by
  rw [scanExtent_eq, scanExtent_eq]
  exact bisOf_of_strip h s (fun l => if l.isEmpty || l.any _ then none else pairsExtent (addrPairs l))
    fun l => by
      simp only [addrPairs, List.isEmpty_map, List.any_map, List.filterMap_map]
      rfl

/-- the pairs the scan folds over are the stored intervals without the `+ 1` -/
theorem addrPairs_eq (l : List BI) :
    addrPairs l = (l.filterMap addrIvBI).map fun iv => (iv.lo, iv.hi - 1) := by
  unfold addrPairs
  rw [List.map_filterMap]
  congr 1; funext x
  cases h : x.addr with
  | none => simp [addrIvBI, h]
  | some a => simp [addrIvBI, h]

theorem foldBest_hi_pred (is : List Iv) (m : Int) :
    foldBest (fun iv : Iv => iv.hi - 1) (· > ·) is (m - 1) = foldBest Iv.hi (· > ·) is m - 1 := by
  induction is generalizing m with
  | nil => rfl
  | cons a is ih =>
    show foldBest _ _ is (if a.hi - 1 > m - 1 then a.hi - 1 else m - 1) =
      foldBest _ _ is (if a.hi > m then a.hi else m) - 1
    by_cases hc : a.hi > m
    · rw [if_pos hc, if_pos (by omega), ih]
    · rw [if_neg hc, if_neg (by omega), ih]

theorem pairsExtent_map (i0 : Iv) (is : List Iv) :
    pairsExtent ((i0 :: is).map fun iv => (iv.lo, iv.hi - 1)) =
      some (treeBegin (i0 :: is), treeEnd (i0 :: is) - treeBegin (i0 :: is) - 1) := by
  rw [treeBegin_cons, treeEnd_cons]
  have e : ∀ E B : Int, E - B - 1 = (E - 1) - B := by omega
  rw [e, ← foldBest_hi_pred]
  simp only [List.map_cons, pairsExtent, List.foldl_map]
  rfl

/-- read off the list of stored intervals, the code's extent is the scan's -/
theorem extentOf_filterMap (l : List BI) : extentOf (l.filterMap addrIvBI) l.length =
    if l.isEmpty || l.any (fun x => x.addr.isNone) then none else pairsExtent (addrPairs l) := by
  cases hany : l.any (fun x => x.addr.isNone) with
  | true =>
    obtain ⟨x, hx, hn⟩ := List.any_eq_true.1 hany
    rw [Bool.or_true, if_pos rfl, extentOf, if_neg]
    rintro ⟨_, h2⟩
    exact Option.isSome_iff_ne_none.1 ((length_filterMap_addr l).1 h2 x hx) (by simpa using hn)
  | false =>
    have hl := (length_filterMap_addr l).2 fun x hx =>
      Option.isSome_iff_ne_none.2 (by simpa using List.any_eq_false.1 hany x hx)
    rw [Bool.or_false, addrPairs_eq]
    cases hi : l.filterMap addrIvBI with
    | nil =>
      have : l = [] := List.eq_nil_of_length_eq_zero (by rw [← hl, hi]; rfl)
      subst this; simp [extentOf]
    | cons i0 is =>
      have hne : l.isEmpty = false := by cases l with | nil => simp at hi | cons _ _ => rfl
      rw [hne, pairsExtent_map, extentOf, if_pos ⟨by simp, by rw [← hi]; exact hl⟩]; rfl

theorem secExtent_snd {d : D} (h : DInv d) (s : Nat) :
    (secExtent d s).2 = if (d.sec? s).isSome then scanExtent d s else none := by
  cases hb : d.sec? s with
  | none => exact secExtent_none hb
  | some sc =>
    have ht := getSec_tree h hb
    rw [secExtent_eq, scanExtent_eq, ← extentOf_filterMap]
    exact extentOf_congr _ ht.1 (nodup_biIvs h s) ht.2

theorem scanExtent_nonneg {d : D} (h : DInv d) {s : Nat} (hs : (d.sec? s).isSome) {a z : Int}
    (he : scanExtent d s = some (a, z)) : 0 ≤ z := by
  obtain ⟨sc, hb⟩ := Option.isSome_iff_exists.1 hs
  have hsp := C06_extent d s h ⟨sc, kfind_some Sec.id hb⟩
  rw [secExtent_snd h s, if_pos hs, he] at hsp
  by_cases hc : d.bisOf s ≠ [] ∧ ∀ x ∈ d.bisOf s, x.addr.isSome = true
  · obtain ⟨lo, hi, _, hlo, ⟨x2, hx2, a2, ha2, e2⟩, _, he'⟩ := hsp.1 hc
    simp only [Option.some.injEq, Prod.mk.injEq] at he'
    have := hlo x2 hx2 a2 ha2
    omega
  · exact absurd (hsp.2 hc) (by simp)

/-- the extent the code computes from the lazy index is the scan's -/
theorem C06_extent_scan (d : D) (s : Nat) (h : DInv d) (hs : (d.sec? s).isSome) :
    (secExtent d s).2 = scanExtent d s := by
  rw [secExtent_snd h s, if_pos hs]

theorem C06_secExtent_keeps (d : D) (s : Nat) (h : DInv d) :
    DInv (secExtent d s).1 ∧ strip (secExtent d s).1 = strip d := by
  rw [secExtent_fst]
  exact getSec_keeps h s

/-- `nodes_on`'s test on a node's (address, size) -/
def keepOn (r : Rng) : Option (Int × Int) → Bool
  | some (a, z) => decide (max r.start a < min r.stop (a + z))
  | none => false

/-- `nodes_at`'s test -/
def keepAt (r : Rng) : Option (Int × Int) → Bool
  | some (a, _) => r.mem a
  | none => false

/-- what the code reads for section id `s` in state `d` -/
def codeExtent (d : D) (s : Nat) : Option (Int × Int) :=
  if (d.sec? s).isSome then scanExtent d s else none

theorem codeExtent_of_strip {d d' : D} (h : strip d = strip d') (s : Nat) :
    codeExtent d s = codeExtent d' s := by
  unfold codeExtent
  rw [sec?_of_strip h, scanExtent_of_strip h]

def scanStep (keep : Option (Int × Int) → Bool) (acc : D × List Nat) (s : Nat) : D × List Nat :=
  ((secExtent acc.1 s).1, if keep (secExtent acc.1 s).2 then acc.2 ++ [s] else acc.2)

theorem secsOn_eq (d : D) (ss : List Nat) (r : Rng) :
    secsOn d ss r = ss.foldl (scanStep (keepOn r)) (d, []) := by
  unfold secsOn
  congr 1
  funext acc s
  unfold scanStep
  rcases secExtent acc.1 s with ⟨d', _ | ⟨a, z⟩⟩
  · rfl
  · simp only [keepOn]
    split <;> simp [*]

theorem secsAt_eq (d : D) (ss : List Nat) (r : Rng) :
    secsAt d ss r = ss.foldl (scanStep (keepAt r)) (d, []) := by
  unfold secsAt
  congr 1
  funext acc s
  unfold scanStep
  rcases secExtent acc.1 s with ⟨d', _ | ⟨a, z⟩⟩
  · rfl
  · simp only [keepAt]
    split <;> simp [*]

theorem scanFold_spec (keep : Option (Int × Int) → Bool) :
    ∀ (ss : List Nat) (d : D) (acc : List Nat), DInv d →
      DInv (ss.foldl (scanStep keep) (d, acc)).1 ∧
      strip (ss.foldl (scanStep keep) (d, acc)).1 = strip d ∧
      (ss.foldl (scanStep keep) (d, acc)).2 = acc ++ ss.filter (fun s => keep (codeExtent d s)) := by
  intro ss
  induction ss with
  | nil => intro d acc h; exact ⟨h, rfl, by simp⟩
  | cons s ss ih =>
    intro d acc h
    rw [List.foldl_cons]
    have hk := C06_secExtent_keeps d s h
    have hstep : scanStep keep (d, acc) s =
        ((secExtent d s).1, if keep (codeExtent d s) then acc ++ [s] else acc) := by
      unfold scanStep codeExtent
      rw [secExtent_snd h s]
    rw [hstep]
    obtain ⟨i1, i2, i3⟩ := ih (secExtent d s).1 (if keep (codeExtent d s) then acc ++ [s] else acc) hk.1
    refine ⟨i1, i2.trans hk.2, ?_⟩
    rw [i3]
    simp only [codeExtent_of_strip hk.2, List.filter_cons]
    cases keep (codeExtent d s) <;> simp

theorem secsOn_snd (d : D) (ss : List Nat) (r : Rng) (h : DInv d) :
    (secsOn d ss r).2 = ss.filter (fun s => keepOn r (codeExtent d s)) := by
  rw [secsOn_eq, (scanFold_spec (keepOn r) ss d [] h).2.2]; rfl

theorem secsAt_snd (d : D) (ss : List Nat) (r : Rng) (h : DInv d) :
    (secsAt d ss r).2 = ss.filter (fun s => keepAt r (codeExtent d s)) := by
  rw [secsAt_eq, (scanFold_spec (keepAt r) ss d [] h).2.2]; rfl

theorem keepOn_iff (r : Rng) {e : Option (Int × Int)} (hz : ∀ a z, e = some (a, z) → 0 ≤ z) :
    keepOn r e = true ↔ ∃ a z, e = some (a, z) ∧ z ≠ 0 ∧ r.start < r.stop ∧ a < r.stop ∧
      a + z > r.start := by
  cases e with
  | none => simp [keepOn]
  | some p =>
    obtain ⟨a, z⟩ := p
    have := hz a z rfl
    simp only [keepOn, decide_eq_true_eq, Option.some.injEq, Prod.mk.injEq, Int.max_lt, Int.lt_min]
    constructor
    · intro h; exact ⟨a, z, ⟨rfl, rfl⟩, by omega⟩
    · rintro ⟨a', z', ⟨rfl, rfl⟩, h⟩; omega

theorem keepAt_iff (r : Rng) {e : Option (Int × Int)} :
    keepAt r e = true ↔ ∃ a z, e = some (a, z) ∧ r.mem a = true := by
  cases e with
  | none => simp [keepAt]
  | some p =>
    obtain ⟨a, z⟩ := p
    simp only [keepAt, Option.some.injEq, Prod.mk.injEq]
    constructor
    · intro h; exact ⟨a, z, ⟨rfl, rfl⟩, h⟩
    · rintro ⟨a', z', ⟨rfl, rfl⟩, h⟩; exact h

/-- `sections_on`, any id list: a listed id is reported iff it is a section of `d` and its
scanned extent `(a, z)` has `z ≠ 0` and intersects the envelope `[start, stop)` of the query -/
theorem C06_sections_on_any (d : D) (ss : List Nat) (r : Rng) (h : DInv d) (x : Nat) :
    x ∈ (secsOn d ss r).2 ↔ x ∈ ss ∧ (d.sec? x).isSome ∧ ∃ a z, scanExtent d x = some (a, z) ∧
      z ≠ 0 ∧ r.start < r.stop ∧ a < r.stop ∧ a + z > r.start := by
  rw [secsOn_snd d ss r h, List.mem_filter]
  unfold codeExtent
  by_cases hs : (d.sec? x).isSome = true
  · rw [if_pos hs, keepOn_iff r (fun a z => scanExtent_nonneg h hs)]
    simp [hs]
  · rw [if_neg hs]
    simp [keepOn, hs]

theorem C06_sections_at_any (d : D) (ss : List Nat) (r : Rng) (h : DInv d) (x : Nat) :
    x ∈ (secsAt d ss r).2 ↔ x ∈ ss ∧ (d.sec? x).isSome ∧ ∃ a z, scanExtent d x = some (a, z) ∧
      r.mem a = true := by
  rw [secsAt_snd d ss r h, List.mem_filter]
  unfold codeExtent
  by_cases hs : (d.sec? x).isSome = true
  · rw [if_pos hs, keepAt_iff r]
    simp [hs]
  · rw [if_neg hs]
    simp [keepAt, hs]

/-- sections_on: a section is reported iff it has an extent `(a, z)` with `z ≠ 0` that
intersects the envelope `[start, stop)` of the query -/
theorem C06_sections_on (d : D) (ss : List Nat) (r : Rng) (h : DInv d)
    (hss : ∀ s ∈ ss, (d.sec? s).isSome) (x : Nat) :
    x ∈ (secsOn d ss r).2 ↔ x ∈ ss ∧ ∃ a z, scanExtent d x = some (a, z) ∧ z ≠ 0 ∧
      r.start < r.stop ∧ a < r.stop ∧ a + z > r.start := by
  rw [C06_sections_on_any d ss r h x]
  exact and_congr_right fun hx => and_iff_right (hss x hx)

/-- sections_at: a section is reported iff it has an extent whose address is a member of the
queried range -/
theorem C06_sections_at (d : D) (ss : List Nat) (r : Rng) (h : DInv d)
    (hss : ∀ s ∈ ss, (d.sec? s).isSome) (x : Nat) :
    x ∈ (secsAt d ss r).2 ↔ x ∈ ss ∧ ∃ a z, scanExtent d x = some (a, z) ∧ r.mem a = true := by
  rw [C06_sections_at_any d ss r h x]
  exact and_congr_right fun hx => and_iff_right (hss x hx)

/-- the same with the code's own test `range(max(..), min(..))` non-empty -/
theorem C06_sections_on_maxmin (d : D) (ss : List Nat) (r : Rng) (h : DInv d)
    (hss : ∀ s ∈ ss, (d.sec? s).isSome) (x : Nat) :
    x ∈ (secsOn d ss r).2 ↔ x ∈ ss ∧ ∃ a z, scanExtent d x = some (a, z) ∧
      max r.start a < min r.stop (a + z) := by
  rw [C06_sections_on d ss r h hss x]
  refine and_congr_right fun hx => exists_congr fun a => exists_congr fun z => and_congr_right fun he => ?_
  have := scanExtent_nonneg h (hss x hx) he
  rw [Int.max_lt, Int.lt_min, Int.lt_min]; omega

/-- the answers as lists: the listed sections filtered by the scanned extents, in list order -/
theorem C06_sections_on_eq (d : D) (ss : List Nat) (r : Rng) (h : DInv d)
    (hss : ∀ s ∈ ss, (d.sec? s).isSome) :
    (secsOn d ss r).2 = ss.filter (fun s => keepOn r (scanExtent d s)) := by
  rw [secsOn_snd d ss r h]
  apply List.filter_congr
  intro s hs
  unfold codeExtent
  rw [if_pos (hss s hs)]

theorem C06_sections_at_eq (d : D) (ss : List Nat) (r : Rng) (h : DInv d)
    (hss : ∀ s ∈ ss, (d.sec? s).isSome) :
    (secsAt d ss r).2 = ss.filter (fun s => keepAt r (scanExtent d s)) := by
  rw [secsAt_snd d ss r h]
  apply List.filter_congr
  intro s hs
  unfold codeExtent
  rw [if_pos (hss s hs)]

/-- each once, in list order -/
theorem C06_sections_on_sublist (d : D) (ss : List Nat) (r : Rng) (h : DInv d) :
    (secsOn d ss r).2.Sublist ss := by
  rw [secsOn_snd d ss r h]; exact List.filter_sublist

theorem C06_sections_at_sublist (d : D) (ss : List Nat) (r : Rng) (h : DInv d) :
    (secsAt d ss r).2.Sublist ss := by
  rw [secsAt_snd d ss r h]; exact List.filter_sublist

theorem C06_sections_on_nodup (d : D) (ss : List Nat) (r : Rng) (h : DInv d) (hnd : ss.Nodup) :
    (secsOn d ss r).2.Nodup :=
  List.Nodup.sublist (C06_sections_on_sublist d ss r h) hnd

theorem C06_sections_at_nodup (d : D) (ss : List Nat) (r : Rng) (h : DInv d) (hnd : ss.Nodup) :
    (secsAt d ss r).2.Nodup :=
  List.Nodup.sublist (C06_sections_at_sublist d ss r h) hnd

/-- the lookups stay unobservable: invariant and structure are kept -/
theorem C06_sections_keep (d : D) (ss : List Nat) (r : Rng) (h : DInv d) :
    DInv (secsOn d ss r).1 ∧ strip (secsOn d ss r).1 = strip d := by
  rw [secsOn_eq]
  have := scanFold_spec (keepOn r) ss d [] h
  exact ⟨this.1, this.2.1⟩

theorem C06_sections_at_keep (d : D) (ss : List Nat) (r : Rng) (h : DInv d) :
    DInv (secsAt d ss r).1 ∧ strip (secsAt d ss r).1 = strip d := by
  rw [secsAt_eq]
  have := scanFold_spec (keepAt r) ss d [] h
  exact ⟨this.1, this.2.1⟩

/-- ... so any later lookup answers as if the section scan had not happened -/
theorem C12_sections_lookup_unobservable (d : D) (ss : List Nat) (r : Rng) (q : Query) (h : DInv d) :
    sameAnswer (runQuery (secsOn d ss r).1 q).2 (runQuery d q).2 :=
  let hk := C06_sections_keep d ss r h
  C12_answer_of_strip _ _ q hk.1 h hk.2

theorem C12_sections_at_lookup_unobservable (d : D) (ss : List Nat) (r : Rng) (q : Query)
    (h : DInv d) : sameAnswer (runQuery (secsAt d ss r).1 q).2 (runQuery d q).2 :=
  let hk := C06_sections_at_keep d ss r h
  C12_answer_of_strip _ _ q hk.1 h hk.2

/-- answers of the section scans are a function of the structure, as LISTS -/
theorem secs_answer_of_strip {d d' : D} (h : DInv d ∧ DInv d' ∧ strip d = strip d')
    (ss : List Nat) (r : Rng) :
    (secsOn d ss r).2 = (secsOn d' ss r).2 ∧ (secsAt d ss r).2 = (secsAt d' ss r).2 := by
  rw [secsOn_snd d ss r h.1, secsOn_snd d' ss r h.2.1, secsAt_snd d ss r h.1, secsAt_snd d' ss r h.2.1]
  simp only [codeExtent_of_strip h.2.2, and_self]

/-- and a section scan after any lookup answers what it answers without it -/
theorem C12_sections_after_lookup (d : D) (ss : List Nat) (r : Rng) (q : Query) (h : DInv d) :
    (secsOn (runQuery d q).1 ss r).2 = (secsOn d ss r).2 ∧
    (secsAt (runQuery d q).1 ss r).2 = (secsAt d ss r).2 :=
  let hk := runQuery_inv_strip h q
  secs_answer_of_strip ⟨hk.1, h, hk.2⟩ ss r

/-- `exS` (two sections; section 21 owns the address-less interval 12) with interval 12
detached: section 20 spans [100, 132), section 21 spans [204, 220) -/
def exS2 : D := biMove exS 12 none true

theorem exS2_inv : DInv exS2 := C12_edit_inv exS (.biMove 12 none true) exS_inv

example : scanExtent exS2 20 = some (100, 32) ∧ scanExtent exS2 21 = some (204, 16) ∧
    (secExtent exS2 20).2 = some (100, 32) ∧ (secExtent exS2 21).2 = some (204, 16) := by rw [exS2, exS_val]; decide

/-- section 21 has an interval without address in `exS`: no extent, never reported -/
example : scanExtent exS 21 = none ∧ (secExtent exS 21).2 = none ∧
    (secsOn exS [20, 21] ⟨0, 1000, 1⟩).2 = [20] := by rw [exS_val]; decide

example : (secsOn exS2 [20, 21] ⟨0, 1000, 1⟩).2 = [20, 21] ∧
    (secsOn exS2 [21, 20] ⟨0, 1000, 1⟩).2 = [21, 20] ∧
    (secsOn exS2 [20, 21] ⟨131, 205, 1⟩).2 = [20, 21] ∧
    (secsOn exS2 [20, 21] ⟨132, 204, 1⟩).2 = [] ∧
    (secsOn exS2 [20, 21] ⟨210, 211, 1⟩).2 = [21] ∧
    (secsOn exS2 [20, 21] ⟨210, 210, 1⟩).2 = [] := by rw [exS2, exS_val]; decide

/-- `sections_at` looks at the address only, and honours the step -/
example : (secsAt exS2 [20, 21] ⟨0, 1000, 1⟩).2 = [20, 21] ∧
    (secsAt exS2 [20, 21] ⟨101, 1000, 1⟩).2 = [21] ∧
    (secsAt exS2 [20, 21] ⟨0, 1000, 8⟩).2 = [] ∧
    (secsAt exS2 [20, 21] ⟨4, 1000, 8⟩).2 = [20, 21] ∧
    (secsAt exS2 [20, 21] ⟨4, 1000, 100⟩).2 = [21] := by rw [exS2, exS_val]; decide

example (x : Nat) : x ∈ (secsOn exS2 [20, 21] ⟨131, 205, 1⟩).2 ↔ x ∈ [20, 21] ∧
    ∃ a z, scanExtent exS2 x = some (a, z) ∧ z ≠ 0 ∧ (131 : Int) < 205 ∧ a < 205 ∧ a + z > 131 :=
  C06_sections_on exS2 [20, 21] ⟨131, 205, 1⟩ exS2_inv (by rw [exS2, exS_val]; decide) x

/-- the scan forces the pending index of section 21 (three events before, none after) -/
example : (exS2.sec? 21).map (fun s => (s.lz.tree.isSome, s.lz.events.length)) = some (false, 3) ∧
    ((secsOn exS2 [20, 21] ⟨0, 1000, 1⟩).1.sec? 21).map
      (fun s => (s.lz.tree.isSome, s.lz.events.length)) = some (true, 0) := by rw [exS2, exS_val]; decide

/-- a listed id that is not a section (99, named by interval 10 after the move) is not
reported although the scan finds an extent for it: `hss` is needed -/
example : (secsOn (biMove exS2 10 (some 99) true) [99, 21] ⟨0, 1000, 1⟩).2 = [21] ∧
    scanExtent (biMove exS2 10 (some 99) true) 99 = some (100, 32) := by rw [exS2, exS_val]; decide

/-- a section listed twice is reported twice: `_nodup` needs `ss.Nodup` -/
example : (secsOn exS2 [20, 20] ⟨0, 1000, 1⟩).2 = [20, 20] := by rw [exS2, exS_val]; decide

/-- a section of zero-sized intervals only has an extent of size 0 and is never "on" any
range, but is "at" its address -/
example : scanExtent (biSet exS2 11 (some 204) 0) 21 = some (204, 0) ∧
    (secsOn (biSet exS2 11 (some 204) 0) [21] ⟨0, 1000, 1⟩).2 = [] ∧
    (secsAt (biSet exS2 11 (some 204) 0) [21] ⟨0, 1000, 1⟩).2 = [21] := by rw [exS2, exS_val]; decide

end Gtirb.Index
