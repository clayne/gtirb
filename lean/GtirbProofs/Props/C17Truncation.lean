import GtirbProofs.Lemmas.PbWireProofs
/-! Truncation at the wire level (C17: a file cut short inside a varint or inside the payload
of a length-delimited field does not read as a field). -/
namespace Gtirb.Pb
open Gtirb

/-- bytes that all carry the continuation bit do not make a varint -/
theorem decVarintAux_continued : ∀ (fuel : Nat) (l : Bytes), (∀ b ∈ l, 128 ≤ b.toNat) →
    decVarintAux fuel l = none
  | 0, _, _ => rfl
  | _ + 1, [], _ => rfl
  | fuel + 1, b :: l, h => by
    have := h b List.mem_cons_self
    rw [decVarintAux, if_neg (by omega),
      decVarintAux_continued fuel l fun c hc => h c (List.mem_cons_of_mem _ hc)]

/-- a varint cut short (any proper prefix of its encoding) does not read: in the canonical
form every byte but the last carries the continuation bit -/
theorem decVarintAux_truncated (n : Nat) : ∀ (fuel k : Nat), k < (encVarint n).length →
    decVarintAux fuel ((encVarint n).take k) = none := by
  intro fuel k hk
  obtain ⟨init, last, he, -, hi, -⟩ := encVarint_canonical n
  rw [he] at hk ⊢
  rw [List.take_append_of_le_length (by simpa [Nat.lt_succ_iff] using hk)]
  exact decVarintAux_continued fuel _ fun b hb => hi b (List.mem_of_mem_take hb)

theorem decVarint_truncated (n k : Nat) (hk : k < (encVarint n).length) :
    decVarint ((encVarint n).take k) = none := by
  unfold decVarint
  rw [decVarintAux_truncated n 10 k hk]

/-- a length-delimited field whose payload is cut short is rejected -/
theorem decField_len_truncated (k : Nat) (bs : Bytes) (j : Nat) (hj : j < bs.length)
    (hk : 0 < k ∧ k < 2 ^ 29) (hl : bs.length < 2 ^ 64) :
    decField (encVarint (k * 8 + 2) ++ (encVarint bs.length ++ bs.take j)) = none := by
  unfold decField
  rw [decVarint_encVarint (k * 8 + 2) (by omega)]
  -- the tag is field `k` with wire type 2
  simp only [Nat.mul_comm k 8, Nat.mul_add_div (by decide : 0 < 8), Nat.mul_add_mod,
    Nat.reduceDiv, Nat.reduceMod, Nat.add_zero, Nat.ne_of_gt hk.1, if_false]
  -- the length reads back; the payload left is shorter
  rw [decVarint_encVarint bs.length hl]
  simp only [List.length_take, Nat.min_eq_left (Nat.le_of_lt hj), hj, if_true]

end Gtirb.Pb
