import GtirbProofs.Lemmas.IndexProofs2
/-! C12: deferred index maintenance is unobservable. The answer to any lookup
depends only on the current structure, never on which lookups were issued
earlier, when, or how many edits accumulated between them.

`LazyOK`, `DInv`, `strip`, `sameAnswer` are defined in
`GtirbProofs/Lemmas/IndexProofs2.lean`. -/
namespace Gtirb.Index

/-- all three branches of `get` return the current set, whatever the threshold says -/
theorem C12_get (l : Lazy) (cur : List Iv) (n : Nat) (h : LazyOK l cur) (_hc : cur.Nodup) :
    let r := l.get cur n
    r.2.Nodup ∧ (∀ iv, iv ∈ r.2 ↔ iv ∈ cur) ∧ LazyOK r.1 cur ∧ r.1.events = [] := by
  have := lazy_get_spec l cur n h
  exact ⟨this.1, this.2.1, this.2.2.1, this.2.2.2.1⟩

theorem C12_edit_inv (d : D) (e : Edit) (h : DInv d) : DInv (applyEdit d e) := by
  cases e with
  | blkSet b o z =>
    simp only [applyEdit]
    rw [blkSet_eq]
    cases hb : d.blk? b with
    | none => exact h
    | some blk =>
      exact blk_edit_inv h (blk' := { blk with offset := o, size := z }) (List.mem_of_find?_eq_some hb) rfl
  | blkMove b dst r =>
    simp only [applyEdit]
    rw [blkMove_eq]
    cases hb : d.blk? b with
    | none => exact h
    | some blk =>
      simp only
      split
      · exact h
      · exact blk_edit_inv h (blk' := { blk with bi := dst }) (List.mem_of_find?_eq_some hb) rfl
  | biSet x a z =>
    simp only [applyEdit]
    rw [biSet_eq]
    cases hb : d.bi? x with
    | none => exact h
    | some bi =>
      exact bi_edit_inv h (bi' := { bi with addr := a, size := z }) (List.mem_of_find?_eq_some hb) rfl rfl
  | biMove x dst r =>
    simp only [applyEdit]
    rw [biMove_eq]
    cases hb : d.bi? x with
    | none => exact h
    | some bi =>
      simp only
      split
      · exact h
      · exact bi_edit_inv h (bi' := { bi with sec := dst }) (List.mem_of_find?_eq_some hb) rfl rfl

theorem C12_query_inv (d : D) (q : Query) (h : DInv d) : DInv (runQuery d q).1 :=
  (runQuery_inv_strip h q).1

/-- lookups do not change the structure (everything except the lazy state).
Intended statement: `strip (runQuery d q).1 = strip d` for every `d`; that is
false of the model when two byte intervals share an id (`D.setBI` then
overwrites the attributes of the second one, see `C12_query_strip_needs_inv`
below), so well-formedness is assumed. -/
theorem C12_query_strip (d : D) (q : Query) (h : DInv d) : strip (runQuery d q).1 = strip d :=
  (runQuery_inv_strip h q).2

/-- the structural effect of an edit depends on the structure only (no
well-formedness needed) -/
theorem C12_edit_strip (d d' : D) (e : Edit) (h : strip d = strip d') :
    strip (applyEdit d e) = strip (applyEdit d' e) := by
  cases e with
  | blkSet b o z =>
    simp only [applyEdit]
    rw [blkSet_eq, blkSet_eq, blk?_of_strip h]
    cases d'.blk? b with
    | none => exact h
    | some blk =>
      exact strip_optUpdBI_congr (strip_setBlk_congr (strip_optUpdBI_congr h _ _ _) _) _ _ _
  | blkMove b dst r =>
    simp only [applyEdit]
    rw [blkMove_eq, blkMove_eq, blk?_of_strip h]
    cases d'.blk? b with
    | none => exact h
    | some blk =>
      simp only
      split
      · exact h
      · exact strip_optUpdBI_congr (strip_setBlk_congr (strip_optUpdBI_congr h _ _ _) _) _ _ _
  | biSet x a z =>
    simp only [applyEdit]
    rw [biSet_eq, biSet_eq]
    rcases bi?_strip_cases h x with ⟨h1, h2⟩ | ⟨b, b', h1, h2, hp⟩ <;> simp only [h1, h2]
    · exact h
    · simp only [projBI, Prod.mk.injEq] at hp
      rw [strip_optUpdSec, strip_optUpdSec]
      refine strip_setBI_congr ?_ (by simp only [projBI, hp.1, hp.2.2.2])
      rw [strip_optUpdSec, strip_optUpdSec]; exact h
  | biMove x dst r =>
    simp only [applyEdit]
    rw [biMove_eq, biMove_eq]
    rcases bi?_strip_cases h x with ⟨h1, h2⟩ | ⟨b, b', h1, h2, hp⟩ <;> simp only [h1, h2]
    · exact h
    · simp only [projBI, Prod.mk.injEq] at hp
      rw [hp.2.2.2]
      split
      · exact h
      · rw [strip_optUpdSec, strip_optUpdSec]
        refine strip_setBI_congr ?_ (by simp only [projBI, hp.1, hp.2.1, hp.2.2.1])
        rw [strip_optUpdSec, strip_optUpdSec]; exact h

/-- answers are functions of the structure: two well-formed states with the
same structure answer every query with the same set of ids (and the same extent) -/
theorem C12_answer_of_strip (d d' : D) (q : Query) (h : DInv d) (h' : DInv d')
    (hs : strip d = strip d') : sameAnswer (runQuery d q).2 (runQuery d' q).2 := by
  cases q <;> simp only [runQuery, sameAnswer]
  case bono x r =>
    intro b
    rw [mem_biBlocksOnOffset h, mem_biBlocksOnOffset h', bi?_isSome_of_strip hs,
      scanBlocksOnOffset_of_strip hs]
  case bato x r =>
    intro b
    rw [mem_biBlocksAtOffset h, mem_biBlocksAtOffset h', bi?_isSome_of_strip hs,
      scanBlocksAtOffset_of_strip hs]
  case bon x r =>
    intro b
    rw [mem_biBlocksOn h, mem_biBlocksOn h', scanBlocksOn_of_strip hs]
  case bat x r =>
    intro b
    rw [mem_biBlocksAt h, mem_biBlocksAt h', scanBlocksAt_of_strip hs]
  case sbison s r =>
    intro b
    rw [mem_secBisOn h, mem_secBisOn h', sec?_of_strip hs, scanBisOn_of_strip hs]
  case sbisat s r =>
    intro b
    rw [mem_secBisAt h, mem_secBisAt h', sec?_of_strip hs, scanBisAt_of_strip hs]
  case sbon s r =>
    intro b
    rw [(secBlocksOn_spec h s r).2.1, (secBlocksOn_spec h' s r).2.1, sec?_of_strip hs,
      scanBisOn_of_strip hs]
    simp only [scanBlocksOn_of_strip hs]
  case sbat s r =>
    intro b
    rw [(secBlocksAt_spec h s r).2.1, (secBlocksAt_spec h' s r).2.1, sec?_of_strip hs,
      scanBisOn_of_strip hs]
    simp only [scanBlocksAt_of_strip hs]
  case ext s =>
    rcases sec?_strip_cases hs s with ⟨hb, hb'⟩ | ⟨sc, sc', hb, hb'⟩
    · rw [secExtent_none hb, secExtent_none hb']
    · have ht := getSec_tree h hb
      have ht' := getSec_tree h' hb'
      rw [secExtent_eq, secExtent_eq, bisOf_length_of_strip hs s]
      exact extentOf_congr _ ht.1 ht'.1 fun iv => by rw [ht.2, ht'.2, biIvs_of_strip hs]

theorem exec_spec (as : List Act) (d d' : D) (h : DInv d) (hs : strip d = strip d') :
    DInv (exec d as) ∧ strip (exec d as) = strip ((editsOf as).foldl applyEdit d') :=
  hist_spec C12_edit_inv (fun e hs => C12_edit_strip _ _ e hs)
    (fun d a e he => by cases a <;> cases he; rfl)
    (fun d a he hd => by
      cases a with
      | edit e => cases he
      | look q => exact runQuery_inv_strip hd q) as d d' h hs

theorem C12_exec_inv (d0 : D) (h0 : DInv d0) (a : List Act) : DInv (exec d0 a) :=
  (exec_spec a d0 d0 h0 rfl).1

theorem C12_exec_strip (d0 : D) (h0 : DInv d0) (a : List Act) :
    strip (exec d0 a) = strip ((editsOf a).foldl applyEdit d0) :=
  (exec_spec a d0 d0 h0 rfl).2

/-- schedule independence: two histories with the same edits, whatever lookups
are interleaved, give the same final answers -/
theorem C12_schedule (d0 : D) (h0 : DInv d0) (a1 a2 : List Act) (he : editsOf a1 = editsOf a2)
    (q : Query) : sameAnswer (runQuery (exec d0 a1) q).2 (runQuery (exec d0 a2) q).2 := by
  have h1 := exec_spec a1 d0 d0 h0 rfl
  have h2 := exec_spec a2 d0 d0 h0 rfl
  refine C12_answer_of_strip _ _ q h1.1 h2.1 ?_
  rw [h1.2, h2.2, he]

theorem C12_init : DInv ({} : D) :=
  dinv_of_unbuilt List.nodup_nil List.nodup_nil List.nodup_nil (fun _ h => nomatch h) (fun _ h => nomatch h)

theorem lazyOK_empty (cur : List Iv) : LazyOK {} cur :=
  fun _ ht => nomatch ht

/-- the driver's `blk` line: a fresh detached block -/
theorem C12_add_blk (d : D) (h : DInv d) (i : Nat) (k : Bool) (o z : Nat)
    (hi : i ∉ d.blks.map (·.id)) : DInv { d with blks := d.blks ++ [⟨i, k, o, z, none⟩] } := by
  refine ⟨?_, h.bi_ids, h.sec_ids, ?_, h.sec_ok⟩
  · show (List.map Blk.id (d.blks ++ [_])).Nodup
    rw [List.map_append]; exact nodup_snoc h.blk_ids hi
  · intro bi hbi
    have e : ({ d with blks := d.blks ++ [⟨i, k, o, z, none⟩] } : D).blocksOf bi.id =
        d.blocksOf bi.id := by
      simp [D.blocksOf, List.filter_append]
    rw [e]; exact h.bi_ok bi hbi

/-- the driver's `bi` line: a fresh detached byte interval -/
theorem C12_add_bi (d : D) (h : DInv d) (i : Nat) (a : Option Nat) (z : Nat)
    (hi : i ∉ d.bis.map (·.id)) :
    DInv { d with bis := d.bis ++ [{ id := i, addr := a, size := z, sec := none }] } := by
  refine ⟨h.blk_ids, ?_, h.sec_ids, ?_, ?_⟩
  · show (List.map BI.id (d.bis ++ [_])).Nodup
    rw [List.map_append]; exact nodup_snoc h.bi_ids hi
  · intro bi hbi
    rcases List.mem_append.1 hbi with hm | hm
    · exact h.bi_ok bi hm
    · simp at hm; subst hm; exact lazyOK_empty _
  · intro sc hsc
    have e : ({ d with bis := d.bis ++ [{ id := i, addr := a, size := z, sec := none }] } : D).bisOf
        sc.id = d.bisOf sc.id := by
      simp [D.bisOf, List.filter_append]
    rw [e]; exact h.sec_ok sc hsc

/-- the driver's `sec` line: a fresh section -/
theorem C12_add_sec (d : D) (h : DInv d) (i : Nat) (hi : i ∉ d.secs.map (·.id)) :
    DInv { d with secs := d.secs ++ [{ id := i }] } := by
  refine ⟨h.blk_ids, h.bi_ids, ?_, h.bi_ok, ?_⟩
  · show (List.map Sec.id (d.secs ++ [_])).Nodup
    rw [List.map_append]; exact nodup_snoc h.sec_ids hi
  · intro sc hsc
    rcases List.mem_append.1 hsc with hm | hm
    · exact h.sec_ok sc hm
    · simp at hm; subst hm; exact lazyOK_empty _

/-- two overlapping blocks (1, 2) and a zero-sized one (3), one byte interval, one section -/
def exD0 : D :=
  { blks := [⟨1, true, 0, 8, none⟩, ⟨2, false, 4, 8, none⟩, ⟨3, true, 6, 0, none⟩],
    bis := [{ id := 10, addr := some 100, size := 32, sec := none }],
    secs := [{ id := 20 }] }

def exActs : List Act :=
  [.edit (.blkMove 1 (some 10) true), .edit (.blkMove 2 (some 10) true),
   .edit (.blkMove 3 (some 10) true), .edit (.biMove 10 (some 20) true),
   .look (.bono 10 ⟨0, 100, 1⟩), .edit (.blkSet 1 1 8)]

/-- the same edits, no lookup in between -/
def exActs' : List Act :=
  [.edit (.blkMove 1 (some 10) true), .edit (.blkMove 2 (some 10) true),
   .edit (.blkMove 3 (some 10) true), .edit (.biMove 10 (some 20) true),
   .edit (.blkSet 1 1 8)]

def exD : D := exec exD0 exActs
def exD' : D := exec exD0 exActs'

theorem exD0_inv : DInv exD0 :=
  dinv_of_unbuilt (by decide) (by decide) (by decide) (by decide) (by decide)

theorem exD_inv : DInv exD := C12_exec_inv exD0 exD0_inv exActs
theorem exD'_inv : DInv exD' := C12_exec_inv exD0 exD0_inv exActs'

/-- `exD`, evaluated: interval 10 carries a built block index (blocks 1, 2, 3 at their first
offsets) and the two events of `blkSet 1 1 8`; section 20 has no index yet -/
theorem exD_val : exD =
    { blks := [⟨1, true, 1, 8, some 10⟩, ⟨2, false, 4, 8, some 10⟩, ⟨3, true, 6, 0, some 10⟩],
      bis := [{ id := 10, addr := some 100, size := 32, sec := some 20,
                lz := { tree := some [⟨0, 9, 1⟩, ⟨4, 13, 2⟩, ⟨6, 7, 3⟩],
                        events := [(false, ⟨0, 9, 1⟩), (true, ⟨1, 10, 1⟩)] } }],
      secs := [{ id := 20, lz := { events := [(true, ⟨100, 133, 10⟩)] } }] } := rfl

/-- `exD` carries a built tree with two pending events (replay branch), `exD'`
no tree at all (first-build branch) -/
example : (exD.bi? 10).map (fun b => (b.lz.tree.isSome, b.lz.events.length)) = some (true, 2) := by
  rw [exD_val]; decide
example : (exD'.bi? 10).map (fun b => (b.lz.tree.isSome, b.lz.events.length)) = some (false, 5) := by
  decide

/-- same ids, different order: the answers agree as sets only -/
example : (biBlocksOn exD 10 ⟨100, 107, 1⟩).2 = [2, 1] := by rw [exD_val]; decide
example : (biBlocksOn exD' 10 ⟨100, 107, 1⟩).2 = [1, 2] := by decide
example : scanBlocksOn exD 10 ⟨100, 107, 1⟩ = [1, 2] := by rw [exD_val]; decide
example : (biBlocksAt exD 10 ⟨100, 107, 1⟩).2 = [2, 3, 1] := by rw [exD_val]; decide
example : (biBlocksAt exD' 10 ⟨100, 107, 1⟩).2 = [1, 2, 3] := by decide
example : (secBlocksOn exD 20 ⟨100, 107, 1⟩).2 = [2, 1] := by rw [exD_val]; decide
example : (secExtent exD 20).2 = some (100, 32) := by rw [exD_val]; decide

example : sameAnswer (runQuery exD (.bat 10 ⟨100, 107, 1⟩)).2 (runQuery exD' (.bat 10 ⟨100, 107, 1⟩)).2 :=
  C12_schedule exD0 exD0_inv exActs exActs' rfl (.bat 10 ⟨100, 107, 1⟩)

/-- `C12_query_strip` needs well-formedness: with a duplicated interval id a
lookup changes the structure. -/
def exBad : D :=
  { bis := [{ id := 1, addr := some 5, size := 1, sec := none },
            { id := 1, addr := some 7, size := 2, sec := none }] }

theorem C12_query_strip_needs_inv :
    (strip (runQuery exBad (.bono 1 ⟨0, 10, 1⟩)).1).2 ≠ (strip exBad).2 := by decide

end Gtirb.Index
