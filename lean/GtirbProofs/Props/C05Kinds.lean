import GtirbModel.IndexKinds
import GtirbProofs.Props.C05Scopes
/-! C05, the `code_*` / `data_*` variants: "exactly the blocks of that kind".

`kindOnly d code l` (GtirbModel/IndexKinds.lean) is the `isinstance` filter the
code puts on the result of the corresponding `byte_blocks_*` lookup. Every
variant is therefore characterised by the characterisation of the unfiltered
lookup plus the kind of the block (`C05_kind_mem`, and its instances for each
lookup at each scope); the filter keeps duplicate-freeness, the code and data
variants partition the unfiltered answer, and the kind of a block is a constant
of every edit, creation and lookup. -/
namespace Gtirb.Index

theorem blk?_some_iff {d : D} (h : DInv d) {b : Nat} {blk : Blk} :
    d.blk? b = some blk ↔ blk ∈ d.blks ∧ blk.id = b :=
  kfind_some_iff Blk.id h.blk_ids

theorem mem_kindOnly_raw {d : D} {code : Bool} {l : List Nat} {b : Nat} :
    b ∈ kindOnly d code l ↔ b ∈ l ∧ (d.blk? b).map (·.isCode) = some code := by
  simp [kindOnly, List.mem_filter]

/-- the generic statement: a filtered answer is the unfiltered answer restricted
to the blocks of the kind asked for -/
theorem C05_kind_mem (d : D) (h : DInv d) (code : Bool) (l : List Nat) (b : Nat) :
    b ∈ kindOnly d code l ↔ b ∈ l ∧ ∃ blk ∈ d.blks, blk.id = b ∧ blk.isCode = code := by
  rw [mem_kindOnly_raw]
  simp only [Option.map_eq_some_iff, blk?_some_iff h, and_assoc]

/-- the filter is a sublist of the answer: order and multiplicity are inherited -/
theorem C05_kind_sublist (d : D) (code : Bool) (l : List Nat) : (kindOnly d code l).Sublist l :=
  List.filter_sublist

theorem C05_kind_nodup (d : D) (code : Bool) (l : List Nat) (h : l.Nodup) : (kindOnly d code l).Nodup :=
  List.Nodup.sublist (C05_kind_sublist d code l) h

/-- the code and the data variant together give the unfiltered answer (every
reported id names a block: see `C05_kind_partition_bi` / `_section` / `_scope` below) ... -/
theorem C05_kind_partition (d : D) (l : List Nat) (hl : ∀ b ∈ l, (d.blk? b).isSome) (b : Nat) :
    b ∈ l ↔ (b ∈ kindOnly d true l ∨ b ∈ kindOnly d false l) := by
  simp only [mem_kindOnly_raw, ← and_or_left]
  refine (and_iff_left_of_imp fun hb => ?_).symm
  obtain ⟨blk, hk⟩ := Option.isSome_iff_exists.1 (hl b hb)
  rw [hk]
  cases blk.isCode <;> simp

/-- ... and they have nothing in common -/
theorem C05_kind_disjoint (d : D) (l : List Nat) (b : Nat) (h1 : b ∈ kindOnly d true l) :
    b ∉ kindOnly d false l := by
  rw [mem_kindOnly_raw] at h1 ⊢
  rintro ⟨_, h2⟩
  rw [h1.2] at h2
  cases h2

theorem kindOnly_append (d : D) (code : Bool) (l1 l2 : List Nat) :
    kindOnly d code (l1 ++ l2) = kindOnly d code l1 ++ kindOnly d code l2 :=
  List.filter_append ..

theorem kindOnly_of_blks {d d' : D} (h : d.blks = d'.blks) (code : Bool) (l : List Nat) :
    kindOnly d code l = kindOnly d' code l := by
  simp only [kindOnly, blk?_congr h]

theorem blk?_isSome_of_mem {d : D} {blk : Blk} (hm : blk ∈ d.blks) : (d.blk? blk.id).isSome := by
  unfold D.blk?
  rw [List.find?_isSome]
  exact ⟨blk, hm, by simp⟩

theorem owner_isBlk {d : D} {x b : Nat} :
    (∃ blk ∈ d.blks, blk.bi = some x ∧ blk.id = b) → (d.blk? b).isSome
  | ⟨_, hm, _, hi⟩ => hi ▸ blk?_isSome_of_mem hm

/-- `code_blocks_on` (`code = true`) / `data_blocks_on` (`code = false`) -/
theorem C05_kind_on (d : D) (x : Nat) (r : Rng) (h : DInv d) (code : Bool) (b : Nat) :
    b ∈ kindOnly d code (biBlocksOn d x r).2 ↔
      b ∈ scanBlocksOn d x r ∧ ∃ blk ∈ d.blks, blk.id = b ∧ blk.isCode = code := by
  rw [C05_kind_mem d h, mem_biBlocksOn h]

/-- `code_blocks_at` / `data_blocks_at` -/
theorem C05_kind_at (d : D) (x : Nat) (r : Rng) (h : DInv d) (code : Bool) (b : Nat) :
    b ∈ kindOnly d code (biBlocksAt d x r).2 ↔
      b ∈ scanBlocksAt d x r ∧ ∃ blk ∈ d.blks, blk.id = b ∧ blk.isCode = code := by
  rw [C05_kind_mem d h, mem_biBlocksAt h]

/-- `code_blocks_on_offset` / `data_blocks_on_offset` (`hx` as in `C05_on_offset`) -/
theorem C05_kind_on_offset (d : D) (x : Nat) (r : Rng) (h : DInv d) (hx : (d.bi? x).isSome)
    (code : Bool) (b : Nat) :
    b ∈ kindOnly d code (biBlocksOnOffset d x r).2 ↔
      b ∈ scanBlocksOnOffset d x r ∧ ∃ blk ∈ d.blks, blk.id = b ∧ blk.isCode = code := by
  rw [C05_kind_mem d h, (C05_on_offset d x r h hx).1]

/-- `code_blocks_at_offset` / `data_blocks_at_offset` -/
theorem C05_kind_at_offset (d : D) (x : Nat) (r : Rng) (h : DInv d) (hx : (d.bi? x).isSome)
    (code : Bool) (b : Nat) :
    b ∈ kindOnly d code (biBlocksAtOffset d x r).2 ↔
      b ∈ scanBlocksAtOffset d x r ∧ ∃ blk ∈ d.blks, blk.id = b ∧ blk.isCode = code := by
  rw [C05_kind_mem d h, (C05_at_offset d x r h hx).1]

/-- each qualifying block of the kind once, all four interval-scope lookups -/
theorem C05_kind_nodup_bi (d : D) (x : Nat) (r : Rng) (h : DInv d) (code : Bool) :
    (kindOnly d code (biBlocksOn d x r).2).Nodup ∧ (kindOnly d code (biBlocksAt d x r).2).Nodup ∧
    (kindOnly d code (biBlocksOnOffset d x r).2).Nodup ∧
    (kindOnly d code (biBlocksAtOffset d x r).2).Nodup :=
  ⟨C05_kind_nodup _ _ _ (nodup_biBlocksOn h x r), C05_kind_nodup _ _ _ (nodup_biBlocksAt h x r),
   C05_kind_nodup _ _ _ (nodup_biBlocksOnOffset h x r), C05_kind_nodup _ _ _ (nodup_biBlocksAtOffset h x r)⟩

/-- code and data variants partition `byte_blocks_on` / `_at` / `_on_offset` / `_at_offset` -/
theorem C05_kind_partition_bi (d : D) (x : Nat) (r : Rng) (h : DInv d) (b : Nat) :
    (b ∈ (biBlocksOn d x r).2 ↔
      (b ∈ kindOnly d true (biBlocksOn d x r).2 ∨ b ∈ kindOnly d false (biBlocksOn d x r).2)) ∧
    (b ∈ (biBlocksAt d x r).2 ↔
      (b ∈ kindOnly d true (biBlocksAt d x r).2 ∨ b ∈ kindOnly d false (biBlocksAt d x r).2)) ∧
    (b ∈ (biBlocksOnOffset d x r).2 ↔
      (b ∈ kindOnly d true (biBlocksOnOffset d x r).2 ∨ b ∈ kindOnly d false (biBlocksOnOffset d x r).2)) ∧
    (b ∈ (biBlocksAtOffset d x r).2 ↔
      (b ∈ kindOnly d true (biBlocksAtOffset d x r).2 ∨ b ∈ kindOnly d false (biBlocksAtOffset d x r).2)) := by
  refine ⟨C05_kind_partition d _ ?_ b, C05_kind_partition d _ ?_ b, C05_kind_partition d _ ?_ b,
    C05_kind_partition d _ ?_ b⟩
  · intro c hc; exact owner_isBlk (scanBlocksOn_owner ((mem_biBlocksOn h x r c).1 hc))
  · intro c hc; exact owner_isBlk (scanBlocksAt_owner ((mem_biBlocksAt h x r c).1 hc))
  · intro c hc
    obtain ⟨blk, hm, hx, hi, _⟩ := mem_scanBlocksOnOffset.1 ((mem_biBlocksOnOffset h x r c).1 hc).2
    exact owner_isBlk ⟨blk, hm, hx, hi⟩
  · intro c hc
    obtain ⟨blk, hm, hx, hi, _⟩ := mem_scanBlocksAtOffset.1 ((mem_biBlocksAtOffset h x r c).1 hc).2
    exact owner_isBlk ⟨blk, hm, hx, hi⟩

/-- `Section.code_blocks_on` / `data_blocks_on` (`hs` as in `C05_section_on`) -/
theorem C05_kind_section_on (d : D) (s : Nat) (r : Rng) (h : DInv d) (hs : (d.sec? s).isSome)
    (code : Bool) (b : Nat) :
    b ∈ kindOnly d code (secBlocksOn d s r).2 ↔
      (∃ x, x ∈ scanBisOn d s r ∧ b ∈ scanBlocksOn d x r) ∧
        ∃ blk ∈ d.blks, blk.id = b ∧ blk.isCode = code := by
  rw [C05_kind_mem d h, C05_section_on d s r h hs]

/-- `Section.code_blocks_at` / `data_blocks_at` -/
theorem C05_kind_section_at (d : D) (s : Nat) (r : Rng) (h : DInv d) (hs : (d.sec? s).isSome)
    (code : Bool) (b : Nat) :
    b ∈ kindOnly d code (secBlocksAt d s r).2 ↔
      (∃ x, x ∈ scanBisOn d s r ∧ b ∈ scanBlocksAt d x r) ∧
        ∃ blk ∈ d.blks, blk.id = b ∧ blk.isCode = code := by
  rw [C05_kind_mem d h, C05_section_at d s r h hs]

theorem C05_kind_section_nodup (d : D) (s : Nat) (r : Rng) (h : DInv d) (code : Bool) :
    (kindOnly d code (secBlocksOn d s r).2).Nodup ∧ (kindOnly d code (secBlocksAt d s r).2).Nodup :=
  ⟨C05_kind_nodup _ _ _ (secBlocksOn_spec h s r).2.2, C05_kind_nodup _ _ _ (secBlocksAt_spec h s r).2.2⟩

theorem C05_kind_partition_section (d : D) (s : Nat) (r : Rng) (h : DInv d) (b : Nat) :
    (b ∈ (secBlocksOn d s r).2 ↔
      (b ∈ kindOnly d true (secBlocksOn d s r).2 ∨ b ∈ kindOnly d false (secBlocksOn d s r).2)) ∧
    (b ∈ (secBlocksAt d s r).2 ↔
      (b ∈ kindOnly d true (secBlocksAt d s r).2 ∨ b ∈ kindOnly d false (secBlocksAt d s r).2)) := by
  refine ⟨C05_kind_partition d _ ?_ b, C05_kind_partition d _ ?_ b⟩
  · intro c hc
    rcases (C05_section_on_any d s r h c).1 hc with ⟨_, x, _, hx⟩; exact owner_isBlk (scanBlocksOn_owner hx)
  · intro c hc
    rcases (C05_section_at_any d s r h c).1 hc with ⟨_, x, _, hx⟩; exact owner_isBlk (scanBlocksAt_owner hx)

/-- `Module.code_blocks_on` / `IR.code_blocks_on` / `data_...` (`hss` as in `C05_scope_on`) -/
theorem C05_kind_scope_on (d : D) (ss : List Nat) (r : Rng) (h : DInv d)
    (hss : ∀ s ∈ ss, (d.sec? s).isSome) (code : Bool) (b : Nat) :
    b ∈ kindOnly d code (chain (fun d s => secBlocksOn d s r) d ss).2 ↔
      (∃ s ∈ ss, ∃ x, x ∈ scanBisOn d s r ∧ b ∈ scanBlocksOn d x r) ∧
        ∃ blk ∈ d.blks, blk.id = b ∧ blk.isCode = code := by
  rw [C05_kind_mem d h, C05_scope_on d ss r h hss]

/-- `Module.code_blocks_at` / `IR.code_blocks_at` / `data_...` -/
theorem C05_kind_scope_at (d : D) (ss : List Nat) (r : Rng) (h : DInv d)
    (hss : ∀ s ∈ ss, (d.sec? s).isSome) (code : Bool) (b : Nat) :
    b ∈ kindOnly d code (chain (fun d s => secBlocksAt d s r) d ss).2 ↔
      (∃ s ∈ ss, ∃ x, x ∈ scanBisOn d s r ∧ b ∈ scanBlocksAt d x r) ∧
        ∃ blk ∈ d.blks, blk.id = b ∧ blk.isCode = code := by
  rw [C05_kind_mem d h, C05_scope_at d ss r h hss]

theorem C05_kind_scope_nodup (d : D) (ss : List Nat) (r : Rng) (h : DInv d) (hnd : ss.Nodup)
    (code : Bool) :
    (kindOnly d code (chain (fun d s => secBlocksOn d s r) d ss).2).Nodup ∧
    (kindOnly d code (chain (fun d s => secBlocksAt d s r) d ss).2).Nodup :=
  ⟨C05_kind_nodup _ _ _ (C05_scope_on_nodup d ss r h hnd),
   C05_kind_nodup _ _ _ (C05_scope_at_nodup d ss r h hnd)⟩

theorem C05_kind_partition_scope (d : D) (ss : List Nat) (r : Rng) (h : DInv d) (b : Nat) :
    (b ∈ (chain (fun d s => secBlocksOn d s r) d ss).2 ↔
      (b ∈ kindOnly d true (chain (fun d s => secBlocksOn d s r) d ss).2 ∨
       b ∈ kindOnly d false (chain (fun d s => secBlocksOn d s r) d ss).2)) ∧
    (b ∈ (chain (fun d s => secBlocksAt d s r) d ss).2 ↔
      (b ∈ kindOnly d true (chain (fun d s => secBlocksAt d s r) d ss).2 ∨
       b ∈ kindOnly d false (chain (fun d s => secBlocksAt d s r) d ss).2)) := by
  refine ⟨C05_kind_partition d _ ?_ b, C05_kind_partition d _ ?_ b⟩
  · intro c hc
    rcases (C05_scope_on_any d ss r h c).1 hc with ⟨_, _, _, x, _, hx⟩; exact owner_isBlk (scanBlocksOn_owner hx)
  · intro c hc
    rcases (C05_scope_at_any d ss r h c).1 hc with ⟨_, _, _, x, _, hx⟩; exact owner_isBlk (scanBlocksAt_owner hx)

theorem setBlk_blk? (d : D) (blk' : Blk) (b : Nat) :
    (d.setBlk blk').blk? b = (d.blk? b).map fun x => if x.id == blk'.id then blk' else x := by
  unfold D.setBlk D.blk?
  rw [List.find?_map]
  congr 2
  funext x
  by_cases hc : x.id = blk'.id <;> simp [Function.comp, hc]

theorem lzUpdBI_blk? (d : D) (x : Nat) (f : Lazy → Lazy) (b : Nat) : (lzUpdBI d x f).blk? b = d.blk? b :=
  blk?_congr (lzUpdBI_blks d x f) b

theorem setBlk_isCode {d : D} {b0 : Nat} {blk blk' : Blk} (hb : d.blk? b0 = some blk)
    (hid : blk'.id = blk.id) (hc : blk'.isCode = blk.isCode) (b : Nat) :
    ((d.setBlk blk').blk? b).map (·.isCode) = (d.blk? b).map (·.isCode) := by
  rw [setBlk_blk?]
  cases hf : d.blk? b with
  | none => rfl
  | some y =>
    simp only [Option.map_some]
    by_cases hy : y.id = blk'.id
    · have : b = b0 := by rw [← (kfind_some Blk.id hf).2, hy, hid, (kfind_some Blk.id hb).2]
      subst this
      rw [hb] at hf
      cases hf
      simp [hy, hc]
    · simp [hy]

/-- no edit changes the kind of a block (and none makes a block appear or
disappear), whatever the state -/
theorem C05_kind_const (d : D) (e : Edit) (b : Nat) :
    ((applyEdit d e).blk? b).map (·.isCode) = (d.blk? b).map (·.isCode) := by
  cases e with
  | blkSet b0 o z =>
    simp only [applyEdit]
    rw [blkSet_eq]
    cases hb : d.blk? b0 with
    | none => rfl
    | some blk =>
      simp only
      rw [blk?_congr (blk_edit_blks ..)]
      exact setBlk_isCode (blk' := { blk with offset := o, size := z }) hb rfl rfl b
  | blkMove b0 dst r =>
    simp only [applyEdit]
    rw [blkMove_eq]
    cases hb : d.blk? b0 with
    | none => rfl
    | some blk =>
      simp only
      split
      · rfl
      · rw [blk?_congr (blk_edit_blks ..)]
        exact setBlk_isCode (blk' := { blk with bi := dst }) hb rfl rfl b
  | biSet x a z =>
    simp only [applyEdit]
    rw [biSet_eq]
    cases d.bi? x with
    | none => rfl
    | some bi => simp only; rw [blk?_congr (bi_edit_blks ..)]
  | biMove x dst r =>
    simp only [applyEdit]
    rw [biMove_eq]
    cases d.bi? x with
    | none => rfl
    | some bi =>
      simp only
      split
      · rfl
      · rw [blk?_congr (bi_edit_blks ..)]

/-- creation does not change the kind of the blocks that exist -/
theorem C05_kind_const_new (d : D) (e : EditC) (b : Nat) (hb : (d.blk? b).isSome) :
    ((applyEditC d e).blk? b).map (·.isCode) = (d.blk? b).map (·.isCode) := by
  cases e with
  | base e => exact C05_kind_const d e b
  | newBlk i c o z =>
    simp only [applyEditC]
    unfold newBlk
    split
    · rfl
    · unfold D.blk? at hb ⊢
      simp only [List.find?_append]
      cases hf : d.blks.find? (·.id == b) with
      | none => rw [hf] at hb; cases hb
      | some y => rfl
  | newBI i a z =>
    simp only [applyEditC]
    unfold newBI; split <;> rfl
  | newSec i =>
    simp only [applyEditC]
    unfold newSec; split <;> rfl

/-- a created block has the kind it was created with -/
theorem C05_kind_new (d : D) (i : Nat) (c : Bool) (o z : Nat) (hi : d.blk? i = none) :
    ((newBlk d i c o z).blk? i).map (·.isCode) = some c := by
  unfold newBlk
  rw [hi]
  unfold D.blk? at hi ⊢
  simp [List.find?_append, hi]

/-- two states with the same structure filter alike; in particular no lookup
(each keeps the structure: `C12_query_strip`, `C05_chain_strip`,
`C06_sections_keep`) changes what the filter reads -/
theorem C05_kind_of_strip {d d' : D} (h : strip d = strip d') (code : Bool) (l : List Nat) :
    kindOnly d code l = kindOnly d' code l :=
  kindOnly_of_blks (blks_of_strip h) code l

theorem C05_kind_const_query (d : D) (q : Query) (h : DInv d) (b : Nat) :
    (runQuery d q).1.blk? b = d.blk? b :=
  blk?_of_strip (runQuery_inv_strip h q).2 b

theorem C05_kind_const_chain (f : D → Nat → D × List Nat)
    (hf : ∀ d x, DInv d → DInv (f d x).1 ∧ strip (f d x).1 = strip d)
    (d : D) (xs : List Nat) (h : DInv d) (b : Nat) : (chain f d xs).1.blk? b = d.blk? b :=
  blk?_of_strip (C05_chain_strip f hf d xs h) b

/-- `Module.code_blocks_on = chain(s.code_blocks_on(addrs) for s in sections)`:
chaining the filtered section lookups is filtering the chained section lookup
(same final state, same list) -/
theorem C05_kind_chain (f : D → Nat → D × List Nat)
    (hf : ∀ d x, DInv d → DInv (f d x).1 ∧ strip (f d x).1 = strip d)
    (code : Bool) (d : D) (xs : List Nat) (h : DInv d) :
    chain (kinded f code) d xs = ((chain f d xs).1, kindOnly d code (chain f d xs).2) := by
  simp only [chain_eq]
  induction xs generalizing d with
  | nil => rfl
  | cons x xs ih =>
    rw [chainP_cons, chainP_cons]
    have hk := hf d x h
    have e1 : (kinded f code d x).1 = (f d x).1 := rfl
    have e2 : (kinded f code d x).2 = kindOnly (f d x).1 code (f d x).2 := rfl
    rw [e1, e2, ih _ hk.1, kindOnly_append]
    simp only [C05_kind_of_strip hk.2]

theorem kinded_keeps (f : D → Nat → D × List Nat)
    (hf : ∀ d x, DInv d → DInv (f d x).1 ∧ strip (f d x).1 = strip d) (code : Bool)
    (d : D) (x : Nat) (h : DInv d) :
    DInv (kinded f code d x).1 ∧ strip (kinded f code d x).1 = strip d := hf d x h

/-- `exD`: blocks 1 (code), 2 (data), 3 (code, zero-sized) in interval 10 -/
example : kindOnly exD true (biBlocksOn exD 10 ⟨100, 107, 1⟩).2 = [1] ∧
    kindOnly exD false (biBlocksOn exD 10 ⟨100, 107, 1⟩).2 = [2] ∧
    kindOnly exD true (biBlocksAt exD 10 ⟨100, 107, 1⟩).2 = [3, 1] ∧
    kindOnly exD false (biBlocksAt exD 10 ⟨100, 107, 1⟩).2 = [2] ∧
    kindOnly exD true (biBlocksOnOffset exD 10 ⟨0, 7, 1⟩).2 = [1] ∧
    kindOnly exD true (biBlocksAtOffset exD 10 ⟨0, 7, 1⟩).2 = [3, 1] := by rw [exD_val]; decide

example (b : Nat) : b ∈ kindOnly exD false (biBlocksOn exD 10 ⟨100, 107, 1⟩).2 ↔
    b ∈ scanBlocksOn exD 10 ⟨100, 107, 1⟩ ∧ ∃ blk ∈ exD.blks, blk.id = b ∧ blk.isCode = false :=
  C05_kind_on exD 10 ⟨100, 107, 1⟩ exD_inv false b

example : (kindOnly exD true (biBlocksAt exD 10 ⟨100, 107, 1⟩).2).Nodup :=
  C05_kind_nodup exD true _ (C05_at exD 10 ⟨100, 107, 1⟩ exD_inv).2

/-- `exS`: blocks 1 (code), 2 (data) in section 20; 3, 4 (code) in section 21;
block 5 (data) sits in the address-less interval 12 and is never reported -/
example : kindOnly exS true (chain (fun d s => secBlocksOn d s ⟨0, 1000, 1⟩) exS [20, 21]).2 = [1, 3] ∧
    kindOnly exS false (chain (fun d s => secBlocksOn d s ⟨0, 1000, 1⟩) exS [20, 21]).2 = [2] ∧
    kindOnly exS true (chain (fun d s => secBlocksAt d s ⟨0, 1000, 1⟩) exS [20, 21]).2 = [1, 3, 4] ∧
    kindOnly exS false (secBlocksAt exS 20 ⟨0, 1000, 1⟩).2 = [2] ∧
    kindOnly exS false (secBlocksOn exS 21 ⟨0, 1000, 1⟩).2 = [] := by rw [exS_val]; decide

example (b : Nat) : b ∈ kindOnly exS true (chain (fun d s => secBlocksOn d s ⟨0, 1000, 1⟩) exS [20, 21]).2 ↔
    (∃ s ∈ [20, 21], ∃ x, x ∈ scanBisOn exS s ⟨0, 1000, 1⟩ ∧ b ∈ scanBlocksOn exS x ⟨0, 1000, 1⟩) ∧
      ∃ blk ∈ exS.blks, blk.id = b ∧ blk.isCode = true :=
  C05_kind_scope_on exS [20, 21] ⟨0, 1000, 1⟩ exS_inv (by rw [exS_val]; decide) true b

/-- the code's nesting (filter inside the chain) gives the same list -/
example : (chain (kinded (fun d s => secBlocksOn d s ⟨0, 1000, 1⟩) true) exS [20, 21]).2 = [1, 3] := by
  rw [exS_val]; decide
example : chain (kinded (fun d s => secBlocksOn d s ⟨0, 1000, 1⟩) true) exS [20, 21] =
    ((chain (fun d s => secBlocksOn d s ⟨0, 1000, 1⟩) exS [20, 21]).1,
      kindOnly exS true (chain (fun d s => secBlocksOn d s ⟨0, 1000, 1⟩) exS [20, 21]).2) :=
  C05_kind_chain (fun d s => secBlocksOn d s ⟨0, 1000, 1⟩) (secBlocksOn_keeps ⟨0, 1000, 1⟩) true exS [20, 21] exS_inv

/-- the partition hypothesis matters: an id that names no block is in neither variant -/
example : kindOnly exD true [1, 2, 77] = [1] ∧ kindOnly exD false [1, 2, 77] = [2] := by rw [exD_val]; decide

/-- edits keep the kind: block 2 stays a data block when resized and moved away -/
example : ((applyEdit (applyEdit exD (.blkSet 2 0 1)) (.blkMove 2 none true)).blk? 2).map (·.isCode) =
    some false := by rw [exD_val]; decide

end Gtirb.Index
