import GtirbModel.AuxTable
import GtirbProofs.Props.C07
/-! C14: what `save` writes for one AuxData table.

(1) a table that is loaded and saved without its data being read is written back
byte for byte under the same type name, whatever the type name is;
(2) once the value was read, replaced, or the type name changed, `save` writes the
encoding of the current value under the current type name;
(3) a table whose decoding *reaches* a head without codec becomes `UnknownData` and
keeps its bytes; the corner where decoding never reaches the unknown head is a
counterexample (`C14_unknown_counterexample`). -/
namespace Gtirb.AuxTable
open Gtirb.Codec

/-- (1) any name (parseable or not), any bytes -/
theorem C14_untouched (lookup : Bytes → Option Nat) (nu : Nat → Bytes) (name : String)
    (bs : Bytes) :
    save lookup nu (load name bs) = (load name bs, .ok (name, bs)) := by
  simp [save, load]

/-- re-assigning the same type name to a still-lazy table changes nothing -/
theorem C14_untouched_same_name (lookup : Bytes → Option Nat) (nu : Nat → Bytes) (name : String)
    (bs : Bytes) :
    save lookup nu (assignType (load name bs) name) = (load name bs, .ok (name, bs)) := by
  simp [save, load, assignType]

/-- one generation: load, re-assign the same type name, save, take what was written -/
def generation (lookup : Bytes → Option Nat) (nu : Nat → Bytes) (name : String) (bs : Bytes) :
    Option (String × Bytes) :=
  match (save lookup nu (assignType (load name bs) name)).2 with
  | .ok out => some out
  | .error _ => none

/-- `n` generations of load / (assign the same type name) / save, each one loading what
the previous one wrote -/
def generations (lookup : Bytes → Option Nat) (nu : Nat → Bytes) :
    Nat → String → Bytes → Option (String × Bytes)
  | 0, name, bs => some (name, bs)
  | n + 1, name, bs =>
    match generation lookup nu name bs with
    | some (name', bs') => generations lookup nu n name' bs'
    | none => none

theorem C14_untouched_generations (lookup : Bytes → Option Nat) (nu : Nat → Bytes)
    (name : String) (bs : Bytes) (n : Nat) :
    generations lookup nu n name bs = some (name, bs) := by
  induction n with
  | zero => rfl
  | succ n ih =>
    simp [generations, generation, C14_untouched_same_name, ih]

theorem C14_read_drops_raw (lookup : Bytes → Option Nat) (t t' : Table) (d : Data)
    (h : read lookup t = .ok (t', d)) :
    t'.raw = none ∧ t'.data = some d ∧ t'.typeName = t.typeName := by
  unfold read at h
  split at h
  · split at h
    · cases h
      simp
    · cases h
  · rename_i hraw
    split at h
    · rename_i hd
      cases h
      exact ⟨hraw, hd, rfl⟩
    · cases h

theorem read_load_of_decodeTop {lookup : Bytes → Option Nat} {name : String} {bs : Bytes} {d : Data}
    (h : decodeTop lookup name bs = .ok d) :
    read lookup (load name bs) = .ok ({ typeName := name, raw := none, data := some d }, d) := by
  simp [read, load, h]

theorem read_load_error {lookup : Bytes → Option Nat} {name : String} {bs : Bytes} {e : Err}
    (h : decodeTop lookup name bs = .error e) : read lookup (load name bs) = .error e := by
  simp [read, load, h]

/-- a lazy table whose type name changed and whose bytes do not decode under the name they
were loaded with: `save` returns the table unchanged and that error -/
theorem C14_save_read_error (lookup : Bytes → Option Nat) (nu : Nat → Bytes) (t : Table)
    (bs : Bytes) (tn : String) (e : Err)
    (hraw : t.raw = some (bs, tn)) (hne : t.typeName ≠ tn) (hr : read lookup t = .error e) :
    save lookup nu t = (t, .error e) := by
  unfold save
  simp [hraw, hne, hr]

/-- the state `save` leaves behind is the table itself or the table `read` leaves behind -/
theorem C14_save_state (lookup : Bytes → Option Nat) (nu : Nat → Bytes) (t : Table) :
    (save lookup nu t).1 = t ∨ ∃ d, read lookup t = .ok ((save lookup nu t).1, d) := by
  unfold save
  split
  · split
    · exact .inl rfl
    · split
      · rename_i t' d hrd
        right
        refine ⟨d, ?_⟩
        split <;> exact hrd
      · exact .inl rfl
  · split
    · split <;> exact .inl rfl
    · exact .inl rfl

/-- a failed read leaves `save` with nothing to drop: the state is unchanged -/
theorem C14_save_read_error_state (lookup : Bytes → Option Nat) (nu : Nat → Bytes) (t : Table)
    (hr : ∃ e', read lookup t = .error e') : (save lookup nu t).1 = t := by
  obtain ⟨e', hr⟩ := hr
  rcases C14_save_state lookup nu t with h | ⟨d, h⟩
  · exact h
  · rw [hr] at h
    cases h

theorem C14_assign_drops_raw (t : Table) (d : Data) :
    (assignData t d).raw = none ∧ (assignData t d).data = some d ∧
      (assignData t d).typeName = t.typeName := by
  simp [assignData]

theorem encodeTop_val {nu : Nat → Bytes} {name : String} {ty : Ty} {v : Val}
    (hty : tyOfName name = some ty) :
    encodeTop nu name (.val v) =
      (match encode nu ty v with | some bs => .ok bs | none => .error .encode) := by
  obtain ⟨tr, hp, htr⟩ := tyOfName_eq_some.1 hty
  simp only [encodeTop, hp, htr]
  cases encode nu ty v <;> rfl

theorem decodeTop_eq {lookup : Bytes → Option Nat} {name : String} {ty : Ty} {bs : Bytes}
    (hty : tyOfName name = some ty) :
    decodeTop lookup name bs =
      (match decode lookup ty bs with
       | .ok (v, _) => .ok (.val v)
       | .unknownCodec _ => .ok (.unknownData bs)
       | .short => .error (.decode "short")
       | .badUtf8 => .error (.decode "utf8")
       | .badIndex => .error (.decode "index")
       | .badArity => .error .unsupported) := by
  obtain ⟨tr, hp, htr⟩ := tyOfName_eq_some.1 hty
  simp only [decodeTop, hp, htr]
  rcases decode lookup ty bs with ⟨v, r⟩ | _ | _ | _ | _ | _ <;> rfl

theorem decodeTop_ok {lookup : Bytes → Option Nat} {name : String} {ty : Ty} {v : Val}
    {bs : Bytes} (rest : Bytes) (hty : tyOfName name = some ty) (hdec : decode lookup ty bs = .ok (v, rest)) :
    decodeTop lookup name bs = .ok (.val v) := by
  rw [decodeTop_eq hty, hdec]

/-- (2) once the value was read / replaced, save writes the encoding of the CURRENT value
under the CURRENT name -/
theorem C14_current (lookup : Bytes → Option Nat) (nu : Nat → Bytes) (t : Table) (v : Val)
    (ty : Ty) (bs : Bytes)
    (hraw : t.raw = none) (hd : t.data = some (.val v)) (hty : tyOfName t.typeName = some ty)
    (henc : encode nu ty v = some bs) : (save lookup nu t).2 = .ok (t.typeName, bs) := by
  unfold save
  simp [hraw, hd, encodeTop_val hty, henc]

/-- (2) the state is left as it is, and a value that does not fit the current type is an
encode error, never the old bytes -/
theorem C14_current_full (lookup : Bytes → Option Nat) (nu : Nat → Bytes) (t : Table) (d : Data)
    (hraw : t.raw = none) (hd : t.data = some d) :
    save lookup nu t =
      (t, match encodeTop nu t.typeName d with
          | .ok out => .ok (t.typeName, out)
          | .error e => .error e) := by
  unfold save
  simp only [hraw, hd]
  cases encodeTop nu t.typeName d <;> rfl

theorem save_val (lookup : Bytes → Option Nat) (nu : Nat → Bytes) {name : String} {ty : Ty}
    (v : Val) (hty : tyOfName name = some ty) :
    (save lookup nu { typeName := name, raw := none, data := some (.val v) }).2 =
      (match encode nu ty v with | some out => .ok (name, out) | none => .error .encode) := by
  rw [C14_current_full lookup nu _ (.val v) rfl rfl]
  simp only [encodeTop_val hty]
  cases encode nu ty v <;> rfl

/-- (2) after any successful read (of a lazy table or of an already decoded one) `save` writes
the encoding of the value that was handed out, under the current type name, and leaves the
state alone; the loaded bytes are not consulted -/
theorem C14_read_then_save (lookup : Bytes → Option Nat) (nu : Nat → Bytes) (t t' : Table)
    (d : Data) (h : read lookup t = .ok (t', d)) :
    save lookup nu t' =
      (t', match encodeTop nu t.typeName d with
           | .ok out => .ok (t.typeName, out)
           | .error e => .error e) := by
  obtain ⟨hraw, hd, hn⟩ := C14_read_drops_raw lookup t t' d h
  rw [C14_current_full lookup nu t' d hraw hd, hn]

/-- (2) `assignData` then `save`: the encoding of the new value, whatever was loaded -/
theorem C14_assign_save (lookup : Bytes → Option Nat) (nu : Nat → Bytes) (t : Table) (v : Val)
    (ty : Ty) (bs : Bytes) (hty : tyOfName t.typeName = some ty)
    (henc : encode nu ty v = some bs) :
    (save lookup nu (assignData t (.val v))).2 = .ok (t.typeName, bs) :=
  C14_current lookup nu (assignData t (.val v)) v ty bs rfl rfl hty henc

/-- a type-name change on a still-lazy table decodes under the OLD name and encodes under
the NEW one -/
theorem C14_retype (lookup : Bytes → Option Nat) (nu : Nat → Bytes) (name name' : String)
    (bs : Bytes) (d : Data) (hne : name' ≠ name)
    (hdec : decodeTop lookup name bs = .ok d) :
    (save lookup nu (assignType (load name bs) name')).2 =
      (match encodeTop nu name' d with | .ok out => .ok (name', out) | .error e => .error e) := by
  unfold save
  simp only [assignType, load, read, hdec, if_neg hne]
  cases encodeTop nu name' d <;> rfl

/-- read then save of a supported, well-typed, canonically encoded table gives the same
bytes back (the codec round trip, `decode_encode`) -/
theorem C14_read_save_canonical (lookup : Bytes → Option Nat) (nu : Nat → Bytes) (name : String)
    (ty : Ty) (v : Val) (bs : Bytes) (hty : tyOfName name = some ty)
    (hv : hasType lookup nu ty v = true) (henc : encode nu ty v = some bs) :
    ∃ t', read lookup (load name bs) = .ok (t', .val v) ∧
      (save lookup nu t').2 = .ok (name, bs) := by
  have hdec' : decode lookup ty bs = .ok (v, []) := by
    simpa using decode_encode hv henc []
  have htop := decodeTop_ok [] hty hdec'
  refine ⟨{ typeName := name, raw := none, data := some (.val v) }, ?_, ?_⟩
  · exact read_load_of_decodeTop htop
  · exact C14_current lookup nu { typeName := name, raw := none, data := some (.val v) } v ty bs
      rfl rfl hty henc

theorem decodeTop_unknown (lookup : Bytes → Option Nat) (name : String) (bs b : Bytes)
    (hdec : decodeTop lookup name bs = .ok (.unknownData b)) : b = bs := by
  unfold decodeTop at hdec
  split at hdec
  · cases hdec
  · split at hdec
    · cases hdec
    · split at hdec <;> cases hdec
      rfl

/-- (3, provable part) if decoding REACHES a head without codec the table becomes
`UnknownData` and its bytes are written verbatim, after a read, under any later type name -/
theorem C14_unknown_verbatim_partial (lookup : Bytes → Option Nat) (nu : Nat → Bytes)
    (name : String) (bs : Bytes) (d : Data) (hdec : decodeTop lookup name bs = .ok d)
    (hunk : ∃ b, d = .unknownData b) :
    d = .unknownData bs ∧
    ∀ t', read lookup (load name bs) = .ok (t', d) →
      (save lookup nu t').2 = .ok (name, bs) ∧
      ∀ name'', (save lookup nu (assignType t' name'')).2 = .ok (name'', bs) := by
  obtain ⟨b, rfl⟩ := hunk
  have hb := decodeTop_unknown lookup name bs b hdec
  subst hb
  refine ⟨rfl, ?_⟩
  intro t' hr
  rw [read_load_of_decodeTop hdec] at hr
  cases hr
  simp [save, assignType, encodeTop]

/-- (3) decoding reaches the unknown head exactly when the codec decoder says so -/
theorem C14_unknown_reached_iff (lookup : Bytes → Option Nat) (name : String) (ty : Ty)
    (bs : Bytes) (hty : tyOfName name = some ty) :
    (∃ b, decodeTop lookup name bs = .ok (.unknownData b)) ↔
      ∃ nm, decode lookup ty bs = .unknownCodec nm := by
  rw [decodeTop_eq hty]
  rcases decode lookup ty bs with ⟨v, r⟩ | _ | _ | _ | _ | _ <;> simp

section Counterexample
open Gtirb.TypeName

/-- a type that mentions the head `foo`, which has no codec, below a sequence -/
def cexName : String := "tuple<set<uint8_t>,sequence<foo>>"
def cexTy : Ty := .tuple [.set (.leaf .u8), .seq (.unknown "foo" [])]
/-- the set lists the element 5 twice; the sequence is empty, so decoding never reaches `foo` -/
def cexBytes : Bytes := u64 2 ++ [5, 5] ++ u64 0
def cexVal : Val := .tuple [.set [.int 5], .seq []]
def cexOut : Bytes := u64 1 ++ [5] ++ u64 0

theorem cex_ty : tyOfName cexName = some cexTy := tyOfName_eq (by decide +kernel)

theorem cex_decode : decode (fun _ => none) cexTy cexBytes = .ok (cexVal, []) := by rfl
theorem cex_encode : encode (fun _ => []) cexTy cexVal = some cexOut := by decide
theorem cex_ne : cexOut ≠ cexBytes := by decide

/-- (3, the false corner) a concrete table whose type mentions an unknown head that decoding
never reaches, with a non-canonical but decodable encoding: read + save rewrites the bytes -/
theorem C14_unknown_counterexample : ∃ name bs t' d out,
    read (fun _ => none) (load name bs) = .ok (t', d) ∧
    (save (fun _ => none) (fun _ => []) t').2 = .ok (name, out) ∧ out ≠ bs := by
  refine ⟨cexName, cexBytes, { typeName := cexName, raw := none, data := some (.val cexVal) },
    .val cexVal, cexOut, ?_, ?_, cex_ne⟩
  · exact read_load_of_decodeTop (decodeTop_ok _ cex_ty cex_decode)
  · exact C14_current _ _ _ cexVal cexTy cexOut rfl rfl cex_ty cex_encode

/-- the same corner spelled out: the type name does mention a head without codec, the bytes
are written back untouched as long as the data is not read, and are rewritten once it is -/
theorem C14_unknown_counterexample_explicit :
    tyOfName cexName = some (.tuple [.set (.leaf .u8), .seq (.unknown "foo" [])]) ∧
    cexBytes = [2, 0, 0, 0, 0, 0, 0, 0, 5, 5, 0, 0, 0, 0, 0, 0, 0, 0] ∧
    (save (fun _ => none) (fun _ => []) (load cexName cexBytes)).2 = .ok (cexName, cexBytes) ∧
    ∃ t', read (fun _ => none) (load cexName cexBytes) = .ok (t', .val (.tuple [.set [.int 5], .seq []])) ∧
      (save (fun _ => none) (fun _ => []) t').2 =
        .ok (cexName, [1, 0, 0, 0, 0, 0, 0, 0, 5, 0, 0, 0, 0, 0, 0, 0, 0]) := by
  refine ⟨cex_ty, by decide, by rw [C14_untouched],
    { typeName := cexName, raw := none, data := some (.val cexVal) }, ?_, ?_⟩
  · exact read_load_of_decodeTop (decodeTop_ok _ cex_ty cex_decode)
  · exact C14_current _ _ _ cexVal cexTy _ rfl rfl cex_ty cex_encode

end Counterexample

section Examples
open Gtirb.TypeName

def exName : String := "mapping<uint8_t,sequence<int16_t>>"
def exTy : Ty := .map (.leaf .u8) (.seq (.leaf .i16))
/-- `{7: [-2, 1]}` -/
def exBytes : Bytes := u64 1 ++ [7] ++ u64 2 ++ [0xfe, 0xff, 0x01, 0x00]
def exVal : Val := .map [.int 7] [.seq [.int (-2), .int 1]]
/-- `{7: [], 9: [3]}` -/
def exVal' : Val := .map [.int 7, .int 9] [.seq [], .seq [.int 3]]
def exBytes' : Bytes := u64 2 ++ [7] ++ u64 0 ++ [9] ++ u64 1 ++ [3, 0]

theorem ex_ty : tyOfName exName = some exTy := tyOfName_eq (by decide +kernel)

/-- the table is read ... -/
example : read (fun _ => none) (load exName exBytes) =
    .ok ({ typeName := exName, raw := none, data := some (.val exVal) }, .val exVal) := by
  exact read_load_of_decodeTop (decodeTop_ok [] ex_ty (by rfl))

/-- ... saved after the read: the same bytes, because they were canonical (`C14_read_save_canonical`
applies: the value has the type and the bytes are its encoding) ... -/
example : ∃ t', read (fun _ => none) (load exName exBytes) = .ok (t', .val exVal) ∧
    (save (fun _ => none) (fun _ => []) t').2 = .ok (exName, exBytes) :=
  C14_read_save_canonical _ _ exName exTy exVal exBytes ex_ty (by decide) (by decide)

/-- ... given another value and saved: the encoding of the new value -/
example : (save (fun _ => none) (fun _ => [])
    (assignData { typeName := exName, raw := none, data := some (.val exVal) } (.val exVal'))).2 =
    .ok (exName, [2, 0, 0, 0, 0, 0, 0, 0, 7, 0, 0, 0, 0, 0, 0, 0, 0, 9, 1, 0, 0, 0, 0, 0, 0, 0, 3, 0]) :=
  C14_assign_save _ _ _ exVal' exTy _ ex_ty (by decide)

/-- the same on the still-lazy table: assigning drops the loaded bytes without decoding them -/
example : (save (fun _ => none) (fun _ => []) (assignData (load exName exBytes) (.val exVal'))).2 =
    .ok (exName, exBytes') :=
  C14_assign_save _ _ (load exName exBytes) exVal' exTy _ ex_ty (by decide)

/-- a value that does not fit the current type is an encode error, not the old bytes -/
example : (save (fun _ => none) (fun _ => [])
    (assignData (load exName exBytes) (.val (.map [.int 256] [.seq []])))).2 = .error .encode := by
  have he : encode (fun _ => []) exTy (.map [.int 256] [.seq []]) = none := by decide
  exact (save_val _ _ _ ex_ty).trans (by rw [he])

/-- untouched tables with a malformed name, and with a name without codec, across 3 generations -/
example : generations (fun _ => none) (fun _ => []) 3 "mapping<<" [1, 2, 3] =
    some ("mapping<<", [1, 2, 3]) := C14_untouched_generations _ _ _ _ _
example : save (fun _ => none) (fun _ => []) (load "sequence<foo<bar>>" [9, 9]) =
    (load "sequence<foo<bar>>" [9, 9], .ok ("sequence<foo<bar>>", [9, 9])) := C14_untouched _ _ _ _

/-- `sequence<foo>` with one element: decoding reaches `foo`, the hypothesis of
`C14_unknown_verbatim_partial` is met -/
example : decodeTop (fun _ => none) "sequence<foo>" (u64 1 ++ [1, 2, 3]) =
    .ok (.unknownData (u64 1 ++ [1, 2, 3])) := by
  have ht : tyOfName "sequence<foo>" = some (.seq (.unknown "foo" [])) :=
    tyOfName_eq (by decide +kernel)
  have hd : decode (fun _ => none) (.seq (.unknown "foo" [])) (u64 1 ++ [1, 2, 3]) = .unknownCodec "foo" := by
    rfl
  simp only [decodeTop_eq ht, hd]

/-- a retyped lazy table: `uint8_t` bytes re-encoded as `uint16_t` -/
example : (save (fun _ => none) (fun _ => []) (assignType (load "uint8_t" [7]) "uint16_t")).2 =
    .ok ("uint16_t", [7, 0]) := by
  have ht8 : tyOfName "uint8_t" = some (.leaf .u8) := tyOfName_eq (by decide +kernel)
  have ht16 : tyOfName "uint16_t" = some (.leaf .u16) := tyOfName_eq (by decide +kernel)
  have hd : decodeTop (fun _ => none) "uint8_t" [7] = .ok (.val (.int 7)) :=
    decodeTop_ok [] ht8 (by rfl)
  rw [C14_retype _ _ "uint8_t" "uint16_t" [7] _ (by decide) hd]
  have he : encode (fun _ => []) (.leaf .u16) (.int 7) = some [7, 0] := by decide
  simp only [encodeTop_val ht16, he]

end Examples

end Gtirb.AuxTable
