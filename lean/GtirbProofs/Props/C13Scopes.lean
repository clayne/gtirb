import GtirbModel.SymScopes
import GtirbProofs.Props.C13
import GtirbProofs.Props.C05Scopes
/-! C13, last sentence: "On a section, module or IR, `symbolic_expressions_at`
returns exactly the union over the contained intervals, except that expressions
stored beyond their interval's declared extent may be omitted."

Model: `GtirbModel/SymScopes.lean` (`secSymAt`, `scopeSymAt`, `irSymAt`).

The sentence is read three ways: an exact characterisation by the fresh scans of
C06 and C13 (`C13_section_at`, `C13_scope_at`: the intervals 'on' the query,
`scanBisOn`, and their stored pairs whose address is in it, `scanAtAddr`); a
sandwich between a may side (`_sound`) and a must side (`_inside`); and, in the
property's words, the union of the interval-level answers when no expression is
stored beyond its interval's declared extent (`_union`). The lookup is a lookup
in the sense of C12 (`_keeps`, `_of_strip`). -/
namespace Gtirb.SymExpr
open Gtirb.Index

theorem secSymAt_fst (d : D) (st : Nat → Store) (s : Nat) (r : Rng) :
    (secSymAt d st s r).1 = (secBisOn d s r).1 := rfl

theorem secSymAt_snd (d : D) (st : Nat → Store) (s : Nat) (r : Rng) :
    (secSymAt d st s r).2 =
      (secBisOn d s r).2.flatMap fun x => biSymAt (secBisOn d s r).1 st x r := rfl

theorem mem_biSymAt (d : D) (st : Nat → Store) (x : Nat) (r : Rng) (x' k v : Nat) :
    (x', k, v) ∈ biSymAt d st x r ↔
      x' = x ∧ (k, v) ∈ scanAtAddr (st x) ((d.bi? x).bind (·.addr)) r := by
  unfold biSymAt
  rw [C13_at]
  simp only [List.mem_map, Prod.mk.injEq]
  constructor
  · rintro ⟨kv, hkv, rfl, rfl, rfl⟩; exact ⟨rfl, hkv⟩
  · rintro ⟨rfl, hkv⟩; exact ⟨(k, v), hkv, rfl, rfl, rfl⟩

theorem biSymAt_of_strip {d d' : D} (h : strip d = strip d') (st : Nat → Store) (x : Nat) (r : Rng) :
    biSymAt d st x r = biSymAt d' st x r := by
  unfold biSymAt; rw [bind_addr_of_strip h]

theorem nodup_biSymAt (d : D) (st : Nat → Store) (x : Nat) (r : Rng) (hst : Sorted (st x)) :
    (biSymAt d st x r).Nodup :=
  List.nodup_map_of_inj_on
    (fun _ _ _ _ e => Prod.ext (Prod.mk.inj (Prod.mk.inj e).2).1 (Prod.mk.inj (Prod.mk.inj e).2).2)
    (C13_at_nodup (st x) ((d.bi? x).bind (·.addr)) r hst)

theorem scopeSymAt_eq (d : D) (st : Nat → Store) (ss : List Nat) (r : Rng) :
    scopeSymAt d st ss r = chainP (fun d s => secSymAt d st s r) d ss := rfl

theorem scopeSymAt_nil (d : D) (st : Nat → Store) (r : Rng) : scopeSymAt d st [] r = (d, []) := rfl

/-- IR scope (chain over modules of the chains over their sections) is the flat
chain over all sections of all modules: same final state, same answer list.
Every `scopeSymAt` theorem below is therefore also a theorem about `IR`. -/
theorem C13_ir_flatten (d : D) (st : Nat → Store) (mods : List (List Nat)) (r : Rng) :
    irSymAt d st mods r = scopeSymAt d st mods.flatten r :=
  chainP_flatten (fun d s => secSymAt d st s r) d mods

/-- the lookup changes lazy-index bookkeeping only: invariant and structure are
kept. With `C13_section_at_of_strip` this makes it a lookup in the sense of
C12. -/
theorem C13_section_at_keeps (d : D) (st : Nat → Store) (s : Nat) (r : Rng) (h : DInv d) :
    DInv (secSymAt d st s r).1 ∧ strip (secSymAt d st s r).1 = strip d :=
  getSec_keeps h s

/-- exact characterisation without hypotheses on `s`: an id that names no
section yields nothing -/
theorem C13_section_at_any (d : D) (st : Nat → Store) (s : Nat) (r : Rng) (h : DInv d) (x k v : Nat) :
    (x, k, v) ∈ (secSymAt d st s r).2 ↔
      (d.sec? s).isSome ∧ x ∈ scanBisOn d s r ∧
        (k, v) ∈ scanAtAddr (st x) ((d.bi? x).bind (·.addr)) r := by
  rw [secSymAt_snd, List.mem_flatMap]
  simp only [mem_biSymAt, bind_addr_of_strip (d := (secBisOn d s r).1) (getSec_keeps h s).2, mem_secBisOn h]
  constructor
  · rintro ⟨x', ⟨hs, hx⟩, rfl, hkv⟩; exact ⟨hs, hx, hkv⟩
  · rintro ⟨hs, hx, hkv⟩; exact ⟨x, ⟨hs, hx⟩, rfl, hkv⟩

/-- section scope, exact characterisation. `hs`: the section exists (as in
`C05_section_on` / `C06_bis_on`: the intended statement without `hs` is false of
the model for an id not in `d.secs` that intervals still name). -/
theorem C13_section_at (d : D) (st : Nat → Store) (s : Nat) (r : Rng) (h : DInv d)
    (hs : (d.sec? s).isSome) (x k v : Nat) :
    (x, k, v) ∈ (secSymAt d st s r).2 ↔
      x ∈ scanBisOn d s r ∧ (k, v) ∈ scanAtAddr (st x) ((d.bi? x).bind (·.addr)) r := by
  rw [C13_section_at_any d st s r h, hs]; simp

theorem bind_addr_of_mem {d : D} (h : DInv d) {y : BI} (hy : y ∈ d.bis) :
    (d.bi? y.id).bind (·.addr) = y.addr := by
  rw [bi?_of_mem h hy]
  rfl

/-- may side: everything returned is an expression of an interval of the
section, stored in that interval, whose address (interval address + offset) is
a member of the query -/
theorem C13_section_at_sound (d : D) (st : Nat → Store) (s : Nat) (r : Rng) (h : DInv d)
    (x k v : Nat) (hm : (x, k, v) ∈ (secSymAt d st s r).2) :
    ∃ y ∈ d.bisOf s, y.id = x ∧ (k, v) ∈ scanAtAddr (st x) y.addr r := by
  rcases (C13_section_at_any d st s r h x k v).1 hm with ⟨_, hx, hkv⟩
  rcases mem_scanBisOn.1 hx with ⟨y, hy, hys, rfl, _⟩
  rw [bind_addr_of_mem h hy] at hkv
  exact ⟨y, mem_bisOf.2 ⟨hy, hys⟩, rfl, hkv⟩

/-- the same, spelled out: the pair is stored, the interval has an address `a`,
and `a + k` is a member of the query -/
theorem C13_section_at_sound' (d : D) (st : Nat → Store) (s : Nat) (r : Rng) (h : DInv d)
    (x k v : Nat) (hm : (x, k, v) ∈ (secSymAt d st s r).2) :
    ∃ y ∈ d.bisOf s, y.id = x ∧ (k, v) ∈ st x ∧ ∃ a, y.addr = some a ∧ r.mem ((a : Int) + k) = true := by
  rcases C13_section_at_sound d st s r h x k v hm with ⟨y, hy, rfl, hkv⟩
  exact ⟨y, hy, rfl, mem_scanAtAddr.1 hkv⟩

/-- must side: an expression stored at an offset inside the declared extent
(`k < y.size`) of an interval of the section, whose address is a member of the
query, IS returned -/
theorem C13_section_at_inside (d : D) (st : Nat → Store) (s : Nat) (r : Rng) (h : DInv d)
    (hs : (d.sec? s).isSome) (y : BI) (hy : y ∈ d.bisOf s) (k v : Nat) (hk : k < y.size)
    (hkv : (k, v) ∈ scanAtAddr (st y.id) y.addr r) :
    (y.id, k, v) ∈ (secSymAt d st s r).2 := by
  refine (C13_section_at d st s r h hs y.id k v).2
    ⟨?_, by rw [bind_addr_of_mem h (mem_bisOf.1 hy).1]; exact hkv⟩
  obtain ⟨_, a, ha, hm⟩ := mem_scanAtAddr.1 hkv
  have hb := Rng.mem_bounds hm
  exact (mem_scanBisOn_of_bisOf h hy r).2 ⟨a, ha, by omega⟩

/-- each expression once. `hst`: every store is sorted by key with unique keys,
the invariant of every history of mapping operations (`C13_history`). -/
theorem C13_section_at_nodup (d : D) (st : Nat → Store) (s : Nat) (r : Rng) (h : DInv d)
    (hst : ∀ x, Sorted (st x)) : (secSymAt d st s r).2.Nodup := by
  rw [secSymAt_snd]
  refine List.nodup_flatMap_of (nodup_secBisOn h s r) (fun x _ => nodup_biSymAt _ st x r (hst x)) ?_
  rintro x x' ⟨x0, k, v⟩ _ _ ha hb
  exact ((mem_biSymAt _ st x r x0 k v).1 ha).1.symm.trans ((mem_biSymAt _ st x' r x0 k v).1 hb).1

/-- the answer is a function of the structure (not of the lazy-index
bookkeeping) and of the stores -/
theorem C13_section_at_of_strip (d d' : D) (st : Nat → Store) (s : Nat) (r : Rng) (h : DInv d)
    (h' : DInv d') (hs : strip d = strip d') (it : Item) :
    it ∈ (secSymAt d st s r).2 ↔ it ∈ (secSymAt d' st s r).2 := by
  obtain ⟨x, k, v⟩ := it
  rw [C13_section_at_any d st s r h, C13_section_at_any d' st s r h', sec?_of_strip hs,
    scanBisOn_of_strip hs, bind_addr_of_strip hs]

/-- deferred index maintenance is unobservable, direction 1: no later lookup of
C12's schedule can tell whether a section-level symbolic-expression lookup
happened -/
theorem C13_section_at_unobservable (d : D) (st : Nat → Store) (s : Nat) (r : Rng) (q : Query)
    (h : DInv d) : sameAnswer (runQuery (secSymAt d st s r).1 q).2 (runQuery d q).2 :=
  C12_answer_of_strip _ _ q (C13_section_at_keeps d st s r h).1 h (C13_section_at_keeps d st s r h).2

/-- direction 2: after ANY interleaving of edits and lookups the section-level
answer is the one a schedule with the same edits and no lookup at all gives -/
theorem C13_section_at_after_lookups (d0 : D) (h0 : DInv d0) (a1 a2 : List Act)
    (he : editsOf a1 = editsOf a2) (st : Nat → Store) (s : Nat) (r : Rng) (it : Item) :
    it ∈ (secSymAt (exec d0 a1) st s r).2 ↔ it ∈ (secSymAt (exec d0 a2) st s r).2 :=
  C13_section_at_of_strip _ _ st s r (C12_exec_inv d0 h0 a1) (C12_exec_inv d0 h0 a2)
    ((C12_exec_strip d0 h0 a1).trans (by rw [he]; exact (C12_exec_strip d0 h0 a2).symm)) it

theorem C13_scope_at_keeps (d : D) (st : Nat → Store) (ss : List Nat) (r : Rng) (h : DInv d) :
    DInv (scopeSymAt d st ss r).1 ∧ strip (scopeSymAt d st ss r).1 = strip d := by
  rw [scopeSymAt_eq]
  exact chainP_keeps (fun d s => C13_section_at_keeps d st s r) d ss h

/-- the answer of the chain is the union of the answers each section gives on
the original state: earlier section lookups do not influence later ones -/
theorem C13_scope_at_sections (d : D) (st : Nat → Store) (ss : List Nat) (r : Rng) (h : DInv d)
    (it : Item) : it ∈ (scopeSymAt d st ss r).2 ↔ ∃ s ∈ ss, it ∈ (secSymAt d st s r).2 := by
  rw [scopeSymAt_eq]
  exact chainP_lookup_mem (fun d s => C13_section_at_keeps d st s r)
    (fun d d' s h h' hs => C13_section_at_of_strip d d' st s r h h' hs) d ss h it

theorem C13_scope_at_any (d : D) (st : Nat → Store) (ss : List Nat) (r : Rng) (h : DInv d)
    (x k v : Nat) :
    (x, k, v) ∈ (scopeSymAt d st ss r).2 ↔
      ∃ s ∈ ss, (d.sec? s).isSome ∧ x ∈ scanBisOn d s r ∧
        (k, v) ∈ scanAtAddr (st x) ((d.bi? x).bind (·.addr)) r := by
  rw [C13_scope_at_sections d st ss r h]
  simp only [C13_section_at_any d st _ r h x k v]

/-- module / IR scope, exact characterisation. `hss`: the scope lists existing
sections (`Module.sections` holds section objects). -/
theorem C13_scope_at (d : D) (st : Nat → Store) (ss : List Nat) (r : Rng) (h : DInv d)
    (hss : ∀ s ∈ ss, (d.sec? s).isSome) (x k v : Nat) :
    (x, k, v) ∈ (scopeSymAt d st ss r).2 ↔
      ∃ s ∈ ss, x ∈ scanBisOn d s r ∧ (k, v) ∈ scanAtAddr (st x) ((d.bi? x).bind (·.addr)) r := by
  rw [C13_scope_at_any d st ss r h, exists_mem_drop hss]

/-- may side -/
theorem C13_scope_at_sound (d : D) (st : Nat → Store) (ss : List Nat) (r : Rng) (h : DInv d)
    (x k v : Nat) (hm : (x, k, v) ∈ (scopeSymAt d st ss r).2) :
    ∃ s ∈ ss, (d.sec? s).isSome ∧ ∃ y ∈ d.bisOf s, y.id = x ∧ (k, v) ∈ scanAtAddr (st x) y.addr r := by
  rcases (C13_scope_at_sections d st ss r h _).1 hm with ⟨s, hs, hm'⟩
  exact ⟨s, hs, ((C13_section_at_any d st s r h x k v).1 hm').1,
    C13_section_at_sound d st s r h x k v hm'⟩

/-- must side -/
theorem C13_scope_at_inside (d : D) (st : Nat → Store) (ss : List Nat) (r : Rng) (h : DInv d)
    (s : Nat) (hs : s ∈ ss) (hsome : (d.sec? s).isSome) (y : BI) (hy : y ∈ d.bisOf s)
    (k v : Nat) (hk : k < y.size) (hkv : (k, v) ∈ scanAtAddr (st y.id) y.addr r) :
    (y.id, k, v) ∈ (scopeSymAt d st ss r).2 :=
  (C13_scope_at_sections d st ss r h _).2
    ⟨s, hs, C13_section_at_inside d st s r h hsome y hy k v hk hkv⟩

/-- each expression once, when the sections of the scope are pairwise distinct
(`Module.sections` is a set; an interval belongs to one section) -/
theorem C13_scope_at_nodup (d : D) (st : Nat → Store) (ss : List Nat) (r : Rng) (h : DInv d)
    (hst : ∀ x, Sorted (st x)) (hnd : ss.Nodup) : (scopeSymAt d st ss r).2.Nodup := by
  rw [scopeSymAt_eq]
  refine chainP_lookup_nodup (fun d s => C13_section_at_keeps d st s r)
    (fun d d' s h h' hs => C13_section_at_of_strip d d' st s r h h' hs)
    (fun d s hd => C13_section_at_nodup d st s r hd hst) d ss h ?_ hnd
  rintro s s' ⟨x, k, v⟩ hne ha hb
  exact bisOf_ids_disjoint h hne ((C13_section_at_any d st s r h x k v).1 ha).2.1
    ((C13_section_at_any d st s' r h x k v).1 hb).2.1

theorem C13_scope_at_of_strip (d d' : D) (st : Nat → Store) (ss : List Nat) (r : Rng) (h : DInv d)
    (h' : DInv d') (hs : strip d = strip d') (it : Item) :
    it ∈ (scopeSymAt d st ss r).2 ↔ it ∈ (scopeSymAt d' st ss r).2 := by
  rw [C13_scope_at_sections d st ss r h, C13_scope_at_sections d' st ss r h']
  simp only [C13_section_at_of_strip d d' st _ r h h' hs it]

theorem C13_scope_at_unobservable (d : D) (st : Nat → Store) (ss : List Nat) (r : Rng) (q : Query)
    (h : DInv d) : sameAnswer (runQuery (scopeSymAt d st ss r).1 q).2 (runQuery d q).2 :=
  C12_answer_of_strip _ _ q (C13_scope_at_keeps d st ss r h).1 h (C13_scope_at_keeps d st ss r h).2

theorem C13_scope_at_after_lookups (d0 : D) (h0 : DInv d0) (a1 a2 : List Act)
    (he : editsOf a1 = editsOf a2) (st : Nat → Store) (ss : List Nat) (r : Rng) (it : Item) :
    it ∈ (scopeSymAt (exec d0 a1) st ss r).2 ↔ it ∈ (scopeSymAt (exec d0 a2) st ss r).2 :=
  C13_scope_at_of_strip _ _ st ss r (C12_exec_inv d0 h0 a1) (C12_exec_inv d0 h0 a2)
    ((C12_exec_strip d0 h0 a1).trans (by rw [he]; exact (C12_exec_strip d0 h0 a2).symm)) it

/-- "no expression of a contained interval is stored beyond its declared extent" -/
def WithinExtent (d : D) (st : Nat → Store) (s : Nat) : Prop :=
  ∀ y ∈ d.bisOf s, ∀ kv ∈ st y.id, kv.1 < y.size

/-- Section scope: when no expression is stored beyond the declared extent, the
answer is exactly the union, over the intervals of the section, of what the
interval's own `symbolic_expressions_at` (`atAddr`, C13_at) answers. -/
theorem C13_section_at_union (d : D) (st : Nat → Store) (s : Nat) (r : Rng) (h : DInv d)
    (hs : (d.sec? s).isSome) (hext : WithinExtent d st s) (x k v : Nat) :
    (x, k, v) ∈ (secSymAt d st s r).2 ↔
      ∃ y ∈ d.bisOf s, y.id = x ∧ (k, v) ∈ atAddr (st y.id) y.addr r := by
  constructor
  · intro hm
    rcases C13_section_at_sound d st s r h x k v hm with ⟨y, hy, rfl, hkv⟩
    exact ⟨y, hy, rfl, by rw [C13_at]; exact hkv⟩
  · rintro ⟨y, hy, rfl, hkv⟩
    rw [C13_at] at hkv
    exact C13_section_at_inside d st s r h hs y hy k v (hext y hy (k, v) (mem_scanAtAddr.1 hkv).1) hkv

/-- Module / IR scope: the same over all intervals of all sections of the
scope; with `C13_scope_at_nodup` each expression exactly once. -/
theorem C13_scope_at_union (d : D) (st : Nat → Store) (ss : List Nat) (r : Rng) (h : DInv d)
    (hss : ∀ s ∈ ss, (d.sec? s).isSome) (hext : ∀ s ∈ ss, WithinExtent d st s) (x k v : Nat) :
    (x, k, v) ∈ (scopeSymAt d st ss r).2 ↔
      ∃ s ∈ ss, ∃ y ∈ d.bisOf s, y.id = x ∧ (k, v) ∈ atAddr (st y.id) y.addr r := by
  rw [C13_scope_at_sections d st ss r h]
  exact exists_mem_congr fun s hs => C13_section_at_union d st s r h (hss s hs) (hext s hs) x k v

/-- both clauses together, as the property states them -/
theorem C13_scope_at_exact (d : D) (st : Nat → Store) (ss : List Nat) (r : Rng) (h : DInv d)
    (hss : ∀ s ∈ ss, (d.sec? s).isSome) (hnd : ss.Nodup) (hst : ∀ x, Sorted (st x))
    (hext : ∀ s ∈ ss, WithinExtent d st s) :
    (∀ x k v, (x, k, v) ∈ (scopeSymAt d st ss r).2 ↔
      ∃ s ∈ ss, ∃ y ∈ d.bisOf s, y.id = x ∧ (k, v) ∈ atAddr (st y.id) y.addr r) ∧
    (scopeSymAt d st ss r).2.Nodup :=
  ⟨C13_scope_at_union d st ss r h hss hext, C13_scope_at_nodup d st ss r h hst hnd⟩

/-- without the extent hypothesis the answer is still squeezed between the
expressions inside the declared extents and all expressions of the member
intervals (the "may be omitted" reading) -/
theorem C13_scope_at_sandwich (d : D) (st : Nat → Store) (ss : List Nat) (r : Rng) (h : DInv d)
    (hss : ∀ s ∈ ss, (d.sec? s).isSome) (x k v : Nat) :
    ((∃ s ∈ ss, ∃ y ∈ d.bisOf s, y.id = x ∧ k < y.size ∧ (k, v) ∈ atAddr (st y.id) y.addr r) →
      (x, k, v) ∈ (scopeSymAt d st ss r).2) ∧
    ((x, k, v) ∈ (scopeSymAt d st ss r).2 →
      ∃ s ∈ ss, ∃ y ∈ d.bisOf s, y.id = x ∧ (k, v) ∈ atAddr (st y.id) y.addr r) := by
  constructor
  · rintro ⟨s, hs, y, hy, rfl, hk, hkv⟩
    rw [C13_at] at hkv
    exact C13_scope_at_inside d st ss r h s hs (hss s hs) y hy k v hk hkv
  · intro hm
    rcases C13_scope_at_sound d st ss r h x k v hm with ⟨s, hs, _, y, hy, rfl, hkv⟩
    exact ⟨s, hs, y, hy, rfl, by rw [C13_at]; exact hkv⟩

/-- intervals 10 (address 100, size 4) and 13 (address 300, size 8) in section
20; 11 (address 200, later 204, size 16) and the address-less 12 in section 21.
Section 20's index is built by a lookup, section 21's is not; an edit is pending
at section 21. -/
def exY0 : D :=
  { bis := [{ id := 10, addr := some 100, size := 4, sec := none },
            { id := 11, addr := some 200, size := 16, sec := none },
            { id := 12, addr := none, size := 16, sec := none },
            { id := 13, addr := some 300, size := 8, sec := none }],
    secs := [{ id := 20 }, { id := 21 }] }

def exYActs : List Act :=
  [.edit (.biMove 10 (some 20) true), .edit (.biMove 11 (some 21) true),
   .edit (.biMove 12 (some 21) true), .edit (.biMove 13 (some 20) true),
   .look (.sbison 20 ⟨0, 1000, 1⟩), .edit (.biSet 11 (some 204) 16), .edit (.biSet 13 (some 304) 8)]

def exY : D := exec exY0 exYActs

/-- interval 10 stores an expression at offset 10, beyond its size 4; interval
11 one at offset 20 beyond its size 16; interval 12 has no address -/
def exSt : Nat → Store := fun x =>
  if x = 10 then [(0, 1), (2, 2), (10, 3)]
  else if x = 11 then [(4, 4), (20, 5)]
  else if x = 12 then [(0, 6)]
  else if x = 13 then [(7, 7)]
  else []

/-- the same stores without the two expressions beyond the extent -/
def exStIn : Nat → Store := fun x =>
  if x = 10 then [(0, 1), (2, 2)]
  else if x = 11 then [(4, 4)]
  else if x = 12 then [(0, 6)]
  else if x = 13 then [(7, 7)]
  else []

theorem exY0_inv : DInv exY0 :=
  dinv_of_unbuilt (by decide) (by decide) (by decide) (by decide) (by decide)

theorem exY_inv : DInv exY := C12_exec_inv exY0 exY0_inv exYActs

/-- `exY`, evaluated: section 20 has a built index and the two events of `biSet 13`, section 21 none -/
theorem exY_val : exY =
    { bis := [{ id := 10, addr := some 100, size := 4, sec := some 20 },
              { id := 11, addr := some 204, size := 16, sec := some 21 },
              { id := 12, addr := none, size := 16, sec := some 21 },
              { id := 13, addr := some 304, size := 8, sec := some 20 }],
      secs := [{ id := 20, lz := { tree := some [⟨100, 105, 10⟩, ⟨300, 309, 13⟩], events :=
                   [(false, ⟨300, 309, 13⟩), (true, ⟨304, 313, 13⟩)] } },
               { id := 21, lz := { events := [(true, ⟨200, 217, 11⟩), (false, ⟨200, 217, 11⟩),
                   (true, ⟨204, 221, 11⟩)] } }] } := rfl

theorem exSt_sorted : ∀ x, Sorted (exSt x) := by
  intro x
  simp only [exSt]
  by_cases h1 : x = 10
  · rw [if_pos h1]; exact ⟨by decide, by decide, trivial⟩
  by_cases h2 : x = 11
  · rw [if_neg h1, if_pos h2]; exact ⟨by decide, trivial⟩
  by_cases h3 : x = 12
  · rw [if_neg h1, if_neg h2, if_pos h3]; exact trivial
  by_cases h4 : x = 13
  · rw [if_neg h1, if_neg h2, if_neg h3, if_pos h4]; exact trivial
  · rw [if_neg h1, if_neg h2, if_neg h3, if_neg h4]; exact trivial

/-- section 20 has a built index and two pending events, section 21 none at all -/
example : (exY.sec? 20).map (fun s => (s.lz.tree.isSome, s.lz.events.length)) = some (true, 2) ∧
    (exY.sec? 21).map (fun s => (s.lz.tree.isSome, s.lz.events.length)) = some (false, 3) := by rw [exY_val]; decide

/-- The "may be omitted" clause. Address 110 = interval 10's address + offset
10, beyond its declared extent [100, 104): the interval's own lookup returns the
expression, the section, module and IR lookups omit it. When the query also
touches the declared extent, the same expression IS returned: omission is
permitted, not required. -/
theorem C13_section_at_omits_example :
    biSymAt exY exSt 10 ⟨110, 111, 1⟩ = [(10, 10, 3)] ∧
    (secSymAt exY exSt 20 ⟨110, 111, 1⟩).2 = [] ∧
    (scopeSymAt exY exSt [20, 21] ⟨110, 111, 1⟩).2 = [] ∧
    (irSymAt exY exSt [[20], [21]] ⟨110, 111, 1⟩).2 = [] ∧
    (secSymAt exY exSt 20 ⟨103, 111, 1⟩).2 = [(10, 10, 3)] := by rw [exY_val]; decide

/-- whole-range queries: intervals in index order, offsets increasing, the
address-less interval 12 contributes nothing, interval 11 and 13 at their NEW
addresses (step 2 from 0: even addresses only) -/
example : (scopeSymAt exY exSt [20, 21] ⟨0, 1000, 1⟩).2 =
      [(10, 0, 1), (10, 2, 2), (10, 10, 3), (13, 7, 7), (11, 4, 4), (11, 20, 5)] ∧
    (scopeSymAt exY exSt [21, 20] ⟨0, 1000, 2⟩).2 =
      [(11, 4, 4), (11, 20, 5), (10, 0, 1), (10, 2, 2), (10, 10, 3)] ∧
    (secSymAt exY exSt 20 ⟨311, 312, 1⟩).2 = [(13, 7, 7)] ∧
    (secSymAt exY exSt 20 ⟨307, 308, 1⟩).2 = [] := by rw [exY_val]; decide

example (x k v : Nat) : (x, k, v) ∈ (secSymAt exY exSt 20 ⟨0, 1000, 1⟩).2 ↔
    x ∈ scanBisOn exY 20 ⟨0, 1000, 1⟩ ∧
      (k, v) ∈ scanAtAddr (exSt x) ((exY.bi? x).bind (·.addr)) ⟨0, 1000, 1⟩ :=
  C13_section_at exY exSt 20 ⟨0, 1000, 1⟩ exY_inv (by rw [exY_val]; decide) x k v

example : (secSymAt exY exSt 20 ⟨0, 1000, 1⟩).2.Nodup :=
  C13_section_at_nodup exY exSt 20 ⟨0, 1000, 1⟩ exY_inv exSt_sorted

example : (scopeSymAt exY exSt [20, 21] ⟨0, 1000, 1⟩).2.Nodup :=
  C13_scope_at_nodup exY exSt [20, 21] ⟨0, 1000, 1⟩ exY_inv exSt_sorted (by decide)

/-- `_nodup` needs pairwise distinct sections -/
example : (scopeSymAt exY exSt [20, 20] ⟨311, 312, 1⟩).2 = [(13, 7, 7), (13, 7, 7)] := by rw [exY_val]; decide

/-- must side, concretely: offset 2 < size 4 of interval 10 -/
example : (10, 2, 2) ∈ (scopeSymAt exY exSt [20, 21] ⟨102, 103, 1⟩).2 := by rw [exY_val]; decide

/-- the lookup refreshes the section indexes (both trees built, nothing
pending) and changes nothing else -/
example : ((scopeSymAt exY exSt [20, 21] ⟨0, 1, 1⟩).1.secs.map
      fun s => (s.lz.tree.isSome, s.lz.events.length)) = [(true, 0), (true, 0)] ∧
    (scopeSymAt exY exSt [20, 21] ⟨0, 1, 1⟩).1.bis.map projBI = exY.bis.map projBI := by rw [exY_val]; decide

example : sameAnswer (runQuery (scopeSymAt exY exSt [20, 21] ⟨0, 1000, 1⟩).1 (.sbisat 21 ⟨200, 210, 1⟩)).2
    (runQuery exY (.sbisat 21 ⟨200, 210, 1⟩)).2 :=
  C13_scope_at_unobservable exY exSt [20, 21] ⟨0, 1000, 1⟩ (.sbisat 21 ⟨200, 210, 1⟩) exY_inv

theorem exStIn_within : ∀ s ∈ [20, 21], WithinExtent exY exStIn s := by
  unfold WithinExtent; rw [exY_val]; decide

/-- with every expression inside its extent the scope answer is the union of
the interval answers -/
example (x k v : Nat) : (x, k, v) ∈ (scopeSymAt exY exStIn [20, 21] ⟨0, 1000, 1⟩).2 ↔
    ∃ s ∈ [20, 21], ∃ y ∈ exY.bisOf s, y.id = x ∧ (k, v) ∈ atAddr (exStIn y.id) y.addr ⟨0, 1000, 1⟩ :=
  C13_scope_at_union exY exStIn [20, 21] ⟨0, 1000, 1⟩ exY_inv (by rw [exY_val]; decide) exStIn_within x k v

/-- ... and that hypothesis is needed: with `exSt` the union contains
`(10, 10, 3)` at address 110, the scope answer does not -/
example : (10, 10, 3) ∉ (scopeSymAt exY exSt [20, 21] ⟨110, 111, 1⟩).2 ∧
    (∃ s ∈ [20, 21], ∃ y ∈ exY.bisOf s, y.id = 10 ∧ (10, 3) ∈ atAddr (exSt y.id) y.addr ⟨110, 111, 1⟩) := by
  rw [exY_val]; decide

/-- IR scope is the flat chain -/
example : irSymAt exY exSt [[20], [21]] ⟨0, 1000, 1⟩ = scopeSymAt exY exSt [20, 21] ⟨0, 1000, 1⟩ :=
  C13_ir_flatten exY exSt [[20], [21]] ⟨0, 1000, 1⟩

end Gtirb.SymExpr
