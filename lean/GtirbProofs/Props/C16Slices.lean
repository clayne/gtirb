import GtirbProofs.Lemmas.SliceProofs
import GtirbProofs.Props.C04
/-! Property C16, sequence interface "with int and slice indices": `del ir.modules[slice]` and
`ir.modules[slice] = vs`.

`ListWrapper.__delitem__` / `__setitem__` with a `slice` compute
`indices = range(*i.indices(len(self)))`, run the `_remove` hook for the element at every index, (for
assignment) the `_add` hook for every new value, and then perform the built-in slice operation. The
model (`GtirbModel/Slices.lean`) follows them as the sequence of existing operations the harness
emits: `delItem` of the selected positions from the highest down (`delSliceOps`), then `insert` of
the new values (`setSliceOps`). This file proves that these sequences compute the built-in
operation, and that they are histories of well-typed operations (`C16_runE_eq_run`, `C16_*_opsOK`),
so every history theorem (C03, C04, C10) applies to them.

For assignment the hypotheses are those under which the code is inside the model (known finding K1):
the new values are pairwise different modules and none of them is in the list at an unselected
position. -/
namespace Gtirb.Forest

example : sliceSelected 5 (some 1) none (some 2) = some [1, 3] := by decide
example : sliceSelected 5 none none (some (-1)) = some [4, 3, 2, 1, 0] := by decide
example : sliceSelected 3 (some 5) (some 1) none = some [] := by decide
example : sliceSelected 5 none none none = some [0, 1, 2, 3, 4] := by decide
example : sliceSelected 5 (some (-2)) none none = some [3, 4] := by decide
example : sliceSelected 5 (some (-100)) (some 100) (some 3) = some [0, 3] := by decide
example : sliceSelected 5 (some 100) (some (-100)) (some (-2)) = some [4, 2, 0] := by decide
example : sliceSelected 5 (some 3) (some 0) (some (-1)) = some [3, 2, 1] := by decide
example : sliceSelected 5 (some (-1)) (some (-6)) (some (-2)) = some [4, 2, 0] := by decide
example : sliceSelected 0 none none (some (-1)) = some [] := by decide
example : sliceSelected 4 none none (some 0) = none := by decide
example : sliceIndices 5 none none (some (-1)) = some (4, -1, -1) := by decide
example : sliceIndices 5 (some (-7)) (some 9) none = some (0, 5, 1) := by decide
example : sliceIndices 5 (some 9) (some (-9)) (some (-3)) = some (4, -1, -3) := by decide
example : sliceIndices 0 none none (some (-2)) = some (-1, -1, -2) := by decide
example : sliceIndices 3 (some 2) (some 1) none = some (2, 1, 1) := by decide

/-- `del l[slice]` on a plain list: the elements whose position is not selected, in order -/
def removePositions (l sel : List Nat) : List Nat :=
  ((l.zipIdx).filter (fun p => !(decide (p.2 ∈ sel)))).map (fun p => p.1)

/-- `l[slice] = vs` for an extended slice of matching length: position `sel[k]` is replaced by `vs[k]` -/
def replacePositions (l sel vs : List Nat) : List Nat :=
  (sel.zip vs).foldl (fun acc pw => acc.set pw.1 pw.2) l

theorem removePositions_eq_dropAt (l sel : List Nat) : removePositions l sel = dropAt sel l 0 :=
  (dropAt_eq_filter sel l 0).symm

theorem replacePositions_eq_setAll (l sel vs : List Nat) : replacePositions l sel vs = setAll l (sel.zip vs) := rfl

theorem C16_sliceIndices_bounds (len : Nat) (start stop step : Option Int) (a b st : Int)
    (h : sliceIndices len start stop step = some (a, b, st)) :
    st ≠ 0 ∧ step.getD 1 = st ∧
    (0 < st → 0 ≤ a ∧ a ≤ len ∧ 0 ≤ b ∧ b ≤ len) ∧
    (st < 0 → -1 ≤ a ∧ a ≤ (len : Int) - 1 ∧ -1 ≤ b ∧ b ≤ (len : Int) - 1) :=
  sliceIndices_bounds h

/-- `slice.indices` raises exactly for step 0 -/
theorem C16_sliceIndices_none_iff (len : Nat) (start stop step : Option Int) :
    sliceIndices len start stop step = none ↔ step = some 0 := by
  rw [sliceIndices_eq]
  constructor
  · intro h
    split at h
    · rename_i h0
      cases step with
      | none => cases h0
      | some s => exact congrArg some h0
    · split at h <;> cases h
  · intro h
    subst h
    rfl

theorem C16_sliceSelected_bounds (len : Nat) (start stop step : Option Int) (sel : List Nat)
    (h : sliceSelected len start stop step = some sel) :
    sel.Nodup ∧ (∀ p ∈ sel, p < len) ∧
    (0 < step.getD 1 → sel.Pairwise (fun x y => x < y)) ∧
    (step.getD 1 < 0 → sel.Pairwise (fun x y => y < x)) := by
  unfold sliceSelected at h
  split at h
  · cases h
  · rename_i a b st hidx
    cases h
    obtain ⟨h0, hst, hpos, hneg⟩ := sliceIndices_bounds hidx
    rw [hst]
    by_cases hp : 0 < st
    · obtain ⟨ha, _, _, hb⟩ := hpos hp
      obtain ⟨hpw, hmem⟩ := rangeList_pos (a := a) (b := b) hp ha
      refine ⟨hpw.imp Nat.ne_of_lt, ?_, fun _ => hpw, fun hh => by omega⟩
      intro p hm
      have := hmem p hm
      omega
    · have hn : st < 0 := by omega
      obtain ⟨_, ha, hb, _⟩ := hneg hn
      obtain ⟨hpw, hmem⟩ := rangeList_neg (a := a) (b := b) hn hb
      refine ⟨hpw.imp Nat.ne_of_gt, ?_, fun hh => by omega, fun _ => hpw⟩
      intro p hm
      have := hmem p hm
      omega

theorem C16_sliceSelected_step1 (len : Nat) (start stop step : Option Int) (a b : Int)
    (h : sliceIndices len start stop step = some (a, b, 1)) :
    0 ≤ a ∧ a ≤ len ∧ 0 ≤ b ∧ b ≤ len ∧
    sliceSelected len start stop step = some (List.range' a.toNat (b - a).toNat) := by
  obtain ⟨_, _, hpos, _⟩ := sliceIndices_bounds h
  obtain ⟨h1, h2, h3, h4⟩ := hpos (by omega)
  refine ⟨h1, h2, h3, h4, ?_⟩
  unfold sliceSelected
  rw [h]
  simp only
  rw [rangeList_one h1]

/-- `slice.indices` agrees with the index rule of a single position (`pyIndex`): the slice `k:k+1`
(`k:` for `k = -1`) selects exactly the position `l[k]` names, and nothing when `l[k]` is an
`IndexError` -/
theorem C16_sliceSelected_single (len : Nat) (k : Int) :
    sliceSelected len (some k) (if k = -1 then none else some (k + 1)) none =
      some (match pyIndex len k with
            | some idx => [idx]
            | none => []) := by
  have hlen : (0 : Int) ≤ len := Int.natCast_nonneg len
  -- with `(a, a + d)` the normalised bounds the slice selects `range(a, a + d)`
  have hsel : ∀ a d : Int, sliceAdjust len 0 len k = a → (k = -1 → (len : Int) = a + d) →
      (k ≠ -1 → sliceAdjust len 0 len (k + 1) = a + d) →
      sliceSelected len (some k) (if k = -1 then none else some (k + 1)) none =
        some (List.range' a.toNat d.toNat) := by
    intro a d ha hb1 hb2
    have hd : d = a + d - a := by omega
    rw [hd]
    refine (C16_sliceSelected_step1 len _ _ _ a (a + d) ?_).2.2.2.2
    rw [sliceIndices_eq, if_neg (by decide), if_neg (by decide)]
    have hb : ((if k = -1 then none else some (k + 1)).map (sliceAdjust len 0 len)).getD len = a + d := by
      split
      · exact hb1 ‹_›
      · exact hb2 ‹_›
    rw [hb]
    exact congrArg (fun a' => some (a', a + d, (1 : Int))) ha
  -- the bounds are `(0, 0)` left of the list, `(n, n + 1)` at position `n`, `(len, len)` right of it
  by_cases h0 : 0 ≤ k
  · by_cases h1 : k < len
    · rw [hsel k 1 (sliceAdjust_of_nonneg_le h0 (by omega)) (by omega)
        (fun _ => sliceAdjust_of_nonneg_le (by omega) (by omega)), pyIndex_of_nonneg h0 h1]
      rfl
    · rw [hsel len 0 (sliceAdjust_of_nonneg_ge h0 (by omega)) (fun _ => (Int.add_zero _).symm)
        (fun _ => (sliceAdjust_of_nonneg_ge (by omega) (by omega)).trans (Int.add_zero _).symm),
        pyIndex_of_ge (by omega)]
      rfl
  · by_cases h1 : 0 ≤ k + len
    · rw [hsel (k + len) 1 (sliceAdjust_of_neg_ge (by omega) h1) (by omega)
        (fun _ => (sliceAdjust_of_neg_ge (by omega) (by omega)).trans (by omega)),
        pyIndex_of_neg (by omega) h1]
      rfl
    · rw [hsel 0 0 (sliceAdjust_of_neg_le (by omega) (by omega)) (by omega)
        (fun _ => sliceAdjust_of_neg_le (by omega) (by omega)), pyIndex_of_lt (by omega)]
      rfl

/-- link to the `run` of `ForestDefs.lean`: a sequence that runs through without an exception is a
history in which nothing was skipped -/
theorem C16_runE_eq_run (g : G) (ops : List Op) (g' : G) (hs : runE g ops = .ok g') : run g ops = g' :=
  runE_eq_run ops g g' hs

theorem C16_slice_forestInv (g : G) (ops : List Op) (g' : G) (h : ForestInv g) (hok : OpsOK g ops)
    (hs : runE g ops = .ok g') : ForestInv g' := by
  rw [← C16_runE_eq_run g ops g' hs]
  exact C04_run ops g h hok

theorem C16_delSliceOps_opsOK (g : G) (i : Nat) (sel : List Nat) (hi : i < g.n ∧ g.kind i = .ir) :
    OpsOK g (delSliceOps i sel) := by
  refine opsOK_slice (vs := []) _ g hi (fun _ hm => by cases hm) ?_
  intro op hm
  unfold delSliceOps at hm
  obtain ⟨k, _, rfl⟩ := List.mem_map.1 hm
  exact .inl ⟨_, rfl⟩

theorem C16_setSliceOps_opsOK (g : G) (i len : Nat) (start stop step : Option Int) (vs : List Nat) (ops : List Op)
    (hi : i < g.n ∧ g.kind i = .ir) (hvs : ∀ v ∈ vs, ChildOK g i .mods v)
    (hops : setSliceOps i len start stop step vs = some ops) : OpsOK g ops := by
  refine opsOK_slice (vs := vs) _ g hi hvs ?_
  cases hidx : sliceIndices len start stop step with
  | none =>
    unfold setSliceOps at hops
    rw [hidx] at hops
    cases hops
  | some t =>
    obtain ⟨a, b, st⟩ := t
    obtain ⟨pairs, rfl, hperm⟩ := setSliceOps_shape hidx hops
    intro op hm
    rcases List.mem_append.1 hm with h1 | h1
    · obtain ⟨k, _, rfl⟩ := List.mem_map.1 h1
      exact .inl ⟨_, rfl⟩
    · obtain ⟨pv, hpv, rfl⟩ := List.mem_map.1 h1
      exact .inr ⟨_, _, hperm.mem_iff.1 (List.mem_map.2 ⟨pv, hpv, rfl⟩), rfl⟩

/-- built-in semantics of `del l[slice]`: with `sel` the selected positions (pairwise different,
within the list) the list keeps exactly the elements at the other positions, in order; every removed
module is detached; no other back-pointer, no other collection, no kind / UUID / allocation changes -/
theorem C16_delSlice_content (g g' : G) (i : Nat) (sel : List Nat) (hnd : sel.Nodup)
    (hlt : ∀ p ∈ sel, p < (g.kids i .mods).length) (hs : runE g (delSliceOps i sel) = .ok g') :
    g'.kids i .mods = removePositions (g.kids i .mods) sel ∧
    (∀ p ∈ sel, ∀ c, (g.kids i .mods)[p]? = some c → g'.par c = none) ∧
    (∀ c, (∀ p ∈ sel, (g.kids i .mods)[p]? ≠ some c) → g'.par c = g.par c) ∧
    (∀ q s', (q ≠ i ∨ s' ≠ .mods) → g'.kids q s' = g.kids q s') ∧
    g'.n = g.n ∧ g'.kind = g.kind ∧ g'.uuid = g.uuid := by
  obtain ⟨h1, h2, h3, h4, h5, _⟩ := (orKeyError_delSlice hnd hlt).of_ok hs
  exact ⟨h1.trans (removePositions_eq_dropAt _ _).symm, h2, h3, h4, h5.n, h5.kind, h5.uuid⟩

/-- `del ir.modules[start:stop:step]`: the hypotheses on the positions are facts of `slice.indices` -/
theorem C16_delSlice_of_slice (g g' : G) (i : Nat) (start stop step : Option Int) (sel : List Nat)
    (hsel : sliceSelected (g.kids i .mods).length start stop step = some sel)
    (hs : runE g (delSliceOps i sel) = .ok g') :
    g'.kids i .mods = removePositions (g.kids i .mods) sel ∧
    (∀ p ∈ sel, ∀ c, (g.kids i .mods)[p]? = some c → g'.par c = none) ∧
    (∀ c, (∀ p ∈ sel, (g.kids i .mods)[p]? ≠ some c) → g'.par c = g.par c) ∧
    (∀ q s', (q ≠ i ∨ s' ≠ .mods) → g'.kids q s' = g.kids q s') ∧
    g'.n = g.n ∧ g'.kind = g.kind ∧ g'.uuid = g.uuid := by
  obtain ⟨hnd, hlt, _, _⟩ := C16_sliceSelected_bounds _ start stop step sel hsel
  exact C16_delSlice_content g g' i sel hnd hlt hs

theorem C16_removePositions_range (l : List Nat) (a n : Nat) :
    removePositions l (List.range' a n) = l.take a ++ l.drop (a + n) := by
  rw [removePositions_eq_dropAt, dropAt_range' l a n 0 (Nat.zero_le a)]
  rfl

/-- `del l[a:b]` (step 1): `l[:a] + l[max(a,b):]` -/
theorem C16_delSlice_step1 (g g' : G) (i : Nat) (start stop step : Option Int) (a b : Int) (sel : List Nat)
    (hidx : sliceIndices (g.kids i .mods).length start stop step = some (a, b, 1))
    (hsel : sliceSelected (g.kids i .mods).length start stop step = some sel)
    (hs : runE g (delSliceOps i sel) = .ok g') :
    g'.kids i .mods = (g.kids i .mods).take a.toNat ++ (g.kids i .mods).drop (max a b).toNat := by
  obtain ⟨h1, _, _, _, h5⟩ := C16_sliceSelected_step1 _ start stop step a b hidx
  rw [h5] at hsel
  cases hsel
  rw [(C16_delSlice_of_slice g g' i start stop step _ h5 hs).1, C16_removePositions_range,
    toNat_add_toNat_sub h1]

/-- built-in semantics of `l[a:b] = vs` (step 1), `(a, b, 1) = slice.indices(len(l))`: the list becomes
`l[:a] + vs + l[max(a,b):]`; every new value is attached to `i` (and has left the list of any other
IR); the replaced modules that are not assigned again are detached; nothing else moves. Hypotheses
(the code is inside the model, K1): `vs` are pairwise different modules, none of them in the list
outside `a..b-1`. -/
theorem C16_setSlice_content_step1 (g g' : G) (i : Nat) (start stop step : Option Int) (vs : List Nat)
    (a b : Int) (ops : List Op) (h : ForestInv g) (hi : i < g.n ∧ g.kind i = .ir)
    (hvs : ∀ v ∈ vs, ChildOK g i .mods v) (hnd : vs.Nodup)
    (hidx : sliceIndices (g.kids i .mods).length start stop step = some (a, b, 1))
    (hK1 : ∀ v ∈ vs, ∀ p : Nat, (g.kids i .mods)[p]? = some v → a ≤ p ∧ (p : Int) < b)
    (hops : setSliceOps i (g.kids i .mods).length start stop step vs = some ops)
    (hs : runE g ops = .ok g') :
    g'.kids i .mods = (g.kids i .mods).take a.toNat ++ vs ++ (g.kids i .mods).drop (max a b).toNat ∧
    (∀ v ∈ vs, g'.par v = some i) ∧
    (∀ p : Nat, a ≤ p → (p : Int) < b → ∀ c, (g.kids i .mods)[p]? = some c → c ∉ vs → g'.par c = none) ∧
    (∀ c, c ∉ vs → (∀ p : Nat, a ≤ p → (p : Int) < b → (g.kids i .mods)[p]? ≠ some c) → g'.par c = g.par c) ∧
    (∀ j, j ≠ i → g'.kids j .mods = (g.kids j .mods).filter (fun x => !(decide (x ∈ vs)))) ∧
    (∀ q s', s' ≠ .mods → g'.kids q s' = g.kids q s') ∧
    ForestInv g' := by
  obtain ⟨ha0, ha1, _, _, hsel⟩ := C16_sliceSelected_step1 _ start stop step a b hidx
  obtain ⟨hselnd, hsellt, _, _⟩ := C16_sliceSelected_bounds _ start stop step _ hsel
  have hmemsel := mem_range'_toNat (b := b) ha0
  unfold setSliceOps at hops
  rw [hidx] at hops
  simp only [if_true] at hops
  cases hops
  rw [rangeList_one ha0, insSeqOps_eq] at hs
  obtain ⟨r1, r2, r3, r4, r5, r6, r7⟩ := (orKeyError_setSlice (vs := vs) h hselnd hsellt
    (by rw [List.map_snd_zip (by simp)]) hvs hnd (fun v hv p hp => (hmemsel p).2 (hK1 v hv p hp))).of_ok hs
  refine ⟨?_, r2, fun p hp1 hp2 => r3 p ((hmemsel p).2 ⟨hp1, hp2⟩),
    fun c hcv hc => r4 c hcv (fun p hp => hc p ((hmemsel p).1 hp).1 ((hmemsel p).1 hp).2), r5, r6, r7⟩
  have hseq := insAll_seq vs ((g.kids i .mods).take a.toNat) ((g.kids i .mods).drop (max a b).toNat)
  rw [List.length_take_of_le (Int.toNat_le.2 ha1)] at hseq
  rw [r1, dropAt_range' _ _ _ 0 (Nat.zero_le _), Nat.sub_zero, toNat_add_toNat_sub ha0, hseq]

/-- built-in semantics of `l[start:stop:step] = vs` for an extended slice (normalised step ≠ 1) of
matching length: with `sel` the selected positions, position `sel[k]` holds `vs[k]` afterwards and
every other position is unchanged (`replacePositions`, and position by position); every new value is
attached to `i`; the replaced modules that are not assigned again are detached; nothing else moves.
That `setSliceOps` is defined at all means that the lengths match. Hypotheses as for step 1. -/
theorem C16_setSlice_content_ext (g g' : G) (i : Nat) (start stop step : Option Int) (vs : List Nat)
    (a b st : Int) (sel : List Nat) (ops : List Op) (h : ForestInv g) (hi : i < g.n ∧ g.kind i = .ir)
    (hvs : ∀ v ∈ vs, ChildOK g i .mods v) (hnd : vs.Nodup)
    (hidx : sliceIndices (g.kids i .mods).length start stop step = some (a, b, st)) (hst1 : st ≠ 1)
    (hsel : sliceSelected (g.kids i .mods).length start stop step = some sel)
    (hK1 : ∀ v ∈ vs, ∀ p : Nat, (g.kids i .mods)[p]? = some v → p ∈ sel)
    (hops : setSliceOps i (g.kids i .mods).length start stop step vs = some ops)
    (hs : runE g ops = .ok g') :
    vs.length = sel.length ∧
    g'.kids i .mods = replacePositions (g.kids i .mods) sel vs ∧
    (g'.kids i .mods).length = (g.kids i .mods).length ∧
    (∀ k, k < sel.length → ∀ p, sel[k]? = some p → (g'.kids i .mods)[p]? = vs[k]?) ∧
    (∀ p, p ∉ sel → (g'.kids i .mods)[p]? = (g.kids i .mods)[p]?) ∧
    (∀ v ∈ vs, g'.par v = some i) ∧
    (∀ p ∈ sel, ∀ c, (g.kids i .mods)[p]? = some c → c ∉ vs → g'.par c = none) ∧
    (∀ c, c ∉ vs → (∀ p ∈ sel, (g.kids i .mods)[p]? ≠ some c) → g'.par c = g.par c) ∧
    (∀ j, j ≠ i → g'.kids j .mods = (g.kids j .mods).filter (fun x => !(decide (x ∈ vs)))) ∧
    (∀ q s', s' ≠ .mods → g'.kids q s' = g.kids q s') ∧
    ForestInv g' := by
  obtain ⟨hselnd, hsellt, hselpos, hselneg⟩ := C16_sliceSelected_bounds _ start stop step sel hsel
  obtain ⟨_, hstep, _, _⟩ := sliceIndices_bounds hidx
  rw [hstep] at hselpos hselneg
  have hselrl : sel = rangeList a b st := by
    unfold sliceSelected at hsel
    rw [hidx] at hsel
    cases hsel
    rfl
  unfold setSliceOps at hops
  rw [hidx] at hops
  simp only [if_neg hst1] at hops
  rw [← hselrl] at hops
  split at hops
  · rename_i hlen
    cases hops
    obtain ⟨r1, r2, r3, r4, r5, r6, r7⟩ :=
      (orKeyError_setSlice h hselnd hsellt (extPairs_perm hlen) hvs hnd hK1).of_ok hs
    have hcontent : g'.kids i .mods = setAll (g.kids i .mods) (sel.zip vs) :=
      r1.trans (insAll_extPairs hlen hselnd hsellt hselpos (fun hp => hselneg (by omega)))
    have hfst : (sel.zip vs).map (fun pv => pv.1) = sel := List.map_fst_zip (by omega)
    obtain ⟨e1, e2⟩ := getElem?_setAll (sel.zip vs) (g.kids i .mods) (by rw [hfst]; exact hselnd)
      (fun pv hm => hsellt pv.1 (List.of_mem_zip (a := pv.1) (b := pv.2) hm).1)
    rw [hfst] at e2
    refine ⟨hlen, hcontent.trans (replacePositions_eq_setAll ..).symm, ?_, ?_, ?_, r2, r3, r4, r5, r6, r7⟩
    · rw [hcontent, length_setAll]
    · intro k hk p hp
      have hk2 : k < vs.length := by omega
      have hz : (sel.zip vs)[k]? = some (p, vs[k]) :=
        List.getElem?_zip_eq_some.2 ⟨hp, List.getElem?_eq_getElem hk2⟩
      rw [hcontent, e1 _ (List.mem_iff_getElem?.2 ⟨k, hz⟩), List.getElem?_eq_getElem hk2]
    · intro p hp
      rw [hcontent, e2 p hp]
  · cases hops

/-- a slice deletion raises none of the built-in's exceptions (a slice never gives `IndexError`); the
only exception the sequence could raise is the `KeyError` of `del cache[uuid]`, which C03 excludes -/
theorem C16_delSlice_error (g : G) (i : Nat) (sel : List Nat) (e : Exc) (hnd : sel.Nodup)
    (hlt : ∀ p ∈ sel, p < (g.kids i .mods).length) (he : runE g (delSliceOps i sel) = .error e) :
    e = .cacheKeyError :=
  (orKeyError_delSlice hnd hlt).of_error he

/-- the same for a slice assignment inside the model (plain or extended slice) -/
theorem C16_setSlice_error (g : G) (i : Nat) (start stop step : Option Int) (vs sel : List Nat) (ops : List Op)
    (e : Exc) (h : ForestInv g) (hi : i < g.n ∧ g.kind i = .ir)
    (hvs : ∀ v ∈ vs, ChildOK g i .mods v) (hnd : vs.Nodup)
    (hsel : sliceSelected (g.kids i .mods).length start stop step = some sel)
    (hK1 : ∀ v ∈ vs, ∀ p : Nat, (g.kids i .mods)[p]? = some v → p ∈ sel)
    (hops : setSliceOps i (g.kids i .mods).length start stop step vs = some ops)
    (he : runE g ops = .error e) : e = .cacheKeyError := by
  obtain ⟨hselnd, hsellt, _, _⟩ := C16_sliceSelected_bounds _ start stop step sel hsel
  unfold sliceSelected at hsel
  split at hsel
  · cases hsel
  · rename_i a b st hidx
    cases hsel
    obtain ⟨pairs, hshape, hperm⟩ := setSliceOps_shape hidx hops
    subst hshape
    exact (orKeyError_setSlice h hselnd hsellt hperm hvs hnd hK1).of_error he

end Gtirb.Forest
