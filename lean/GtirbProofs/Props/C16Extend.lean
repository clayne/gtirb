import GtirbProofs.Props.C16
/-! C16, `ir.modules.extend(vs)` / `ir.modules += vs` with *repeated* arguments.

`C16_extend_content` (C16.lean) assumes `vs.Nodup`. `extend([m, m])` and `+= [a, b, a]` are inside
the property's quantifier: `MutableSequence.extend` appends one by one, and appending a module that
is already in the list moves it to the end. So every argument ends up at the position of its *last*
occurrence: the list is the old list without the arguments, followed by the arguments with all but
the last occurrence of each dropped (`dedupLast`). -/
namespace Gtirb.Forest

/-- keep the last occurrence of every element, in order -/
def dedupLast (vs : List Nat) : List Nat := (vs.reverse.eraseDups).reverse

example : dedupLast [1, 2, 1] = [2, 1] := by decide
example : dedupLast [3, 5, 3, 1, 5, 7, 2, 7] = [3, 1, 5, 2, 7] := by decide

theorem dedupLast_cons (a : Nat) (as : List Nat) :
    dedupLast (a :: as) = (if a ∈ as then [] else [a]) ++ dedupLast as :=
  reverse_eraseDups_cons a as

@[simp] theorem dedupLast_nil : dedupLast [] = [] := rfl

theorem mem_dedupLast (vs : List Nat) (x : Nat) : x ∈ dedupLast vs ↔ x ∈ vs := by
  unfold dedupLast; simp

theorem dedupLast_nodup : ∀ (vs : List Nat), (dedupLast vs).Nodup :=
  fun _ => (List.reverse_perm _).nodup_iff.2 (List.nodup_eraseDups _)

theorem dedupLast_of_nodup : ∀ (vs : List Nat), vs.Nodup → dedupLast vs = vs :=
  reverse_eraseDups_of_nodup

/-- `extend(vs)` / `+= vs`, repeated arguments allowed; every other module list loses the arguments -/
theorem C16_extend_content_dups (g g' : G) (i : Nat) (vs : List Nat) (h : ForestInv g)
    (hop : OpOK g (.extend i vs)) (hs : step g (.extend i vs) = .ok g') :
    g'.kids i .mods = (g.kids i .mods).filter (fun x => !(x ∈ vs)) ++ dedupLast vs ∧
    (∀ j, j ≠ i → g'.kids j .mods = (g.kids j .mods).filter (fun x => !(x ∈ vs))) ∧
    (∀ x, x ∈ g'.kids i .mods ↔ x ∈ g.kids i .mods ∨ x ∈ vs) :=
  wr_extend_content h hop.2.2 hs

/-- the `Nodup` case of C16.lean is the special case -/
theorem C16_extend_content_of_dups (g g' : G) (i : Nat) (vs : List Nat) (h : ForestInv g)
    (hop : OpOK g (.extend i vs)) (hvs : vs.Nodup) (hs : step g (.extend i vs) = .ok g') :
    g'.kids i .mods = (g.kids i .mods).filter (fun x => !(x ∈ vs)) ++ vs := by
  rw [(C16_extend_content_dups g g' i vs h hop hs).1, dedupLast_of_nodup vs hvs]

/-! ### concrete: IR 0 with modules 1, 2, 3; IR 4 with modules 5, 6; detached module 7 -/

def extBase : List Op :=
  [.mkIR 100, .mk .module 101 [] (some 0), .mk .module 102 [] (some 0), .mk .module 103 [] (some 0),
   .mkIR 104, .mk .module 105 [] (some 4), .mk .module 106 [] (some 4), .mk .module 107 [] none]

/-- `ir0.modules += [m1, m2, m1]` with `m1`, `m2` already in the list: `[3] ++ [2, 1]` -/
example : (run {} extBase).kids 0 .mods = [1, 2, 3] ∧
    (run (run {} extBase) [.extend 0 [1, 2, 1]]).kids 0 .mods = [3, 2, 1] ∧
    ((run {} extBase).kids 0 .mods).filter (fun x => !(x ∈ [1, 2, 1])) ++ dedupLast [1, 2, 1] = [3, 2, 1] := by
  decide

/-- `ir0.modules.extend([m5, m7, m5])`: `m5` moves over from IR 4 once, after `m7` -/
example : (run (run {} extBase) [.extend 0 [5, 7, 5]]).kids 0 .mods = [1, 2, 3, 7, 5] ∧
    (run (run {} extBase) [.extend 0 [5, 7, 5]]).kids 4 .mods = [6] ∧
    (run (run {} extBase) [.extend 0 [5, 7, 5]]).par 5 = some 0 := by decide

end Gtirb.Forest
