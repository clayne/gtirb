import GtirbProofs.Lemmas.LoaderProofs
import GtirbProofs.Props.C04
/-! Property C17 on the staged decoder (`GtirbModel/Loader.lean`, the Python loader as a program
over model C; the expression symbols as the code checks them: `C17LoaderX`): whatever `load` accepts is a
coherent IR - duplicated UUIDs included. A node of the
message whose UUID is already in the new IR's table is *re-used* (and moved) when it has the
expected kind; table entries can be overwritten by a later node with the same UUID; removing a
re-used node from its previous owner deletes table keys. Nevertheless the result of an accepted
message is always fully linked (`ForestInv`, every created node attached to the new IR), its table
is coherent (`CacheCoherent`: every entry names an attached node of that UUID, every attached
node's UUID has an entry), symbol referents are attached blocks, CFG endpoints resolve to attached
code blocks / proxies, and nothing outside the new IR is touched.

The `KeyError` of `del cache[uuid]` *can* happen (`C17_load_keyerror_example`): it is an error
outcome, so it does not contradict any of these theorems. -/
namespace Gtirb.Loader
open Gtirb.Forest

/-- the loaded IR is coherent, whatever the message (duplicates included), in any process state -/
theorem C17_load_coherent' (g g' : G) (m : SkIR) (ir : Nat) (hf : ForestInv g)
    (hl : load g m = .ok (g', ir)) :
    ir = g.n ∧ g'.kind ir = .ir ∧ ForestInv g' ∧ CacheCoherent g' ir ∧
    (∀ x, x < g.n → g'.par x = g.par x ∧ g'.kind x = g.kind x ∧ g'.uuid x = g.uuid x ∧
      ∀ s, g'.kids x s = g.kids x s) ∧
    (∀ j, j ≠ ir → ∀ u, g'.cache j u = g.cache j u) := by
  obtain ⟨rfl, hm, ha, _⟩ := load_ok hf hl
  refine ⟨rfl, hm.kind_ir, hm.forest, ⟨?_, ?_⟩, hm.frame, hm.rows⟩
  · intro u n hc
    obtain ⟨h1, h2, h3⟩ := hm.entries u n hc
    exact ⟨h2, ha n h1 h2, h3⟩
  · intro n hn hi
    by_cases hold : n < g.n
    · exact absurd hi (hm.old_not_att hold)
    · rcases hm.owed n (by omega) hn with h1 | ⟨y, hy0, hyn, hyi, _⟩
      · exact h1
      · exact absurd (ha y hy0 hyn) hyi

/-- `C17_load_coherent'` with the hypothesis `hfresh` (the slot of the new IR's table is unused): true of every
reachable state, and not needed, because `IR.__init__` starts from an empty table -/
theorem C17_load_coherent (g g' : G) (m : SkIR) (ir : Nat) (hf : ForestInv g)
    (_hfresh : ∀ u, g.cache g.n u = none)
    (hl : load g m = .ok (g', ir)) :
    ir = g.n ∧ g'.kind ir = .ir ∧ ForestInv g' ∧ CacheCoherent g' ir ∧
    -- frame: nothing that existed before is touched, and no other IR's table changes
    (∀ x, x < g.n → g'.par x = g.par x ∧ g'.kind x = g.kind x ∧ g'.uuid x = g.uuid x ∧
      ∀ s, g'.kids x s = g.kids x s) ∧
    (∀ j, j ≠ ir → ∀ u, g'.cache j u = g.cache j u) :=
  C17_load_coherent' g g' m ir hf hl

/-- fully linked: every node the load created is attached to the new IR -/
theorem C17_load_all_attached (g g' : G) (m : SkIR) (ir : Nat) (hf : ForestInv g)
    (hl : load g m = .ok (g', ir)) : ∀ x, g.n ≤ x → x < g'.n → irOf g' x = some ir := by
  obtain ⟨rfl, _, ha, _⟩ := load_ok hf hl
  exact ha

theorem isBlock_iff (k : Kind) : isBlock k = true ↔ (k = .code ∨ k = .data ∨ k = .proxy) := by
  cases k <;> decide

/-- typed references: every symbol of the new IR with a referent refers to a block/proxy node that is
attached to the new IR -/
theorem C17_load_referents (g g' : G) (m : SkIR) (ir : Nat) (hf : ForestInv g)
    (hl : load g m = .ok (g', ir)) :
    ∀ y, g.n ≤ y → y < g'.n → g'.kind y = .symbol → ∀ b, g'.payload y = .block b →
      (g'.kind b = .code ∨ g'.kind b = .data ∨ g'.kind b = .proxy) ∧ irOf g' b = some ir := by
  obtain ⟨rfl, hm, ha, _⟩ := load_ok hf hl
  intro y hy hlt hk b hb
  obtain ⟨h1, h2, h3⟩ := hm.refs y b hy hlt hk hb
  exact ⟨(isBlock_iff _).1 h3, ha b h1 h2⟩

/-- the CFG check, in the final state: the table of the finished IR maps each edge endpoint UUID to an
attached code block or proxy block (of that UUID) -/
theorem C17_load_edges (g g' : G) (m : SkIR) (ir : Nat) (hf : ForestInv g)
    (hl : load g m = .ok (g', ir)) :
    ∀ e, e ∈ m.edges → ∀ u, u ∈ [e.1, e.2] →
      ∃ n, g'.cache ir u = some n ∧ (g'.kind n = .code ∨ g'.kind n = .proxy) ∧ irOf g' n = some ir ∧
        g'.uuid n = u := by
  obtain ⟨rfl, hm, ha, he⟩ := load_ok hf hl
  intro e hemem u hu
  obtain ⟨n, hn, hk⟩ := he u (List.mem_flatMap.2 ⟨e, hemem, hu⟩)
  obtain ⟨h1, h2, h3⟩ := hm.entries u n hn
  exact ⟨n, hn, hk, ha n h1 h2, h3⟩

/-- the entry-point and expression-symbol checks of one module message that is really decoded (its UUID
is not yet in the table): the entry point resolved to a code block of the new IR, every symbol UUID used
by a symbolic expression resolves (in the table as it is when the module is finished) to a symbol.
A module message whose UUID is already in the table is NOT decoded: the existing module is re-used and the
message's content, its checks included, is dropped (`C17_load_dup_module_example`). -/
theorem C17_decodeModule_checks (g0 g g' : G) (md : SkModule) (v : Nat) (R : Nat → Prop) (hm : Mid g0 g)
    (hc : AllCov g0.n g R) (hfresh : g.cache g0.n md.uuid = none) (h : decodeModule g g0.n md = .ok (g', v)) :
    (∀ u, md.entry = some u → ∃ n, g0.n ≤ n ∧ n < g'.n ∧ g'.kind n = .code ∧ g'.uuid n = u) ∧
    (∀ u, u ∈ md.exprSyms → ∃ n, g'.cache g0.n u = some n ∧ g'.kind n = .symbol) :=
  (decodeModule_spec (S := fun _ => True) R g md g' v (fun _ _ => trivial) hm hc h).2 hfresh

/-- the entry-point / expression-symbol checks in the final state, for messages whose module UUIDs are
pairwise distinct (then every module message is really decoded): every entry point UUID is the UUID of a
code block attached to the new IR, every expression symbol UUID the UUID of an attached symbol -/
theorem C17_load_checks (g g' : G) (m : SkIR) (ir : Nat) (hf : ForestInv g)
    (hl : load g m = .ok (g', ir)) (hnd : (m.modules.map (·.uuid)).Nodup) :
    ∀ md, md ∈ m.modules →
      (∀ u, md.entry = some u →
        ∃ n, g.n ≤ n ∧ n < g'.n ∧ g'.kind n = .code ∧ g'.uuid n = u ∧ irOf g' n = some ir) ∧
      (∀ u, u ∈ md.exprSyms →
        ∃ n, g.n ≤ n ∧ n < g'.n ∧ g'.kind n = .symbol ∧ g'.uuid n = u ∧ irOf g' n = some ir) := by
  have hchk := load_checks hf hl hnd
  obtain ⟨rfl, _, ha, _⟩ := load_ok hf hl
  intro md hmd
  refine ⟨?_, ?_⟩
  · intro u hu
    obtain ⟨n, h1, h2, h3, h4⟩ := (hchk md hmd).1 u hu
    exact ⟨n, h1, h2, h3, h4, ha n h1 h2⟩
  · intro u hu
    obtain ⟨n, h1, h2, h3, h4⟩ := (hchk md hmd).2 u hu
    exact ⟨n, h1, h2, h3, h4, ha n h1 h2⟩

/-- with pairwise distinct UUIDs among the nodes attached to the IR, `CacheCoherent` is `CacheInv`
for that IR: the table holds exactly the attached nodes -/
theorem CacheCoherent.exact_of_distinct {g : G} {i : Nat} (h : CacheCoherent g i)
    (hd : ∀ a b, a < g.n → b < g.n → irOf g a = some i → irOf g b = some i → g.uuid a = g.uuid b → a = b)
    (u x : Nat) : g.cache i u = some x ↔ (x < g.n ∧ irOf g x = some i ∧ g.uuid x = u) := by
  constructor
  · exact h.1 u x
  · rintro ⟨h1, h2, rfl⟩
    have := h.2 x h1 h2
    cases hc : g.cache i (g.uuid x) with
    | none => rw [hc] at this; cases this
    | some y =>
      obtain ⟨a1, a2, a3⟩ := h.1 _ _ hc
      rw [hd y x a1 h1 a2 h2 a3]

/-- `CacheCoherent.exact_of_distinct` for the loaded IR -/
theorem C17_load_exact_of_distinct (g g' : G) (m : SkIR) (ir : Nat) (hf : ForestInv g)
    (hl : load g m = .ok (g', ir))
    (hd : ∀ a b, a < g'.n → b < g'.n → irOf g' a = some ir → irOf g' b = some ir → g'.uuid a = g'.uuid b → a = b)
    (u x : Nat) :
    g'.cache ir u = some x ↔ (x < g'.n ∧ irOf g' x = some ir ∧ g'.uuid x = u) :=
  (C17_load_coherent' g g' m ir hf hl).2.2.2.1.exact_of_distinct hd u x

/-- with pairwise distinct node UUIDs in the message (`SkIR.nodeUuids`: IR, modules, proxies, sections,
intervals, blocks, symbols) the nodes created by the load have pairwise distinct UUIDs, and the table of the
loaded IR is exact: `CacheCoherent` is `CacheInv` for that IR -/
theorem C17_load_exact_nodup (g g' : G) (m : SkIR) (ir : Nat) (hf : ForestInv g)
    (hl : load g m = .ok (g', ir)) (hnd : m.nodeUuids.Nodup) :
    (∀ a b, g.n ≤ a → a < g'.n → g.n ≤ b → b < g'.n → g'.uuid a = g'.uuid b → a = b) ∧
    ∀ u x, g'.cache ir u = some x ↔ (x < g'.n ∧ irOf g' x = some ir ∧ g'.uuid x = u) := by
  have hd := load_distNew hl hnd
  refine ⟨hd, C17_load_exact_of_distinct g g' m ir hf hl ?_⟩
  obtain ⟨rfl, hm, _, _⟩ := load_ok hf hl
  intro a b ha hb hia hib hab
  have ha0 : g.n ≤ a := Nat.le_of_not_lt (fun h => hm.old_not_att h hia)
  have hb0 : g.n ≤ b := Nat.le_of_not_lt (fun h => hm.old_not_att h hib)
  exact hd a b ha0 ha hb0 hb hab

theorem C17_load_coherent_init (m : SkIR) (g' : G) (ir : Nat) (hl : load {} m = .ok (g', ir)) :
    ForestInv g' ∧ CacheCoherent g' ir := by
  have := C17_load_coherent' {} g' m ir C04_init hl
  exact ⟨this.2.2.1, this.2.2.2.1⟩

/-- what the examples on concrete messages with duplicated UUIDs look at (`entry`: the table entry for one UUID) -/
structure LoadSummary where
  ir : Nat
  n : Nat
  entry : Option Nat
  kinds : List Kind
  uuids : List Nat
  pars : List (Option Nat)
  mods : List Nat
  deriving DecidableEq, Repr

def loadSummary (r : Except LErr (G × Nat)) (u : Nat) : Option LoadSummary :=
  match r with
  | .ok (g, ir) => some ⟨ir, g.n, g.cache ir u, (List.range g.n).map g.kind, (List.range g.n).map g.uuid,
      (List.range g.n).map g.par, g.kids ir .mods⟩
  | .error _ => none

def isKeyError (r : Except LErr (G × Nat)) : Bool :=
  match r with
  | .error (.forest .cacheKeyError) => true
  | _ => false

/-- a data block carrying the UUID (4) of its own interval -/
def skDupBlock : SkIR :=
  { uuid := 1, edges := [],
    modules := [{ uuid := 2, proxies := [], symbols := [], entry := none, exprSyms := [],
                  sections := [{ uuid := 3, intervals := [{ uuid := 4, blocks := [(4, false)] }] }] }] }

/-- accepted: interval (node 3) and block (node 4) both carry UUID 4, both are attached, the table entry
for UUID 4 names the block (it registered last) -/
theorem C17_load_dup_block_example :
    loadSummary (load {} skDupBlock) 4 =
      some ⟨0, 5, some 4, [.ir, .module, .section, .interval, .data], [1, 2, 3, 4, 4],
        [none, some 0, some 1, some 2, some 3], [1]⟩ := by decide

/-- two module messages with the same UUID (2): the second one re-uses the first module -/
def skDupModule : SkIR :=
  { uuid := 1, edges := [],
    modules := [{ uuid := 2, proxies := [7], sections := [], symbols := [], entry := none, exprSyms := [] },
                { uuid := 2, proxies := [8], sections := [], symbols := [], entry := none, exprSyms := [] }] }

/-- accepted: one module (node 1) with the first message's proxy (node 2); the second message is not
decoded at all (no node for proxy 8), the module is removed from and appended to the list again -/
theorem C17_load_dup_module_example :
    loadSummary (load {} skDupModule) 2 =
      some ⟨0, 3, some 1, [.ir, .module, .proxy], [1, 2, 7], [none, some 0, some 1], [1]⟩ ∧
    loadSummary (load {} skDupModule) 8 =
      some ⟨0, 3, none, [.ir, .module, .proxy], [1, 2, 7], [none, some 0, some 1], [1]⟩ := by decide

/-- both duplications together: re-appending the re-used module removes its subtree from the table key by
key, and the second `del cache[4]` raises `KeyError` -/
def skKeyError : SkIR :=
  { uuid := 1, edges := [],
    modules := [{ uuid := 2, proxies := [], symbols := [], entry := none, exprSyms := [],
                  sections := [{ uuid := 3, intervals := [{ uuid := 4, blocks := [(4, false)] }] }] },
                { uuid := 2, proxies := [], sections := [], symbols := [], entry := none, exprSyms := [] }] }

theorem C17_load_keyerror_example : isKeyError (load {} skKeyError) = true := by decide

/-- a UUID (3) occurring three times, which tells the lazy order (decode one child, add it, decode the
next: `decodeAttach`) from "decode all children, then add them": module 1 holds section 3; module 2 lists
section 3 again and then section 7 with interval 8 and a *data block* with UUID 3 -/
def skTripleUuid : SkIR :=
  { uuid := 100, edges := [],
    modules := [{ uuid := 1, proxies := [], symbols := [], entry := none, exprSyms := [],
                  sections := [{ uuid := 3, intervals := [] }] },
                { uuid := 2, proxies := [], symbols := [], entry := none, exprSyms := [],
                  sections := [{ uuid := 3, intervals := [] },
                               { uuid := 7, intervals := [{ uuid := 8, blocks := [(3, false)] }] }] }] }

/-- accepted: the second occurrence of section 3 re-uses node 2 and moves it from module 1 (node 1, already
in the IR) to the still detached module 2 (node 3) at once, which deletes the table key 3; so the data
block with UUID 3 finds no entry and is created fresh (node 6). In the result section node 2 and data
block node 6 both carry UUID 3, both are attached, module 1 has lost its section, and the table entry for
UUID 3 names the block. (The other order fails: `C17_load_triple_uuid_eager_order`.) -/
theorem C17_load_triple_uuid_example :
    loadSummary (load {} skTripleUuid) 3 =
      some ⟨0, 7, some 6, [.ir, .module, .section, .module, .section, .interval, .data],
        [100, 1, 3, 2, 7, 8, 3], [none, some 0, some 3, some 0, some 3, some 4, some 5], [1, 3]⟩ ∧
    (match load {} skTripleUuid with
      | .ok (g, _) => some (g.kids 1 .secs, g.kids 3 .secs, g.kids 4 .bis, g.kids 5 .blocks)
      | .error _ => none) = some ([], [2, 4], [5], [6]) := by decide

theorem C17_load_triple_uuid_coherent :
    ∃ g' ir, load {} skTripleUuid = .ok (g', ir) ∧ ForestInv g' ∧ CacheCoherent g' ir := by
  cases h : load {} skTripleUuid with
  | error e =>
    have hs : loadSummary (load {} skTripleUuid) 3 = none := by rw [h]; rfl
    rw [C17_load_triple_uuid_example.1] at hs
    cases hs
  | ok r => exact ⟨r.1, r.2, rfl, C17_load_coherent_init skTripleUuid r.1 r.2 h⟩

def skTripleUuidFirst : SkIR := { skTripleUuid with modules := skTripleUuid.modules.take 1 }

/-- the other order on the same input: after module 1 is loaded, decoding *all* sections of module 2 first
(`decodeSections`, no `add` in between) fails with `DeserializationError`, because key 3 still names
section node 2 when the data block with UUID 3 is looked up -/
theorem C17_load_triple_uuid_eager_order :
    (match load {} skTripleUuidFirst with
      | .ok (g, ir) =>
        (match decodeSections ir g [{ uuid := 3, intervals := [] },
            { uuid := 7, intervals := [{ uuid := 8, blocks := [(3, false)] }] }] with
          | .error .deser => true
          | _ => false)
      | .error _ => false) = true := by decide

end Gtirb.Loader
