import GtirbProofs.Props.C14History
import GtirbProofs.Lemmas.CodecTypingProofs
/-! C14 across a save/load generation of a TOUCHED table (a successful read never costs the
table), and the exact extent of clause 3. -/
namespace Gtirb.AuxTable
open Gtirb.Codec

/-- a name that denotes no type does not parse (`tyOfTree` is total) -/
theorem decodeTop_typeName {lookup : Bytes → Option Nat} {name : String} {bs : Bytes}
    (h : tyOfName name = none) : decodeTop lookup name bs = .error .typeName := by
  unfold tyOfName at h
  unfold decodeTop
  split at h
  · exact absurd h (tyOfTree_ne_none _)
  · rename_i hp
    simp only [hp]

theorem read_load_val (lookup : Bytes → Option Nat) (name : String) (bs : Bytes) (t' : Table)
    (v : Val) (hr : read lookup (load name bs) = .ok (t', .val v)) :
    t' = { typeName := name, raw := none, data := some (.val v) } ∧
    ∃ ty rest, tyOfName name = some ty ∧ decode lookup ty bs = .ok (v, rest) := by
  cases hd : decodeTop lookup name bs with
  | error e =>
    rw [read_load_error hd] at hr
    cases hr
  | ok d =>
    rw [read_load_of_decodeTop hd] at hr
    cases hr
    refine ⟨rfl, ?_⟩
    cases hty : tyOfName name with
    | none =>
      rw [decodeTop_typeName hty] at hd
      cases hd
    | some ty =>
      rw [decodeTop_eq hty] at hd
      split at hd <;> cases hd
      exact ⟨ty, _, rfl, ‹_›⟩

/-- whatever a read hands out is a value of the table's type -/
theorem C14_read_hasType (lookup : Bytes → Option Nat) (nu : Nat → Bytes)
    (hc : Coherent lookup nu) (name : String) (bs : Bytes) (t' : Table) (v : Val)
    (hr : read lookup (load name bs) = .ok (t', .val v)) :
    ∃ ty, tyOfName name = some ty ∧ hasType lookup nu ty v = true := by
  obtain ⟨_, ty, rest, hty, hdec⟩ := read_load_val lookup name bs t' v hr
  exact ⟨ty, hty, decode_hasType lookup nu hc ty bs rest v hdec⟩

/-- A successful read never costs the table: the next save succeeds under the same name, what
it wrote decodes (in the next generation) to the same value, and saving that generation after
its read writes the same bytes again (fixed point from the second generation on). -/
theorem C14_touched_generation (lookup : Bytes → Option Nat) (nu : Nat → Bytes)
    (hc : Coherent lookup nu) (name : String) (bs : Bytes) (t' : Table) (v : Val)
    (hr : read lookup (load name bs) = .ok (t', .val v)) :
    ∃ out, (save lookup nu t').2 = .ok (name, out) ∧
      ∃ t'', read lookup (load name out) = .ok (t'', .val v) ∧
        (save lookup nu t'').2 = .ok (name, out) := by
  obtain ⟨rfl, ty, rest, hty, hdec⟩ := read_load_val lookup name bs t' v hr
  have hv := decode_hasType lookup nu hc ty bs rest v hdec
  obtain ⟨out, henc, hrt⟩ := C07_roundtrip lookup nu ty v hv
  have hs := save_val lookup nu v hty
  rw [henc] at hs
  have htop := decodeTop_ok [] hty (by simpa using hrt [])
  exact ⟨out, hs, _, read_load_of_decodeTop htop, hs⟩

/-- the written bytes are moreover canonical: they are the encoding of the value, so every
later generation that only reads writes them again -/
theorem C14_touched_generation_encode (lookup : Bytes → Option Nat) (nu : Nat → Bytes)
    (hc : Coherent lookup nu) (name : String) (bs : Bytes) (t' : Table) (v : Val)
    (hr : read lookup (load name bs) = .ok (t', .val v)) :
    ∃ ty out, tyOfName name = some ty ∧ encode nu ty v = some out ∧
      (save lookup nu t').2 = .ok (name, out) := by
  obtain ⟨rfl, ty, rest, hty, hdec⟩ := read_load_val lookup name bs t' v hr
  have hv := decode_hasType lookup nu hc ty bs rest v hdec
  obtain ⟨out, henc, _⟩ := C07_roundtrip lookup nu ty v hv
  have hs := save_val lookup nu v hty
  rw [henc] at hs
  exact ⟨ty, out, hty, henc, hs⟩

/-- one generation of a table that is read: load, read, save, take what was written -/
def readGeneration (lookup : Bytes → Option Nat) (nu : Nat → Bytes) (name : String) (bs : Bytes) :
    Option (String × Bytes) :=
  match read lookup (load name bs) with
  | .ok (t', _) =>
    match (save lookup nu t').2 with
    | .ok out => some out
    | .error _ => none
  | .error _ => none

/-- `n` generations of load / read / save -/
def readGenerations (lookup : Bytes → Option Nat) (nu : Nat → Bytes) :
    Nat → String → Bytes → Option (String × Bytes)
  | 0, name, bs => some (name, bs)
  | n + 1, name, bs =>
    match readGeneration lookup nu name bs with
    | some (name', bs') => readGenerations lookup nu n name' bs'
    | none => none

/-- over any number of read generations: if the first read succeeds with a value, every
generation succeeds, and all generations after the first write the same bytes -/
theorem C14_read_generations (lookup : Bytes → Option Nat) (nu : Nat → Bytes)
    (hc : Coherent lookup nu) (name : String) (bs : Bytes) (t' : Table) (v : Val)
    (hr : read lookup (load name bs) = .ok (t', .val v)) :
    ∃ out, ∀ n, readGenerations lookup nu (n + 1) name bs = some (name, out) := by
  obtain ⟨out, hs, t'', hr', hs'⟩ := C14_touched_generation lookup nu hc name bs t' v hr
  have hfix : readGeneration lookup nu name out = some (name, out) := by
    simp [readGeneration, hr', hs']
  have hall : ∀ n, readGenerations lookup nu n name out = some (name, out) := by
    intro n
    induction n with
    | zero => rfl
    | succ n ih => simp [readGenerations, hfix, ih]
  refine ⟨out, fun n => ?_⟩
  simp [readGenerations, readGeneration, hr, hs, hall n]

/-- the same after `.data = v` with a well-typed value: the save succeeds and the next
generation reads the value back -/
theorem C14_assign_generation (lookup : Bytes → Option Nat) (nu : Nat → Bytes) (name : String)
    (ty : Ty) (t : Table) (v : Val)
    (hn : t.typeName = name) (hty : tyOfName name = some ty) (hv : hasType lookup nu ty v = true) :
    ∃ out, (save lookup nu (assignData t (.val v))).2 = .ok (name, out) ∧
      ∃ t'', read lookup (load name out) = .ok (t'', .val v) := by
  obtain ⟨out, henc, hrt⟩ := C07_roundtrip lookup nu ty v hv
  subst hn
  have htop := decodeTop_ok [] hty (by simpa using hrt [])
  exact ⟨out, C14_assign_save lookup nu t v ty out hty henc, _,
    read_load_of_decodeTop htop⟩

/-- read + save of a table gives the loaded bytes back exactly when they are the encoding of
the value they decode to (the extent of known finding K4) -/
theorem C14_rewritten_iff (lookup : Bytes → Option Nat) (nu : Nat → Bytes) (name : String)
    (ty : Ty) (bs : Bytes) (t' : Table) (v : Val)
    (hty : tyOfName name = some ty) (hr : read lookup (load name bs) = .ok (t', .val v)) :
    (save lookup nu t').2 = .ok (name, bs) ↔ encode nu ty v = some bs := by
  obtain ⟨rfl, _⟩ := read_load_val lookup name bs t' v hr
  rw [save_val lookup nu v hty]
  cases encode nu ty v with
  | none => simp
  | some out => simp

/-- a head for which `Serialization.codecs` has an entry -/
def hasCodec (s : String) : Bool := (leafOfName s).isSome || isContainerName s

/-- the `Ty` of a tree whose head has no codec is an `unknown` node, whatever the arguments
are (known heads with a wrong arity below it included) -/
theorem tyOfTree_unknown_head (n : List Char) (ks : List TypeName.Tree)
    (hh : hasCodec (String.ofList n) = false) :
    ∃ args, tyOfTree (.node n ks) = some (.unknown (String.ofList n) args) := by
  obtain ⟨args, ha⟩ := tysOfTrees_isSome ks
  simp only [hasCodec, Bool.or_eq_false_iff] at hh
  obtain ⟨hl, hcn⟩ := hh
  have hl' : leafOfName (String.ofList n) = none := by
    cases h : leafOfName (String.ofList n) with
    | none => rfl
    | some l =>
      rw [h] at hl
      cases hl
  simp only [isContainerName, Bool.or_eq_false_iff] at hcn
  obtain ⟨⟨⟨⟨h1, h2⟩, h3⟩, h4⟩, h5⟩ := hcn
  refine ⟨args, ?_⟩
  simp only [tyOfTree, ha, hl', h1, h2, h3, h4, h5]
  simp

/-- (3, depth 0) the top-level head has no codec: the table becomes `UnknownData` holding
ALL its bytes, whatever they are -/
theorem C14_unknown_top (lookup : Bytes → Option Nat) (name n : String) (args : List Ty)
    (bs : Bytes) (hty : tyOfName name = some (.unknown n args)) :
    decodeTop lookup name bs = .ok (.unknownData bs) := by
  rw [decodeTop_eq hty]
  simp [decode]

/-- the same in terms of the name alone: every parseable name whose head is not one of the
20 names with a codec (the arguments may be anything, including known heads with a wrong
arity) -/
theorem C14_unknown_top_head (lookup : Bytes → Option Nat) (name : String) (n : List Char)
    (ks : List TypeName.Tree) (bs : Bytes)
    (hp : TypeName.parseType name.toList = some (.node n ks))
    (hh : hasCodec (String.ofList n) = false) :
    decodeTop lookup name bs = .ok (.unknownData bs) := by
  obtain ⟨args, ha⟩ := tyOfTree_unknown_head n ks hh
  exact C14_unknown_top lookup name (String.ofList n) args bs (by simp [tyOfName, hp, ha])

/-- a table holding `UnknownData` keeps it, and writes it verbatim under whatever the current
name is, through any history without `.data = ...` -/
theorem runActs_unknownData (lookup : Bytes → Option Nat) (nu : Nat → Bytes) (bs : Bytes)
    (as : List Act) (hna : ∀ a ∈ as, ∀ d, a ≠ .assignData d) (t : Table)
    (h : t.raw = none ∧ t.data = some (.unknownData bs)) :
    (runActs lookup nu t as).raw = none ∧
      (runActs lookup nu t as).data = some (.unknownData bs) := by
  refine List.foldlRecOn (motive := fun t => t.raw = none ∧ t.data = some (.unknownData bs)) as
    (act lookup nu) h fun t h a ha => ?_
  obtain ⟨hraw, hd⟩ := h
  cases a with
  | read => simp [act, read, hraw, hd]
  | assignData d => exact absurd rfl (hna _ ha d)
  | assignType s => exact ⟨hraw, hd⟩
  | save =>
    simp only [act]
    rw [C14_current_full lookup nu t _ hraw hd]
    exact ⟨hraw, hd⟩

/-- Every loaded table is in one of three cases (they exclude each other:
`C14_lazy_trichotomy_exclusive`): its read fails (and leaves the table
as loaded, so clause 1 keeps applying); its read gives `UnknownData` holding all the bytes,
which are then written verbatim for ever (under any later name, through any history that does
not assign data); or its read gives a value (and `C14_rewritten_iff`,
`C14_touched_generation` apply). -/
theorem C14_lazy_trichotomy (lookup : Bytes → Option Nat) (nu : Nat → Bytes) (name : String)
    (bs : Bytes) :
    (∃ e, read lookup (load name bs) = .error e ∧
        (act lookup nu (load name bs) .read) = load name bs) ∨
    (∃ t', read lookup (load name bs) = .ok (t', .unknownData bs) ∧
        ∀ as, (∀ a ∈ as, ∀ d, a ≠ .assignData d) →
          (save lookup nu (runActs lookup nu t' as)).2 =
            .ok ((runActs lookup nu t' as).typeName, bs)) ∨
    (∃ t' v, read lookup (load name bs) = .ok (t', .val v)) := by
  cases hdt : decodeTop lookup name bs with
  | error e =>
    left
    have hr := read_load_error hdt
    exact ⟨e, hr, act_read_error hr⟩
  | ok d =>
    have hr := read_load_of_decodeTop hdt
    cases d with
    | val v => exact .inr (.inr ⟨_, v, hr⟩)
    | unknownData b =>
      have hb := decodeTop_unknown lookup name bs b hdt
      subst hb
      refine .inr (.inl ⟨_, hr, fun as hna => ?_⟩)
      obtain ⟨h1, h2⟩ := runActs_unknownData lookup nu b as hna
        { typeName := name, raw := none, data := some (.unknownData b) } ⟨rfl, rfl⟩
      rw [C14_current_full lookup nu _ _ h1 h2]
      simp [encodeTop]

/-- the three cases exclude each other (they are cases of one function's result) -/
theorem C14_lazy_trichotomy_exclusive (lookup : Bytes → Option Nat) (name : String) (bs : Bytes) :
    ¬ ((∃ e, read lookup (load name bs) = .error e) ∧ (∃ t' d, read lookup (load name bs) = .ok (t', d))) ∧
    ¬ ((∃ t' b, read lookup (load name bs) = .ok (t', .unknownData b)) ∧
        (∃ t' v, read lookup (load name bs) = .ok (t', .val v))) := by
  constructor
  · rintro ⟨⟨e, h1⟩, t', d, h2⟩
    rw [h1] at h2
    cases h2
  · rintro ⟨⟨t', b, h1⟩, t'', v, h2⟩
    rw [h1] at h2
    cases h2

/-- a failing read is a type-name error, a strict-read failure, or a known head with a
rejected arity that decoding reached (`badArity`): the last one exactly when the codec
decoder says so -/
theorem C14_badArity_reached_iff (lookup : Bytes → Option Nat) (name : String) (ty : Ty)
    (bs : Bytes) (hty : tyOfName name = some ty) :
    decodeTop lookup name bs = .error .unsupported ↔ decode lookup ty bs = .badArity := by
  rw [decodeTop_eq hty]
  rcases decode lookup ty bs with ⟨v, r⟩ | _ | _ | _ | _ | _ <;> simp

/-- a type name is never rejected for arity before the bytes are looked at: `decodeTop` fails
with `.unsupported` only through `decode` -/
theorem C14_unsupported_only_reached (lookup : Bytes → Option Nat) (name : String) (bs : Bytes)
    (h : decodeTop lookup name bs = .error .unsupported) :
    ∃ ty, tyOfName name = some ty ∧ decode lookup ty bs = .badArity := by
  cases hty : tyOfName name with
  | none =>
    rw [decodeTop_typeName hty] at h
    cases h
  | some ty => exact ⟨ty, rfl, (C14_badArity_reached_iff lookup name ty bs hty).1 h⟩

section Examples
open Gtirb.TypeName

theorem coherent_none (nu : Nat → Bytes) : Coherent (fun _ => none) nu := fun _ _ h => by cases h

/-- the node table of the C07 examples agrees with its nodes -/
theorem coherent_ex : Coherent exLookup exNodeUuid := exLookup_coherent

theorem cex_read : read (fun _ => none) (load cexName cexBytes) =
    .ok ({ typeName := cexName, raw := none, data := some (.val cexVal) }, .val cexVal) :=
  read_load_of_decodeTop (decodeTop_ok _ cex_ty cex_decode)

/-- `C14_touched_generation` on the K4 table (`tuple<set<uint8_t>,sequence<foo>>`, the set
listing 5 twice): the read costs nothing, the save writes `cexOut` (not the loaded bytes), and
`cexOut` is a fixed point of read + save -/
example : ∃ out, (save (fun _ => none) (fun _ => [])
      { typeName := cexName, raw := none, data := some (.val cexVal) }).2 = .ok (cexName, out) ∧
    ∃ t'', read (fun _ => none) (load cexName out) = .ok (t'', .val cexVal) ∧
      (save (fun _ => none) (fun _ => []) t'').2 = .ok (cexName, out) :=
  C14_touched_generation _ _ (coherent_none _) cexName cexBytes _ cexVal cex_read

/-- ... the bytes written are `cexOut`, by `C14_rewritten_iff` they differ from the loaded ones
because the loaded ones are not the encoding of the value -/
example : ¬ (save (fun _ => none) (fun _ => [])
    { typeName := cexName, raw := none, data := some (.val cexVal) }).2 = .ok (cexName, cexBytes) := by
  rw [C14_rewritten_iff _ _ cexName cexTy cexBytes _ cexVal cex_ty cex_read, cex_encode]
  intro h
  exact cex_ne (Option.some.inj h)

/-- ... while the canonical bytes do come back -/
example : (save (fun _ => none) (fun _ => [])
    { typeName := cexName, raw := none, data := some (.val cexVal) }).2 = .ok (cexName, cexOut) := by
  have hd : decode (fun _ => none) cexTy cexOut = .ok (cexVal, []) := by rfl
  exact (C14_rewritten_iff _ _ cexName cexTy cexOut _ cexVal cex_ty
    (read_load_of_decodeTop (decodeTop_ok [] cex_ty hd))).2 cex_encode

/-- three generations of load / read / save of the K4 table -/
example : ∃ out, ∀ n, readGenerations (fun _ => none) (fun _ => []) (n + 1) cexName cexBytes =
    some (cexName, out) :=
  C14_read_generations _ _ (coherent_none _) cexName cexBytes _ cexVal cex_read

/-- `C14_assign_generation` on `mapping<uint8_t,sequence<int16_t>>` -/
example : ∃ out, (save (fun _ => none) (fun _ => [])
      (assignData (load exName exBytes) (.val exVal'))).2 = .ok (exName, out) ∧
    ∃ t'', read (fun _ => none) (load exName out) = .ok (t'', .val exVal') :=
  C14_assign_generation _ _ exName exTy (load exName exBytes) exVal' rfl ex_ty (by decide)

theorem uuid_seq_ty : tyOfName "sequence<UUID>" = some (.seq (.leaf .uuid)) :=
  tyOfName_eq (by decide +kernel)

/-- a table of UUIDs naming nodes, with a node table that is not empty: what the read hands
out (the nodes) has the type, the generation theorem applies -/
example : ∃ t', read exLookup (load "sequence<UUID>" (u64 2 ++ List.replicate 16 2 ++ List.replicate 16 7)) =
      .ok (t', .val (.seq [.node 2, .uuid (List.replicate 16 7)])) ∧
    ∃ out, (save exLookup exNodeUuid t').2 = .ok ("sequence<UUID>", out) := by
  have hd : decode exLookup (.seq (.leaf .uuid)) (u64 2 ++ List.replicate 16 2 ++ List.replicate 16 7) =
      .ok (.seq [.node 2, .uuid (List.replicate 16 7)], []) := by rfl
  have hr := read_load_of_decodeTop
    (decodeTop_ok [] uuid_seq_ty hd)
  obtain ⟨out, h, _⟩ := C14_touched_generation exLookup exNodeUuid coherent_ex _ _ _ _ hr
  exact ⟨_, hr, out, h⟩

theorem ty_tuple_foo_badstring : tyOfName "tuple<foo,string<int8_t>>" =
    some (.tuple [.unknown "foo" [], .badArity "string" [.leaf .i8]]) :=
  tyOfName_eq (by decide +kernel)

theorem ty_seq_badstring : tyOfName "sequence<string<int8_t>>" =
    some (.seq (.badArity "string" [.leaf .i8])) :=
  tyOfName_eq (by decide +kernel)

theorem ty_variant_badstring : tyOfName "variant<int8_t,string<int8_t>>" =
    some (.variant [.leaf .i8, .badArity "string" [.leaf .i8]]) :=
  tyOfName_eq (by decide +kernel)

/-- the top-level head `foo` has no codec; below it `sequence` has a wrong arity -/
theorem ty_foo_seq : tyOfName "foo<sequence<a,b>>" =
    some (.unknown "foo" [.badArity "sequence" [.unknown "a" [], .unknown "b" []]]) :=
  tyOfName_eq (by decide +kernel)

/-- `tuple<foo,string<int8_t>>`, bytes `01 02`: `foo` is reached first -> UnknownData -/
example : decodeTop (fun _ => none) "tuple<foo,string<int8_t>>" [1, 2] = .ok (.unknownData [1, 2]) := by
  have hd : decode (fun _ => none) (.tuple [.unknown "foo" [], .badArity "string" [.leaf .i8]])
      [1, 2] = .unknownCodec "foo" := by rfl
  simp only [decodeTop_eq ty_tuple_foo_badstring, hd]

/-- `foo<sequence<a,b>>`, ANY bytes: the top-level head has no codec (`C14_unknown_top`);
the wrong arity of `sequence` below it is never looked at -/
example (lookup : Bytes → Option Nat) (bs : Bytes) :
    decodeTop lookup "foo<sequence<a,b>>" bs = .ok (.unknownData bs) :=
  C14_unknown_top lookup _ _ _ bs ty_foo_seq

/-- `sequence<string<int8_t>>`: count 0 decodes to `[]`, count 1 reaches the bad head -/
example : decodeTop (fun _ => none) "sequence<string<int8_t>>" (u64 0) = .ok (.val (.seq [])) :=
  decodeTop_ok [] ty_seq_badstring (by rfl)
example : decodeTop (fun _ => none) "sequence<string<int8_t>>" (u64 1 ++ [7]) = .error .unsupported :=
  (C14_badArity_reached_iff _ _ _ _ ty_seq_badstring).2 (by rfl)

/-- `variant<int8_t,string<int8_t>>`: `Variant(0, 5)` encodes, `Variant(1, "a")` is an
encode error -/
example : encodeTop (fun _ => []) "variant<int8_t,string<int8_t>>" (.val (.variant 0 (.int 5))) =
    .ok [0, 0, 0, 0, 0, 0, 0, 0, 5] := by
  have he : encode (fun _ => []) (.variant [.leaf .i8, .badArity "string" [.leaf .i8]])
      (.variant 0 (.int 5)) = some [0, 0, 0, 0, 0, 0, 0, 0, 5] := by decide
  simp only [encodeTop_val ty_variant_badstring, he]
example : encodeTop (fun _ => []) "variant<int8_t,string<int8_t>>" (.val (.variant 1 (.str "a"))) =
    .error .encode := by
  have he : encode (fun _ => []) (.variant [.leaf .i8, .badArity "string" [.leaf .i8]])
      (.variant 1 (.str "a")) = none := by decide
  simp only [encodeTop_val ty_variant_badstring, he]

/-- the trichotomy, one table per case: a reached bad arity (read fails, table as loaded),
a reached unknown head, a value -/
example : ∃ e, read (fun _ => none) (load "sequence<string<int8_t>>" (u64 1 ++ [7])) = .error e ∧
    act (fun _ => none) (fun _ => []) (load "sequence<string<int8_t>>" (u64 1 ++ [7])) .read =
      load "sequence<string<int8_t>>" (u64 1 ++ [7]) := by
  have hd : decodeTop (fun _ => none) "sequence<string<int8_t>>" (u64 1 ++ [7]) = .error .unsupported :=
    (C14_badArity_reached_iff _ _ _ _ ty_seq_badstring).2 (by rfl)
  have hr := read_load_error hd
  exact ⟨_, hr, act_read_error hr⟩

/-- `UnknownData` is written verbatim after read, retype, save, read, under the new name -/
example (lookup : Bytes → Option Nat) (nu : Nat → Bytes) (bs : Bytes) :
    ∃ t', read lookup (load "foo<sequence<a,b>>" bs) = .ok (t', .unknownData bs) ∧
      (save lookup nu (runActs lookup nu t' [.assignType "uint8_t", .save, .read])).2 =
        .ok ("uint8_t", bs) := by
  have hd := C14_unknown_top lookup _ _ _ bs ty_foo_seq
  rcases C14_lazy_trichotomy lookup nu "foo<sequence<a,b>>" bs with ⟨e, hr, _⟩ | ⟨t', hr, hs⟩ | ⟨t', v, hr⟩
  · rw [read_load_of_decodeTop hd] at hr
    cases hr
  · refine ⟨t', hr, ?_⟩
    have := hs [.assignType "uint8_t", .save, .read] (by simp)
    rw [this]
    rw [read_load_of_decodeTop hd] at hr
    simp only [Except.ok.injEq, Prod.mk.injEq] at hr
    rw [← hr.1]
    simp [runActs, act, assignType, save, read, encodeTop]
  · rw [read_load_of_decodeTop hd] at hr
    cases hr

end Examples

end Gtirb.AuxTable
