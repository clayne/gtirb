import GtirbProofs.Props.C02Exact
/-! C09, the error *class* of a reference fault: "a reference that names a missing node or a
node of the wrong kind is rejected with a `DeserializationError`" (the last clause of C09;
`C17_accepted_refs` only gives "not accepted"), at the value level (`fromMsg`), for messages in
which nothing but a reference can be wrong (`structOK`, Props/C02Exact.lean). Per reference kind
a fault is: the reference is not among the nodes of the right kind visible at that point, which
covers a missing node, a node of the wrong kind, and - known finding K5 - a node of a later
module. -/
namespace Gtirb.Msg
open Gtirb

/-! ### the error class of the checks

Under the structural conditions every check of the reader that can still fail is a reference
check, and a reference check on a 16-byte UUID fails with `DeserializationError` (`Soft.refIs`). -/

theorem Soft.chkSymbol {env : Env} {s : MSymbol} (h16 : s.uuid.length = 16)
    (hf : s.uuid ∉ env.map (·.1)) (hr16 : ∀ u, s.payload = some (.referentUuid u) → u.length = 16) :
    Soft (chkSymbol env s) := by
  refine Soft.andThen (Soft.of_ok (fresh_ok_iff.2 ⟨h16, hf⟩)) ?_
  split
  · next u hu => exact Soft.refIs (hr16 u hu)
  · exact Soft.of_ok rfl

theorem Soft.chkExpr {env : Env} {kv : Nat × MSymExpr} (hv : kv.2.value.isSome = true)
    (h16 : ∀ u ∈ mexprSyms kv.2, u.length = 16) : Soft (chkExpr env kv) := by
  obtain ⟨k, val, fl⟩ := kv
  rcases val with _ | ⟨off, sy⟩ | ⟨sc, off, s1, s2⟩
  · cases hv
  · exact Soft.refIs (h16 sy (by simp [mexprSyms]))
  · exact Soft.andThen (Soft.refIs (h16 s1 (by simp [mexprSyms])))
      (Soft.refIs (h16 s2 (by simp [mexprSyms])))

theorem Soft.chkEdge {env : Env} {me : MEdge} (hs : me.sourceUuid.length = 16)
    (ht : me.targetUuid.length = 16)
    (hl : ∀ l, me.label = some l → pyEnumHas "EdgeType" l.type = true) : Soft (chkEdge env me) := by
  refine Soft.andThen (Soft.refIs hs) (Soft.andThen (Soft.refIs ht) (Soft.of_ok ?_))
  split
  · rfl
  · next l h => exact guardE_ok.2 (hl l h)

theorem Soft.chkModule {env : Env} {m : MModule} (st : MModStruct m)
    (hr16 : ∀ u ∈ m.refUuids, u.length = 16)
    (hnd : (((mmoduleKinds m).reverse ++ env).map (·.1)).Nodup) : Soft (chkModule env m) := by
  have hnd' := hnd
  rw [← menv2_symbols] at hnd'
  rw [chkModule_struct st (nodup_suffix hnd')]
  refine Soft.andThen ?_ (Soft.andThen (Soft.chkList fun pre s post hs => ?_)
    (Soft.chkAll fun s hs => Soft.chkAll fun x hx => Soft.chkAll fun kv hkv => ?_))
  · split
    · exact Soft.of_ok rfl
    · next hne => exact Soft.refIs (hr16 _ (by
        simp only [MModule.refUuids, List.mem_append]; exact .inl (.inl (by simp [hne]))))
  · have hm : s ∈ m.symbols := by simp [hs]
    rw [hs] at hnd'
    exact Soft.chkSymbol (st.all16 s.uuid (by simp [MModule.nodeUuids, hs]))
      (fresh_of_nodup (A := []) (nodup_at_split hnd')) fun u hu => hr16 u (by
        simp only [MModule.refUuids, List.mem_append, List.mem_flatMap]
        exact .inl (.inr ⟨s, hm, by simp [hu]⟩))
  · exact Soft.chkExpr (st.exprs s hs x hx kv hkv) fun u hu => hr16 u (by
      simp only [MModule.refUuids, List.mem_append, List.mem_flatMap]
      exact .inr ⟨s, hs, x, hx, kv, hkv, hu⟩)

theorem mmodStruct_of {m : MIR} (hs : structOK m = true) :
    ∀ mm ∈ m.modules, MModStruct mm ∧ ∀ u ∈ mm.refUuids, u.length = 16 := by
  simp only [structOK, Bool.and_eq_true, List.all_eq_true, beq_iff_eq] at hs
  obtain ⟨⟨⟨⟨⟨h16, hr16⟩, _⟩, _⟩, hmods⟩, _⟩ := hs
  intro mm hm
  have := hmods mm hm
  simp only [mmoduleStructOK, Bool.and_eq_true, List.all_eq_true, decide_eq_true_eq] at this
  obtain ⟨⟨⟨hisa, hff⟩, hbo⟩, hsecs⟩ := this
  refine ⟨⟨⟨hisa, hff, hbo⟩, fun u hu => h16 u ?_, fun s hs' => ?_, fun s hs' x hx => ?_,
    fun s hs' x hx kv hkv => ((hsecs s hs').2 x hx).2 kv hkv⟩, fun u hu => hr16 u ?_⟩
  · simp only [MIR.nodeUuids, List.mem_cons, List.mem_flatMap]
    exact .inr ⟨mm, hm, hu⟩
  · simpa using (hsecs s hs').1
  · exact ⟨((hsecs s hs').2 x hx).1.1, ((hsecs s hs').2 x hx).1.2⟩
  · simp only [MIR.refUuids, List.mem_append, List.mem_flatMap]
    exact .inl ⟨mm, hm, hu⟩

theorem fromMsg_err_deser {m : MIR} {e : Err} (h : fromMsg m = .error e) (hs : structOK m = true) :
    e = .deserializationError := by
  have hmods := mmodStruct_of hs
  simp only [structOK, Bool.and_eq_true, List.all_eq_true, beq_iff_eq, nodupM_iff] at hs
  obtain ⟨⟨⟨⟨⟨h16, hr16⟩, hnd⟩, hver⟩, _⟩, hlab⟩ := hs
  have hndk : ((menvOf m.uuid m.modules).map (·.1)).Nodup := by
    rw [← (List.reverse_perm _).nodup_iff, ← List.map_reverse, menvOf_fst]
    exact hnd
  rw [fromMsg_error_iff] at h
  refine Soft.andThen (Soft.of_ok (checkUuid_ok_iff.2 (h16 _ (by simp [MIR.nodeUuids]))))
    (Soft.andThen (Soft.of_ok (guardE_ok.2 (by simpa using hver)))
      (Soft.andThen (Soft.chkList fun pre mm post hsplit => ?_) (Soft.chkAll fun me hme => ?_))) e h
  · rw [menvOf, hsplit] at hndk
    have hm : mm ∈ m.modules := by simp [hsplit]
    exact Soft.chkModule (hmods mm hm).1 (hmods mm hm).2 (nodup_at_split hndk)
  · refine Soft.chkEdge (hr16 _ ?_) (hr16 _ ?_) fun l hl => ?_
    · simp only [MIR.refUuids, List.mem_append, List.mem_flatMap]
      exact .inr ⟨me, hme, by simp⟩
    · simp only [MIR.refUuids, List.mem_append, List.mem_flatMap]
      exact .inr ⟨me, hme, by simp⟩
    · have := hlab me hme
      rw [hl] at this
      exact this

/-- on a structurally sound message the reader either accepts or raises
`DeserializationError`: no `ValueError`, no `TypeError`, no duplicate -/
theorem C09_struct_errors (m : MIR) (hs : structOK m = true) :
    (∃ v, fromMsg m = .ok v) ∨ fromMsg m = .error .deserializationError := by
  cases h : fromMsg m with
  | ok v => exact .inl ⟨v, rfl⟩
  | error e => rw [fromMsg_err_deser h hs]; exact .inr rfl

/-- a reference fault (and nothing else wrong) is rejected with `DeserializationError` -/
theorem C09_reference_fault_deser (m : MIR) (hs : structOK m = true) (hc : closedMsg m = false) :
    fromMsg m = .error .deserializationError :=
  (C09_struct_errors m hs).resolve_left fun hv =>
    Bool.false_ne_true (hc ▸ (C02_accepts_iff_closed m hs).1 hv)

/-- on structurally sound messages `DeserializationError` is raised exactly for the
messages that are not referentially closed -/
theorem C09_deser_iff (m : MIR) (hs : structOK m = true) :
    fromMsg m = .error .deserializationError ↔ closedMsg m = false := by
  constructor
  · intro h
    cases hc : closedMsg m with
    | false => rfl
    | true =>
      obtain ⟨v, hv⟩ := C02_reader_accepts m hc
      rw [hv] at h; cases h
  · exact C09_reference_fault_deser m hs

/-- the shape of the theorems below: closure would give `P` (the reference is among the nodes
of the right kind visible at that point), and `P` fails -/
theorem C09_fault_of {m : MIR} (hs : structOK m = true) {P : Prop} (hP : closedMsg m = true → P)
    (h : ¬ P) : fromMsg m = .error .deserializationError :=
  C09_reference_fault_deser m hs (Bool.eq_false_iff.2 fun hc => h (hP hc))

/-- an edge endpoint that is not a code block or proxy of the IR (missing node, or a node
of another kind: data block, symbol, section, ...) -/
theorem C09_edge_fault (m : MIR) (hs : structOK m = true) (e : MEdge) (he : e ∈ m.cfg.edges)
    (hbad : e.sourceUuid ∉ (m.modules.flatMap fun mm => mm.codeUuids ++ mm.proxies)
      ∨ e.targetUuid ∉ (m.modules.flatMap fun mm => mm.codeUuids ++ mm.proxies)) :
    fromMsg m = .error .deserializationError :=
  C09_fault_of hs
    (P := e.sourceUuid ∈ (m.modules.flatMap fun mm => mm.codeUuids ++ mm.proxies)
      ∧ e.targetUuid ∈ (m.modules.flatMap fun mm => mm.codeUuids ++ mm.proxies))
    (fun hc => ((closedMsg_iff.1 hc).edges e he).1) fun h => hbad.elim (· h.1) (· h.2)

/-- an entry point that is not a code block of the same or an earlier module (`pre` = the
modules before `mm`): missing, of another kind, or of a later module (K5) -/
theorem C09_entry_fault (m : MIR) (hs : structOK m = true) (pre post : List MModule) (mm : MModule)
    (hsplit : m.modules = pre ++ mm :: post) (hne : mm.entryPoint.isEmpty = false)
    (hbad : mm.entryPoint ∉ pre.flatMap (·.codeUuids) ++ mm.codeUuids) :
    fromMsg m = .error .deserializationError :=
  C09_fault_of hs (fun hc =>
    (mmoduleOK_iff.1 ((closedMsg_iff.1 hc).moduleOK hsplit)).1.1.resolve_left (by simp [hne])) hbad

/-- a symbol referent that is not a code block, data block or proxy of the same or an
earlier module -/
theorem C09_referent_fault (m : MIR) (hs : structOK m = true) (pre post : List MModule) (mm : MModule)
    (hsplit : m.modules = pre ++ mm :: post) (s : MSymbol) (hsym : s ∈ mm.symbols) (u : Bytes)
    (hp : s.payload = some (.referentUuid u))
    (hbad : u ∉ pre.flatMap (·.blockUuids) ++ mm.blockUuids) :
    fromMsg m = .error .deserializationError :=
  C09_fault_of hs (fun hc => (mmoduleOK_iff.1 ((closedMsg_iff.1 hc).moduleOK hsplit)).1.2.1 s hsym u hp) hbad

/-- a symbol named by a symbolic expression that is not a symbol of the same or an earlier
module -/
theorem C09_expr_symbol_fault (m : MIR) (hs : structOK m = true) (pre post : List MModule)
    (mm : MModule) (hsplit : m.modules = pre ++ mm :: post) (s : MSection) (hsec : s ∈ mm.sections)
    (x : MByteInterval) (hx : x ∈ s.byteIntervals) (kv : Nat × MSymExpr)
    (hkv : kv ∈ x.symbolicExpressions) (u : Bytes) (hu : u ∈ mexprSyms kv.2)
    (hbad : u ∉ pre.flatMap (·.symbolUuids) ++ mm.symbolUuids) :
    fromMsg m = .error .deserializationError :=
  C09_fault_of hs
    (fun hc => (mmoduleOK_iff.1 ((closedMsg_iff.1 hc).moduleOK hsplit)).1.2.2 s hsec x hx kv hkv u hu) hbad

/-- a reference field (any of the four kinds) naming no node of the message at all -/
theorem C09_dangling (m : MIR) (hs : structOK m = true) (u : Bytes) (hu : u ∈ m.refUuids)
    (hbad : u ∉ m.nodeUuids) : fromMsg m = .error .deserializationError :=
  C09_fault_of hs (fun hc => closedMsg_refs_mem m hc u hu) hbad

/-- `exClosedMsg` with an additional edge whose target is the *data* block 7 -/
def exEdgeToData : MIR :=
  { exClosedMsg with cfg := ⟨[], exClosedMsg.cfg.edges ++ [⟨accU 5, accU 7, none⟩]⟩ }

/-- `exClosedMsg` with the entry point of the second module naming a node that does not exist -/
def exEntryDangling : MIR :=
  { exClosedMsg with modules := exClosedMsg.modules.map fun mm =>
      if mm.uuid = accU 20 then { mm with entryPoint := accU 99 } else mm }

/-- `exClosedMsg` with the entry point of the first module naming its *data* block -/
def exEntryData : MIR :=
  { exClosedMsg with modules := exClosedMsg.modules.map fun mm =>
      if mm.uuid = accU 2 then { mm with entryPoint := accU 7 } else mm }

theorem structOK_exEdgeToData : structOK exEdgeToData = true :=
  structOK_of_same_nodes rfl structOK_exClosedMsg (by decide +kernel)

theorem fromMsg_exEdgeToData : fromMsg exEdgeToData = .error .deserializationError :=
  C09_edge_fault exEdgeToData structOK_exEdgeToData ⟨accU 5, accU 7, none⟩ (by decide) (.inr (by decide))

example : structOK exEdgeToData = true ∧ closedMsg exEdgeToData = false :=
  ⟨structOK_exEdgeToData, (C09_deser_iff _ structOK_exEdgeToData).1 fromMsg_exEdgeToData⟩
example : fromMsg exEdgeToData = .error .deserializationError := fromMsg_exEdgeToData

theorem structOK_exEntryDangling : structOK exEntryDangling = true :=
  structOK_of_same_nodes (by decide +kernel) structOK_exClosedMsg (by decide +kernel)

theorem fromMsg_exEntryDangling : fromMsg exEntryDangling = .error .deserializationError :=
  C09_dangling exEntryDangling structOK_exEntryDangling (accU 99) (by decide) (by decide)

example : structOK exEntryDangling = true ∧ closedMsg exEntryDangling = false :=
  ⟨structOK_exEntryDangling, (C09_deser_iff _ structOK_exEntryDangling).1 fromMsg_exEntryDangling⟩
example : fromMsg exEntryDangling = .error .deserializationError := fromMsg_exEntryDangling

theorem structOK_exEntryData : structOK exEntryData = true :=
  structOK_of_same_nodes (by decide +kernel) structOK_exClosedMsg (by decide +kernel)

theorem closedMsg_exEntryData : closedMsg exEntryData = false :=
  (C09_deser_iff _ structOK_exEntryData).1
    (C09_entry_fault exEntryData structOK_exEntryData [] _ _ rfl (by decide) (by decide))

example : structOK exEntryData = true ∧ closedMsg exEntryData = false :=
  ⟨structOK_exEntryData, closedMsg_exEntryData⟩
example : fromMsg exEntryData = .error .deserializationError :=
  C09_reference_fault_deser exEntryData structOK_exEntryData closedMsg_exEntryData

/-- the forward reference of K5: a symbol of module 0 referring to a block of module 1 -/
example : fromMsg k5Msg = .error .deserializationError :=
  C09_referent_fault k5Msg structOK_k5Msg [] _ _ rfl ⟨accU 3, some (.referentUuid (accU 7)), "forward", false⟩
    (by decide) (accU 7) rfl (by decide)

/-- `structOK` is needed: with a 3-byte reference the error is `ValueError`, not
`DeserializationError`, although the message is not closed either -/
def exShortRef : MIR :=
  { exClosedMsg with cfg := ⟨[], [⟨accU 5, [1, 2, 3], none⟩]⟩ }
example : structOK exShortRef = false ∧ closedMsg exShortRef = false
    ∧ fromMsg exShortRef = .error .valueError := by
  have hf : fromMsg exShortRef = .error .valueError := eq_error_of_eval (by decide +kernel)
  have hs : structOK exShortRef = false := Bool.eq_false_iff.2 fun hs => by
    rcases C09_struct_errors _ hs with ⟨v, hv⟩ | h
    · rw [hf] at hv; cases hv
    · rw [hf] at h; cases h
  refine ⟨hs, Bool.eq_false_iff.2 fun hc => ?_, hf⟩
  rw [closedMsg_structOK _ hc] at hs
  cases hs

end Gtirb.Msg
