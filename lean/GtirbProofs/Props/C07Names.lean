import GtirbProofs.Lemmas.CodecTypingProofs
import GtirbProofs.Props.C07
import GtirbProofs.Props.C08Wire
import GtirbProofs.Props.C15
import GtirbModel.AuxTable
/-! C07, second part: type names, and node resolution at any depth.

(a) `C07_roundtrip` quantifies over the model's `Ty`.  Here the `Ty` without unknown / wrong-arity
head (`noUnknown`) are shown to be exactly the supported type names, `nameOf` being the printer,
and the round trip is restated through the table-level `encodeTop` / `decodeTop`
(`GtirbModel/AuxTable.lean`) of a type name.

(b) `resolve`, `hasType'` and the induction `resolution` are in `Lemmas/Resolution.lean`; here is
what they say of a value the encoder accepts that is not canonical, `C07_roundtrip` being the
special case of the canonical ones. -/
namespace Gtirb.Codec
open Gtirb.TypeName

/-- the name of each leaf type (the inverse of `leafOfName`, see `leafOfName_leafName`) -/
def leafName : Leaf → String
  | .u8 => "uint8_t" | .u16 => "uint16_t" | .u32 => "uint32_t" | .u64 => "uint64_t"
  | .i8 => "int8_t" | .i16 => "int16_t" | .i32 => "int32_t" | .i64 => "int64_t"
  | .addr => "Addr" | .bool => "bool" | .f32 => "float" | .f64 => "double"
  | .string => "string" | .uuid => "UUID" | .offset => "Offset"

mutual
def treeOf : Ty → Tree
  | .leaf l => .node (leafName l).toList []
  | .seq t => .node "sequence".toList [treeOf t]
  | .set t => .node "set".toList [treeOf t]
  | .map k v => .node "mapping".toList [treeOf k, treeOf v]
  | .tuple ts => .node "tuple".toList (treesOf ts)
  | .variant ts => .node "variant".toList (treesOf ts)
  | .unknown n args => .node n.toList (treesOf args)
  | .badArity n args => .node n.toList (treesOf args)
def treesOf : List Ty → List Tree
  | [] => []
  | t :: ts => treeOf t :: treesOf ts
end

/-- the printer: the rendering (`TypeName.render`, the inverse of the parser by C15) of the tree -/
def nameOf (t : Ty) : List Char := render (treeOf t)

/-- `,b,c,...>` -/
def restOf : List Ty → List Char
  | [] => ['>']
  | t :: ts => ',' :: (nameOf t ++ restOf ts)
/-- nothing for no argument, else `<a,b,...>` -/
def argsOf : List Ty → List Char
  | [] => []
  | t :: ts => '<' :: (nameOf t ++ restOf ts)

theorem restOf_eq : ∀ (ts : List Ty) (tr : Tree),
    render tr ++ restOf ts = renderList (tr :: treesOf ts) ++ ['>']
  | [], tr => by simp [restOf, treesOf, renderList_one]
  | t :: ts, tr => by
    have := restOf_eq ts (treeOf t)
    simp [restOf, treesOf, renderList_cons, nameOf, this]

theorem render_treesOf (n : List Char) (ts : List Ty) :
    render (.node n (treesOf ts)) = n ++ argsOf ts := by
  cases ts with
  | nil => simp [argsOf, treesOf, render_leaf]
  | cons t ts =>
    have := restOf_eq ts (treeOf t)
    simp [argsOf, treesOf, render_node, nameOf, this]

theorem nameOf_leaf (l : Leaf) : nameOf (.leaf l) = (leafName l).toList := by
  rw [nameOf, treeOf, render_leaf]
theorem nameOf_seq (t : Ty) : nameOf (.seq t) = "sequence".toList ++ '<' :: (nameOf t ++ ['>']) := by
  rw [nameOf, treeOf, render_node, renderList_one]
  rfl
theorem nameOf_set (t : Ty) : nameOf (.set t) = "set".toList ++ '<' :: (nameOf t ++ ['>']) := by
  rw [nameOf, treeOf, render_node, renderList_one]
  rfl
theorem nameOf_map (k v : Ty) :
    nameOf (.map k v) = "mapping".toList ++ '<' :: (nameOf k ++ ',' :: (nameOf v ++ ['>'])) := by
  rw [nameOf, treeOf, render_node, renderList_cons, renderList_one, List.append_assoc]
  rfl
theorem nameOf_tuple (ts : List Ty) : nameOf (.tuple ts) = "tuple".toList ++ argsOf ts := by
  rw [nameOf, treeOf, render_treesOf]
theorem nameOf_variant (ts : List Ty) : nameOf (.variant ts) = "variant".toList ++ argsOf ts := by
  rw [nameOf, treeOf, render_treesOf]
theorem nameOf_unknown (n : String) (ts : List Ty) : nameOf (.unknown n ts) = n.toList ++ argsOf ts := by
  rw [nameOf, treeOf, render_treesOf]
theorem nameOf_badArity (n : String) (ts : List Ty) : nameOf (.badArity n ts) = n.toList ++ argsOf ts := by
  rw [nameOf, treeOf, render_treesOf]

/-- every leaf type: a fact about all of them is one evaluation over this list -/
def Leaf.all : List Leaf :=
  [.u8, .u16, .u32, .u64, .i8, .i16, .i32, .i64, .addr, .bool, .f32, .f64, .string, .uuid, .offset]

theorem Leaf.mem_all (l : Leaf) : l ∈ Leaf.all := by cases l <;> decide

theorem leafOfName_leafName (l : Leaf) : leafOfName (leafName l) = some l :=
  (by decide : ∀ l ∈ Leaf.all, leafOfName (leafName l) = some l) l l.mem_all

theorem leafOfName_eq_some (s : String) (l : Leaf) (h : leafOfName s = some l) : s = leafName l := by
  unfold leafOfName at h
  split at h <;> first | (cases h; rfl) | cases h

theorem leafName_good (l : Leaf) : GoodName (leafName l).toList :=
  (by decide +kernel : ∀ l ∈ Leaf.all,
    (leafName l).toList ≠ [] ∧ ∀ c ∈ (leafName l).toList, isDelim c = false) l l.mem_all

theorem containerName_good :
    ∀ s ∈ ["sequence", "set", "mapping", "tuple", "variant"], GoodName s.toList := by
  unfold GoodName
  decide

theorem tyOfTree_node {n : List Char} {ks : List Tree} (args : List Ty) :
    tysOfTrees ks = some args → tyOfTree (.node n ks) =
      match leafOfName (String.ofList n) with
      | some l => if args.isEmpty then some (.leaf l) else some (.badArity (String.ofList n) args)
      | none =>
        if String.ofList n == "sequence" then
          match args with | [t] => some (.seq t) | _ => some (.badArity (String.ofList n) args)
        else if String.ofList n == "set" then
          match args with | [t] => some (.set t) | _ => some (.badArity (String.ofList n) args)
        else if String.ofList n == "mapping" then
          match args with | [k, v] => some (.map k v) | _ => some (.badArity (String.ofList n) args)
        else if String.ofList n == "tuple" then some (.tuple args)
        else if String.ofList n == "variant" then some (.variant args)
        else some (.unknown (String.ofList n) args) := by
  intro ha
  simp only [tyOfTree, ha]
  rfl

mutual
theorem tyOfTree_treeOf : ∀ t : Ty, noUnknown t = true → tyOfTree (treeOf t) = some t
  | .leaf l, _ => by
    rw [treeOf, tyOfTree_node [] rfl, String.ofList_toList, leafOfName_leafName]
    rfl
  | .seq t, h => by
    have ih := tyOfTree_treeOf t h
    rw [treeOf, tyOfTree_node [t] (by simp [tysOfTrees, ih]), String.ofList_toList]
    rfl
  | .set t, h => by
    have ih := tyOfTree_treeOf t h
    rw [treeOf, tyOfTree_node [t] (by simp [tysOfTrees, ih]), String.ofList_toList]
    rfl
  | .map k v, h => by
    simp only [noUnknown, Bool.and_eq_true] at h
    have ihk := tyOfTree_treeOf k h.1
    have ihv := tyOfTree_treeOf v h.2
    rw [treeOf, tyOfTree_node [k, v] (by simp [tysOfTrees, ihk, ihv]), String.ofList_toList]
    rfl
  | .tuple ts, h => by
    have ih := tysOfTrees_treesOf ts h
    rw [treeOf, tyOfTree_node ts ih, String.ofList_toList]
    rfl
  | .variant ts, h => by
    have ih := tysOfTrees_treesOf ts h
    rw [treeOf, tyOfTree_node ts ih, String.ofList_toList]
    rfl
  | .unknown _ _, h => nomatch h
  | .badArity _ _, h => nomatch h
theorem tysOfTrees_treesOf : ∀ ts : List Ty, noUnknownList ts = true →
    tysOfTrees (treesOf ts) = some ts
  | [], _ => rfl
  | t :: ts, h => by
    simp only [noUnknownList, Bool.and_eq_true] at h
    simp [treesOf, tysOfTrees, tyOfTree_treeOf t h.1, tysOfTrees_treesOf ts h.2]
end

mutual
theorem treeOf_tyOfTree : ∀ (tr : Tree) (t : Ty), tyOfTree tr = some t → treeOf t = tr
  | .node n ks, t, h => by
    obtain ⟨args, ha⟩ := tysOfTrees_isSome ks
    obtain ⟨t', ht', hh⟩ := tyOfTree_head n ks args ha
    obtain rfl : t' = t := Option.some.inj (ht'.symm.trans h)
    rw [← treesOf_tysOfTrees ks args ha, ← String.toList_ofList (l := n)]
    generalize String.ofList n = s at hh
    cases hh with
    | leaf hl =>
      rw [leafOfName_eq_some s _ hl]
      rfl
    | _ => rfl
theorem treesOf_tysOfTrees : ∀ (ks : List Tree) (ts : List Ty), tysOfTrees ks = some ts →
    treesOf ts = ks
  | [], _, rfl => rfl
  | k :: ks, ts, h => by
    simp only [tysOfTrees] at h
    split at h
    · rename_i a b ha hb
      cases h
      simp [treesOf, treeOf_tyOfTree k a ha, treesOf_tysOfTrees ks b hb]
    · cases h
end

mutual
theorem WF_treeOf : ∀ t : Ty, noUnknown t = true → WF (treeOf t)
  | .leaf l, _ => ⟨leafName_good l, trivial⟩
  | .seq t, h => ⟨containerName_good _ (by decide), WF_treeOf t h, trivial⟩
  | .set t, h => ⟨containerName_good _ (by decide), WF_treeOf t h, trivial⟩
  | .map k v, h => by
    simp only [noUnknown, Bool.and_eq_true] at h
    exact ⟨containerName_good _ (by decide), WF_treeOf k h.1, WF_treeOf v h.2, trivial⟩
  | .tuple ts, h => ⟨containerName_good _ (by decide), WFList_treesOf ts h⟩
  | .variant ts, h => ⟨containerName_good _ (by decide), WFList_treesOf ts h⟩
  | .unknown _ _, h => nomatch h
  | .badArity _ _, h => nomatch h
theorem WFList_treesOf : ∀ ts : List Ty, noUnknownList ts = true → WFList (treesOf ts)
  | [], _ => trivial
  | t :: ts, h => by
    simp only [noUnknownList, Bool.and_eq_true] at h
    exact ⟨WF_treeOf t h.1, WFList_treesOf ts h.2⟩
end

/-- (a) every type without unknown / wrong-arity head is denoted by its printed name -/
theorem tyOfName_nameOf (t : Ty) (h : noUnknown t = true) :
    tyOfName (String.ofList (nameOf t)) = some t := by
  simp only [tyOfName, String.toList_ofList, nameOf, C15_complete (treeOf t) (WF_treeOf t h),
    tyOfTree_treeOf t h]

/-- conversely every name that denotes a type at all (ANY name the parser accepts) is the
printed name of that type: `nameOf` is the inverse of `tyOfName` -/
theorem nameOf_tyOfName (s : String) (t : Ty) (h : tyOfName s = some t) :
    String.ofList (nameOf t) = s := by
  obtain ⟨tr, hp, htr⟩ := tyOfName_eq_some.1 h
  rw [nameOf, treeOf_tyOfTree tr t htr, (C15_sound _ _ hp).2, String.ofList_toList]

theorem tyOfName_injective (s s' : String) (t : Ty) (h : tyOfName s = some t)
    (h' : tyOfName s' = some t) : s = s' := by
  rw [← nameOf_tyOfName s t h, ← nameOf_tyOfName s' t h']

/-! the supported type names as a condition on the NAME (its parse tree) alone -/

/-- the 15 names of the fixed-size types, string, UUID and Offset -/
def leafNames : List String :=
  ["uint8_t", "uint16_t", "uint32_t", "uint64_t", "int8_t", "int16_t", "int32_t", "int64_t",
   "Addr", "bool", "float", "double", "string", "UUID", "Offset"]

/-- the 20 heads with a codec and the number of arguments each takes (`none`: any number) -/
def headArity (s : String) : Option (Option Nat) :=
  if s ∈ leafNames then some (some 0)
  else if s = "sequence" ∨ s = "set" then some (some 1)
  else if s = "mapping" then some (some 2)
  else if s = "tuple" ∨ s = "variant" then some none
  else none

mutual
def supported : Tree → Bool
  | .node n ks =>
    supportedList ks &&
      (match headArity (String.ofList n) with
       | some (some k) => ks.length == k
       | some none => true
       | none => false)
def supportedList : List Tree → Bool
  | [] => true
  | t :: ts => supported t && supportedList ts
end

theorem mem_leafNames_iff (s : String) : s ∈ leafNames ↔ ∃ l, leafOfName s = some l := by
  have hn : leafNames = Leaf.all.map leafName := rfl
  rw [hn, List.mem_map]
  constructor
  · rintro ⟨l, _, rfl⟩
    exact ⟨l, leafOfName_leafName l⟩
  · rintro ⟨l, h⟩
    exact ⟨l, l.mem_all, (leafOfName_eq_some s l h).symm⟩

theorem treesOf_length (ts : List Ty) : (treesOf ts).length = ts.length := by
  induction ts with
  | nil => rfl
  | cons t ts ih => simp [treesOf, ih]

theorem headArity_leaf (s : String) (l : Leaf) (h : leafOfName s = some l) :
    headArity s = some (some 0) := by
  simp [headArity, (mem_leafNames_iff s).2 ⟨l, h⟩]

theorem headArity_container :
    headArity "sequence" = some (some 1) ∧ headArity "set" = some (some 1) ∧
    headArity "mapping" = some (some 2) ∧ headArity "tuple" = some none ∧
    headArity "variant" = some none := by decide

theorem headArity_unknown (s : String) (h : leafOfName s = none) (h1 : s ≠ "sequence")
    (h2 : s ≠ "set") (h3 : s ≠ "mapping") (h4 : s ≠ "tuple") (h5 : s ≠ "variant") :
    headArity s = none := by
  have : ¬ s ∈ leafNames := by
    rw [mem_leafNames_iff]
    rintro ⟨l, hl⟩
    rw [h] at hl
    cases hl
  simp [headArity, *]

mutual
theorem noUnknown_iff_supported : ∀ (tr : Tree) (t : Ty), tyOfTree tr = some t →
    (noUnknown t = true ↔ supported tr = true)
  | .node n ks, t, h => by
    obtain ⟨args, ha⟩ := tysOfTrees_isSome ks
    have ih := noUnknownList_iff_supportedList ks args ha
    have hlen : ks.length = args.length := by
      rw [← treesOf_tysOfTrees ks args ha, treesOf_length]
    obtain ⟨t', ht', hh⟩ := tyOfTree_head n ks args ha
    obtain rfl : t' = t := Option.some.inj (ht'.symm.trans h)
    simp only [supported, Bool.and_eq_true, ← ih, hlen]
    generalize String.ofList n = s at hh
    obtain ⟨a1, a2, a3, a4, a5⟩ := headArity_container
    cases hh with
    | leaf hl => simp [noUnknown, noUnknownList, headArity_leaf _ _ hl]
    | leafArity hl hne => simp [noUnknown, headArity_leaf _ _ hl, hne]
    | seq => simp [noUnknown, noUnknownList, a1]
    | seqArity hne => simp [noUnknown, a1, hne]
    | set => simp [noUnknown, noUnknownList, a2]
    | setArity hne => simp [noUnknown, a2, hne]
    | map => simp [noUnknown, noUnknownList, a3]
    | mapArity hne => simp [noUnknown, a3, hne]
    | tuple => simp [noUnknown, a4]
    | variant => simp [noUnknown, a5]
    | unknown hl h1 h2 h3 h4 h5 => simp [noUnknown, headArity_unknown s hl h1 h2 h3 h4 h5]
theorem noUnknownList_iff_supportedList : ∀ (ks : List Tree) (ts : List Ty),
    tysOfTrees ks = some ts → (noUnknownList ts = true ↔ supportedList ks = true)
  | [], _, rfl => Iff.rfl
  | k :: ks, ts, h => by
    simp only [tysOfTrees] at h
    split at h
    · rename_i a b ha hb
      cases h
      simp [noUnknownList, supportedList, noUnknown_iff_supported k a ha,
        noUnknownList_iff_supportedList ks b hb]
    · cases h
end

mutual
/-- no head without codec anywhere in the type (arguments of wrong-arity heads included) -/
def knownHeads : Ty → Bool
  | .leaf _ => true
  | .seq t => knownHeads t
  | .set t => knownHeads t
  | .map k v => knownHeads k && knownHeads v
  | .tuple ts => knownHeadsList ts
  | .variant ts => knownHeadsList ts
  | .unknown _ _ => false
  | .badArity _ args => knownHeadsList args
def knownHeadsList : List Ty → Bool
  | [] => true
  | t :: ts => knownHeads t && knownHeadsList ts
end

/-- the three predicates are the same recursion over the type -/
theorem noUnknown_iff_all :
    (∀ t : Ty, noUnknown t = true ↔ (arityOk t = true ∧ knownHeads t = true)) ∧
    ∀ ts : List Ty, noUnknownList ts = true ↔ (arityOkList ts = true ∧ knownHeadsList ts = true) := by
  apply noUnknown.mutual_induct <;>
    simp_all [noUnknown, noUnknownList, arityOk, arityOkList, knownHeads, knownHeadsList, and_assoc,
      and_left_comm]

theorem noUnknownList_iff : ∀ ts : List Ty,
    noUnknownList ts = true ↔ (arityOkList ts = true ∧ knownHeadsList ts = true) :=
  noUnknown_iff_all.2

theorem noUnknown_of_tyOfName (s : String) (t : Ty) (_h : tyOfName s = some t)
    (ha : arityOk t = true) (hk : knownHeads t = true) : noUnknown t = true :=
  (noUnknown_iff_all.1 t).2 ⟨ha, hk⟩

/-- the supported type names: the strings the grammar generates (C15) whose heads are among the
20 with a codec, each with the number of arguments its codec takes. They are exactly the
printed names of the types `C07_roundtrip` ranges over beyond the partially-unknown ones. -/
theorem C07_supported_names (s : String) :
    (∃ tr, parseType s.toList = some tr ∧ supported tr = true) ↔
      ∃ t, noUnknown t = true ∧ s = String.ofList (nameOf t) := by
  constructor
  · rintro ⟨tr, hp, hs⟩
    obtain ⟨t, ht⟩ := tyOfTree_isSome tr
    have hn : tyOfName s = some t := by simp [tyOfName, hp, ht]
    exact ⟨t, (noUnknown_iff_supported tr t ht).2 hs, (nameOf_tyOfName s t hn).symm⟩
  · rintro ⟨t, hn, rfl⟩
    refine ⟨treeOf t, ?_, (noUnknown_iff_supported _ t (tyOfTree_treeOf t hn)).1 hn⟩
    simp [nameOf, C15_complete (treeOf t) (WF_treeOf t hn)]

open Gtirb.AuxTable in
/-- C07 at the level the property speaks at (type NAMES, the table-level encoder / decoder):
for every name denoting a type and every value of that type, saving succeeds and reading what
was saved - whatever follows it - hands back the value -/
theorem C07_roundtrip_name (lookup : Bytes → Option Nat) (nodeUuid : Nat → Bytes) (name : String)
    (ty : Ty) (v : Val) (hty : tyOfName name = some ty) (h : hasType lookup nodeUuid ty v = true) :
    ∃ bs, encodeTop nodeUuid name (.val v) = .ok bs ∧
      ∀ rest, decodeTop lookup name (bs ++ rest) = .ok (.val v) := by
  obtain ⟨bs, hb, hd⟩ := C07_roundtrip lookup nodeUuid ty v h
  obtain ⟨tr, hp, htr⟩ := tyOfName_eq_some.1 hty
  exact ⟨bs, by simp [encodeTop, hp, htr, hb], fun rest => by simp [decodeTop, hp, htr, hd]⟩

open Gtirb.AuxTable in
/-- ... and for every SUPPORTED type name, named by the type it denotes -/
theorem C07_roundtrip_supported (lookup : Bytes → Option Nat) (nodeUuid : Nat → Bytes) (t : Ty)
    (ht : noUnknown t = true) (v : Val) (h : hasType lookup nodeUuid t v = true) :
    ∃ bs, encodeTop nodeUuid (String.ofList (nameOf t)) (.val v) = .ok bs ∧
      ∀ rest, decodeTop lookup (String.ofList (nameOf t)) (bs ++ rest) = .ok (.val v) :=
  C07_roundtrip_name lookup nodeUuid _ t v (tyOfName_nameOf t ht) h

def exNamedTy : Ty := .map (.leaf .string) (.seq (.tuple [.leaf .uuid, .leaf .i16]))

example : noUnknown exNamedTy = true := by decide
theorem exNamedTy_name :
    tyOfName "mapping<string,sequence<tuple<UUID,int16_t>>>" = some exNamedTy :=
  tyOfName_eq (by decide +kernel)
example : nameOf exNamedTy = "mapping<string,sequence<tuple<UUID,int16_t>>>".toList := by
  rw [← nameOf_tyOfName _ _ exNamedTy_name, String.toList_ofList]
example : nameOf (.tuple []) = "tuple".toList := by
  simp [nameOf, treeOf, treesOf, render]

open Gtirb.AuxTable in
/-- `C07_roundtrip_name` on `{"hé": [(node 1, -2)]}` under that name -/
example : ∃ bs, encodeTop exNodeUuid "mapping<string,sequence<tuple<UUID,int16_t>>>"
      (.val (.map [.str "hé"] [.seq [.tuple [.node 1, .int (-2)]]])) = .ok bs ∧
    ∀ rest, decodeTop exLookup "mapping<string,sequence<tuple<UUID,int16_t>>>" (bs ++ rest) =
      .ok (.val (.map [.str "hé"] [.seq [.tuple [.node 1, .int (-2)]]])) :=
  C07_roundtrip_name exLookup exNodeUuid _ exNamedTy _ exNamedTy_name (by
    simp only [exNamedTy, hasType, hasTypeTuple, leafHasType, allMany, utf8_length_eq,
      Bool.and_eq_true, decide_eq_true_eq]
    decide)
/-- a known head with a wrong arity, an unknown head: parse, but are not supported -/
example : supported (.node "sequence".toList [.node "bool".toList [], .node "bool".toList []]) = false := by
  simp [supported, supportedList, headArity, leafNames]
example : supported (.node "foo".toList []) = false := by
  simp [supported, supportedList, headArity, leafNames]
example : supported (.node "mapping".toList [.node "string".toList [], .node "tuple".toList []]) = true := by
  simp [supported, supportedList, headArity, leafNames]

/-- (b) RESOLUTION AT ANY DEPTH.  Every value the encoder accepts (`hasType'`: as `hasType`,
but a UUID-typed element is ANY 16-byte UUID or any node with a 16-byte uuid, whether or not
the lookup table knows it, and sets / mapping keys need not be distinct) is written, and what
is read back - whatever follows - is its resolution: every UUID position, at any depth
(inside offsets, sequences, tuples, variants, sets, mapping keys and values), holds the node
the 16 bytes name if they name one and the plain UUID otherwise; sets and mappings are rebuilt
from the resolved elements by the decoder's own `set.add` / `dict[k] = v` (`dedup`,
`mapBuild`), so elements that resolve to the same thing collapse.
No hypothesis relates `lookup` and `nodeUuid` (`Coherent` is not needed for this direction). -/
theorem C07_resolution (lookup : Bytes → Option Nat) (nodeUuid : Nat → Bytes) (t : Ty) (v : Val)
    (h : hasType' nodeUuid t v = true) :
    ∃ bs, encode nodeUuid t v = some bs ∧
      ∀ rest, decode lookup t (bs ++ rest) = .ok (resolve lookup nodeUuid v, rest) :=
  resolution lookup nodeUuid t v h

section
variable (nu : Nat → Bytes)

theorem encodeElem_elemOk' {e : Val} {u : Bytes} (h : encodeElem nu e = some u) :
    elemOk' nu e = true := by
  obtain ⟨rfl | ⟨id, rfl, rfl⟩, hl⟩ := encodeElem_eq_some.1 h <;> simp [elemOk', hl]

/-- along the cases of `encodeLeaf`: each successful one is the matching case of `leafHasType'` -/
theorem encodeLeaf_hasType' {l : Leaf} {v : Val} {bs : Bytes} (h : encodeLeaf nu l v = some bs) :
    leafHasType' nu l v = true := by
  revert h
  fun_cases encodeLeaf nu l v <;> intro h
  case case1 => rfl -- bool
  case case2 hb => exact decide_eq_true hb -- float
  case case4 hb => exact decide_eq_true hb -- double
  case case6 hb => exact decide_eq_true hb -- string
  case case8 => exact encodeElem_elemOk' nu h -- UUID
  case case9 u hu hd => simp [leafHasType', encodeElem_elemOk' nu hu, hd] -- Offset
  case case12 hl => simp [leafHasType', hl, (encodeInt_eq_some.1 h).1] -- the integers
  all_goals cases h

theorem encodeMany_allMany {f : Val → Option Bytes} {p : Val → Bool}
    (ih : ∀ x a, f x = some a → p x = true) :
    ∀ {xs : List Val} {body : Bytes}, encodeMany f xs = some body → allMany p xs = true
  | [], _, _ => rfl
  | x :: xs, body, h => by
    obtain ⟨a, b, ha, hb, _⟩ := (C08_many_cons f x xs body).1 h
    simp [allMany, ih x a ha, encodeMany_allMany ih hb]

theorem encodeManyPairs_allMany {f g : Val → Option Bytes} {p q : Val → Bool}
    (ihf : ∀ x a, f x = some a → p x = true) (ihg : ∀ x a, g x = some a → q x = true) :
    ∀ {ks vs : List Val} {body : Bytes}, encodeManyPairs f g ks vs = some body →
      allMany p ks = true ∧ allMany q vs = true
  | [], [], _, _ => ⟨rfl, rfl⟩
  | [], _ :: _, body, h => by simp [encodeManyPairs] at h
  | _ :: _, [], body, h => by simp [encodeManyPairs] at h
  | k :: ks, v :: vs, body, h => by
    obtain ⟨a, b, c, ha, hb, hc, _⟩ := (C08_manyPairs_cons f g k v ks vs body).1 h
    obtain ⟨h1, h2⟩ := encodeManyPairs_allMany ihf ihg hc
    simp [allMany, ihf k a ha, ihg v b hb, h1, h2]

mutual
theorem encode_hasType' : ∀ (t : Ty) (v : Val) (bs : Bytes), encode nu t v = some bs →
    hasType' nu t v = true
  | .leaf l, v, bs, h => encodeLeaf_hasType' nu h
  | .seq t, v, bs, h => by
    cases v with
    | seq xs =>
      obtain ⟨body, hb, hl, _⟩ := encode_seq_iff.1 h
      simp [hasType', hl, encodeMany_allMany (encode_hasType' t) hb]
    | _ => simp [encode] at h
  | .set t, v, bs, h => by
    cases v with
    | set xs =>
      obtain ⟨body, hb, hl, _⟩ := encode_set_iff.1 h
      simp [hasType', hl, encodeMany_allMany (encode_hasType' t) hb]
    | _ => simp [encode] at h
  | .map kt vt, v, bs, h => by
    cases v with
    | map ks vs =>
      obtain ⟨body, hb, hl, _⟩ := encode_map_iff.1 h
      obtain ⟨h1, h2⟩ := encodeManyPairs_allMany (encode_hasType' kt) (encode_hasType' vt) hb
      have hlen := C08_manyPairs_length _ _ ks vs body hb
      simp [hasType', h1, h2, hlen]
      omega
    | _ => simp [encode] at h
  | .tuple ts, v, bs, h => by
    cases v with
    | tuple xs =>
      exact encodeTuple_hasType' ts xs bs h
    | _ => simp [encode] at h
  | .variant ts, v, bs, h => by
    cases v with
    | variant i x =>
      obtain ⟨body, hb, hl, _⟩ := encode_variant_iff.1 h
      simp [hasType', hl, encodeNth_hasType' ts i x body hb]
    | _ => simp [encode] at h
  | .unknown _ _, v, _, h => nomatch v, h
  | .badArity _ _, v, _, h => nomatch v, h
theorem encodeTuple_hasType' : ∀ (ts : List Ty) (xs : List Val) (bs : Bytes),
    encodeTuple nu ts xs = some bs → hasTypeTuple' nu ts xs = true
  | [], [], _, _ => rfl
  | [], _ :: _, _, h => nomatch h
  | _ :: _, [], _, h => nomatch h
  | t :: ts, x :: xs, bs, h => by
    obtain ⟨a, b, ha, hb, _⟩ := append_eq_some.1 h
    simp [hasTypeTuple', encode_hasType' t x a ha, encodeTuple_hasType' ts xs b hb]
theorem encodeNth_hasType' : ∀ (ts : List Ty) (i : Nat) (v : Val) (bs : Bytes),
    encodeNth nu ts i v = some bs → hasTypeNth' nu ts i v = true
  | [], _, _, _, h => nomatch h
  | t :: _, 0, v, bs, h => encode_hasType' t v bs h
  | _ :: ts, i + 1, v, bs, h => encodeNth_hasType' ts i v bs h
end
end

/-- the values of `hasType'` are exactly the values the encoder accepts -/
theorem hasType'_iff_encode (nu : Nat → Bytes) (t : Ty) (v : Val) :
    hasType' nu t v = true ↔ ∃ bs, encode nu t v = some bs :=
  ⟨fun h => (resolution (fun _ => none) nu t v h).imp fun _ hb => hb.1,
   fun ⟨bs, h⟩ => encode_hasType' nu t v bs h⟩

/-- `C07_resolution` without any typing hypothesis: WHATEVER the encoder writes, the decoder
reads back as the resolution of the value written -/
theorem C07_resolution_encode (lookup : Bytes → Option Nat) (nodeUuid : Nat → Bytes) (t : Ty)
    (v : Val) (bs : Bytes) (h : encode nodeUuid t v = some bs) (rest : Bytes) :
    decode lookup t (bs ++ rest) = .ok (resolve lookup nodeUuid v, rest) := by
  obtain ⟨bs', hb, hd⟩ := C07_resolution lookup nodeUuid t v (encode_hasType' nodeUuid t v bs h)
  rw [h] at hb
  cases hb
  exact hd rest

/-- the values of `hasType` are among them ... -/
theorem hasType_hasType' (lookup : Bytes → Option Nat) (nu : Nat → Bytes) (t : Ty) (v : Val)
    (h : hasType lookup nu t v = true) : hasType' nu t v = true :=
  (canon lookup nu t v h).1

/-- ... and are fixed points of the resolution: `C07_roundtrip` is the special case of
`C07_resolution` on canonical values (nodes the table knows, plain UUIDs it does not know,
distinct set elements / mapping keys) -/
theorem resolve_of_hasType (lookup : Bytes → Option Nat) (nu : Nat → Bytes) (t : Ty) (v : Val)
    (h : hasType lookup nu t v = true) : resolve lookup nu v = v :=
  (canon lookup nu t v h).2

/-- under `Coherent` (a UUID the table resolves to a node is that node's UUID: true of every
IR, `get_by_uuid` finds a node under `node.uuid`) what comes back is a canonical value of the
type ... -/
theorem C07_resolution_hasType (lookup : Bytes → Option Nat) (nu : Nat → Bytes)
    (hc : Coherent lookup nu) (t : Ty) (v : Val) (h : hasType' nu t v = true) :
    hasType lookup nu t (resolve lookup nu v) = true := by
  obtain ⟨bs, _, hd⟩ := C07_resolution lookup nu t v h
  exact decode_hasType lookup nu hc t (bs ++ []) [] _ (hd [])

/-- ... so that saving and reading it once more changes nothing: resolution is idempotent -/
theorem resolve_idem (lookup : Bytes → Option Nat) (nu : Nat → Bytes)
    (hc : Coherent lookup nu) (t : Ty) (v : Val) (h : hasType' nu t v = true) :
    resolve lookup nu (resolve lookup nu v) = resolve lookup nu v :=
  resolve_of_hasType lookup nu t _ (C07_resolution_hasType lookup nu hc t v h)

/-- the 16 bytes a UUID-typed element stands for -/
def elemBytes (nu : Nat → Bytes) : Val → Bytes
  | .uuid u => u
  | .node id => nu id
  | _ => []

theorem resolve_elem (lookup : Bytes → Option Nat) (nu : Nat → Bytes) (e : Val)
    (h : elemOk' nu e = true) : resolve lookup nu e = resolveBytes lookup (elemBytes nu e) := by
  cases e <;> simp [elemOk'] at h <;> simp [resolve, elemBytes]

/-- under `Coherent`, different bytes never resolve to the same thing: two plain UUIDs cannot
both resolve to one node (`lookup u = some id = lookup u'` gives `u = nu id = u'`) -/
theorem resolveBytes_inj (lookup : Bytes → Option Nat) (nu : Nat → Bytes) (hc : Coherent lookup nu)
    (u u' : Bytes) (h : resolveBytes lookup u = resolveBytes lookup u') : u = u' := by
  unfold resolveBytes at h
  cases h1 : lookup u with
  | none =>
    cases h2 : lookup u' with
    | none =>
      rw [h1, h2] at h
      simpa using h
    | some id' =>
      rw [h1, h2] at h
      cases h
  | some id =>
    cases h2 : lookup u' with
    | none =>
      rw [h1, h2] at h
      cases h
    | some id' =>
      rw [h1, h2] at h
      simp only [Val.node.injEq] at h
      subst h
      rw [← hc u id h1, ← hc u' id h2]

/-- so two elements of a set / two keys collapse exactly when they are two spellings of ONE
UUID: the same 16 bytes twice, or a plain UUID beside the node (or two node objects) bearing
it.  A value all of whose UUID-typed set elements / keys stand for different bytes - e.g.
one that holds only nodes, or only plain UUIDs - loses nothing. -/
theorem resolve_elem_eq_iff (lookup : Bytes → Option Nat) (nu : Nat → Bytes)
    (hc : Coherent lookup nu) (e e' : Val) (he : elemOk' nu e = true) (he' : elemOk' nu e' = true) :
    resolve lookup nu e = resolve lookup nu e' ↔ elemBytes nu e = elemBytes nu e' := by
  rw [resolve_elem lookup nu e he, resolve_elem lookup nu e' he']
  exact ⟨resolveBytes_inj lookup nu hc _ _, fun h => by rw [h]⟩

/-- what `hasType'` would have to demand for a set to come back element by element: its
elements pairwise distinct AFTER resolution -/
theorem resolve_set_of_distinct (lookup : Bytes → Option Nat) (nu : Nat → Bytes) (xs : List Val)
    (h : pairwiseDistinct (xs.map (resolve lookup nu)) = true) :
    resolve lookup nu (.set xs) = .set (xs.map (resolve lookup nu)) := by
  rw [resolve, resolveList_eq_map, dedup_of_pairwiseDistinct _ h]

theorem resolve_map_of_distinct (lookup : Bytes → Option Nat) (nu : Nat → Bytes)
    (ks vs : List Val) (hl : ks.length = vs.length)
    (h : pairwiseDistinct (ks.map (resolve lookup nu)) = true) :
    resolve lookup nu (.map ks vs) =
      .map (ks.map (resolve lookup nu)) (vs.map (resolve lookup nu)) := by
  rw [resolve, resolveList_eq_map, resolveList_eq_map,
    mapBuild_of_pairwiseDistinct _ _ (by simpa using hl) h]

/-! Examples on the IR of `Props/C07.lean`: nodes 1 and 2, uuids 16 x `01`, 16 x `02`. -/

/-- `sequence<tuple<UUID,set<Offset>>>` holding PLAIN UUIDs that name nodes, two levels down:
not a value of `hasType` (`C07_roundtrip` is silent), a value of `hasType'` -/
def exDeep : Val :=
  .seq [.tuple [.uuid (List.replicate 16 1),
    .set [.offset (.uuid (List.replicate 16 2)) 5, .offset (.uuid (List.replicate 16 9)) 0]]]
def exDeepTy : Ty := .seq (.tuple [.leaf .uuid, .set (.leaf .offset)])

example : hasType exLookup exNodeUuid exDeepTy exDeep = false := by decide
example : hasType' exNodeUuid exDeepTy exDeep = true := by decide
/-- they come back as the nodes; the UUID naming no node stays a plain UUID -/
example : resolve exLookup exNodeUuid exDeep =
    .seq [.tuple [.node 1,
      .set [.offset (.node 2) 5, .offset (.uuid (List.replicate 16 9)) 0]]] := by rfl
example : ∃ bs, encode exNodeUuid exDeepTy exDeep = some bs ∧
    ∀ rest, decode exLookup exDeepTy (bs ++ rest) =
      .ok (.seq [.tuple [.node 1,
        .set [.offset (.node 2) 5, .offset (.uuid (List.replicate 16 9)) 0]]], rest) :=
  C07_resolution exLookup exNodeUuid exDeepTy exDeep (by decide)

/-- the collapse: a Python set holding the UUID of node 1 AND node 1 itself (two different
objects, `pairwiseDistinct`) is written with count 2 and comes back with one element -/
example : pairwiseDistinct [.uuid (List.replicate 16 1), .node 1] = true := by decide
example : resolve exLookup exNodeUuid (.set [.uuid (List.replicate 16 1), .node 1]) =
    .set [.node 1] := by rfl
example : encode exNodeUuid (.set (.leaf .uuid)) (.set [.uuid (List.replicate 16 1), .node 1]) =
    some ([2, 0, 0, 0, 0, 0, 0, 0] ++ List.replicate 16 1 ++ List.replicate 16 1) := by decide
example (rest : Bytes) : decode exLookup (.set (.leaf .uuid))
    ([2, 0, 0, 0, 0, 0, 0, 0] ++ List.replicate 16 1 ++ List.replicate 16 1 ++ rest) =
    .ok (.set [.node 1], rest) :=
  C07_resolution_encode exLookup exNodeUuid (.set (.leaf .uuid))
    (.set [.uuid (List.replicate 16 1), .node 1]) _ (by decide) rest
/-- in a mapping the first spelling keeps its place and the last value wins -/
example : resolve exLookup exNodeUuid
    (.map [.uuid (List.replicate 16 1), .uuid (List.replicate 16 7), .node 1]
      [.int 10, .int 20, .int 30]) =
    .map [.node 1, .uuid (List.replicate 16 7)] [.int 30, .int 20] := by rfl
/-- a node the table does not know (not in the IR) comes back as its plain UUID -/
example : resolve exLookup exNodeUuid (.node 5) = .uuid (List.replicate 16 5) := by rfl
/-- `Coherent` holds of the example IR -/
example : Coherent exLookup exNodeUuid := exLookup_coherent

end Gtirb.Codec
