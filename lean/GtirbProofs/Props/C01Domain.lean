import GtirbProofs.Props.C01
import GtirbProofs.Lemmas.WfDeepEq
import GtirbProofs.Props.C17
import GtirbProofs.Props.C07
/-! C01, the domain of the round trip made explicit: the version clause of `wfir` is a genuine
restriction (an `IR(version=3)` of the public API is written and then rejected), not an artefact
of the proof; apart from two named side conditions `wfir` hides no further one; and the AuxData
tables come back for every IR the reader accepts again, `wfir` or not. -/
namespace Gtirb.Msg
open Gtirb

/-- an IR whose `version` differs from the current protobuf version is written (the
writer is total and copies the field, first conjunct) and what is written is rejected by
the reader with `ValueError`. Python: `IR(version=3).save_protobuf(f)` succeeds,
`IR.load_protobuf(f)` raises `ValueError` (ir.py:97-101). -/
theorem C01_version_rejected (v : IRV) (hv : v.version ≠ Generated.protobufVersion) :
    (toMsg v).version = v.version ∧ fromMsg (toMsg v) = .error .valueError :=
  ⟨rfl, C17_version_field (toMsg v) hv⟩

/-- hence such an IR is outside the domain of the round trip whatever else holds -/
theorem C01_version_necessary (v : IRV) (h : fromMsg (toMsg v) = .ok v) :
    v.version = Generated.protobufVersion := by
  apply Classical.byContradiction
  intro hv
  rw [(C01_version_rejected v hv).2] at h
  cases h

/-- lifted through the header: the file is produced and rejected with the message-level
`ValueError`, for any `parse` inverting `serialize` -/
theorem C01_version_rejected_bytes (serialize : MIR → Bytes) (parse : Bytes → Option MIR)
    (hps : ∀ m, parse (serialize m) = some m) (v : IRV)
    (hv : v.version ≠ Generated.protobufVersion) :
    loadBytes parse (saveBytes serialize v) = .error (.msg .valueError) :=
  loadBytes_msg_error (hps _) (C01_version_rejected v hv).2

def exVersion3 : IRV := { exIR with version := 3 }

/-- non-vacuity: the version is the *only* thing wrong with `exVersion3` -/
example : wfir exVersion3 = false ∧ wfir { exVersion3 with version := Generated.protobufVersion } = true :=
  ⟨Bool.eq_false_iff.2 fun h => absurd (C01_version_necessary _ (C01_roundtrip _ h)) (by decide), wfir_exIR⟩
example : fromMsg (toMsg exVersion3) = .error .valueError :=
  (C01_version_rejected exVersion3 (by decide)).2

/-- the two side conditions under which "accepted again" implies `wfir`:
no interval shares the UUID of one of its own blocks (the one duplicate the staged reader
lets through, `C17_accepted_dup_counterexample`) ... -/
def NoIntervalBlockClash (v : IRV) : Prop :=
  ∀ mod ∈ v.modules, ∀ s ∈ mod.sections, ∀ x ∈ s.intervals, x.uuid ∉ x.blockUuids

/-- ... and map keys are pairwise distinct (AuxData names per IR / module, expression
offsets per interval: Python dicts, always so) -/
def MapKeysDistinct (v : IRV) : Prop :=
  (v.aux.map (·.key)).Nodup ∧ ∀ mod ∈ v.modules, (mod.aux.map (·.key)).Nodup ∧
    ∀ s ∈ mod.sections, ∀ x ∈ s.intervals, (x.exprs.map (·.key)).Nodup

instance (v : IRV) : Decidable (NoIntervalBlockClash v) := by
  unfold NoIntervalBlockClash; infer_instance
instance (v : IRV) : Decidable (MapKeysDistinct v) := by
  unfold MapKeysDistinct; infer_instance

theorem wfir_noClash {v : IRV} (h : wfir v = true) : NoIntervalBlockClash v := by
  intro mod hmod s hs x hx hmem
  have hn := ((section_interval_sub hx).trans ((module_section_sub hs).trans (ir_module_sub hmod))).nodup
    (wfir_iff.1 h).nodup
  rw [List.nodup_append] at hn
  exact hn.2.2 x.uuid hmem x.uuid (by simp) rfl

theorem wfir_keysDistinct {v : IRV} (h : wfir v = true) : MapKeysDistinct v :=
  have d := distinctSiblings_of_wfir (wfir_iff.1 h)
  ⟨d.2.2.1, fun _ hm => ⟨(d.mod hm).2.2.2.1, fun _ hs _ hx => (((d.mod hm).sec hs).int hx).2.1⟩⟩

/-- apart from the two named side conditions, `wfir` is exactly the domain on which
save-then-load reproduces the IR -/
theorem C01_wfir_iff (v : IRV) (hside : NoIntervalBlockClash v) (hkeys : MapKeysDistinct v) :
    fromMsg (toMsg v) = .ok v ↔ wfir v = true :=
  ⟨fun h => C17_accepted_wfir_partial (toMsg v) v h hside hkeys, C01_roundtrip v⟩

/-- the same without hypotheses: the side conditions are themselves consequences of `wfir` -/
theorem C01_wfir_iff' (v : IRV) :
    wfir v = true ↔
      (fromMsg (toMsg v) = .ok v ∧ NoIntervalBlockClash v ∧ MapKeysDistinct v) :=
  ⟨fun h => ⟨C01_roundtrip v h, wfir_noClash h, wfir_keysDistinct h⟩,
   fun h => (C01_wfir_iff v h.2.1 h.2.2).1 h.1⟩

/-- non-vacuity, both ways -/
example : fromMsg (toMsg exIR) = .ok exIR ∧ NoIntervalBlockClash exIR ∧ MapKeysDistinct exIR :=
  (C01_wfir_iff' exIR).1 wfir_exIR
example : ¬ (fromMsg (toMsg exDangling) = .ok exDangling) := by
  intro h
  have hw : wfir exDangling = true :=
    (C01_wfir_iff exDangling (by decide) (by decide)).1 h
  rw [wfir_exDangling] at hw
  cases hw

/-- whatever the reader makes of what the writer emitted, the AuxData tables (IR level
and per module, in order) come back entry for entry: key, type name and bytes. No
self-containedness is needed. -/
theorem C01_aux_tables (v v' : IRV) (hl : fromMsg (toMsg v) = .ok v') :
    v'.aux = v.aux ∧ v'.modules.map (·.aux) = v.modules.map (·.aux)
      ∧ v'.modules.map (·.uuid) = v.modules.map (·.uuid) := by
  obtain ⟨_, rfl⟩ := fromMsg_ok_iff.1 hl
  refine ⟨decodeAux_toMsg v.aux, ?_, ?_⟩
  · rw [ofMsg_modules, toMsg, List.map_map, List.map_map]
    exact List.map_congr_left fun m _ => decodeAux_toMsg m.aux
  · rw [ofMsg_modules, toMsg, List.map_map, List.map_map]
    rfl

/-- the decoded *value* of an IR-level AuxData entry survives save-then-load: if `x` is a
value of type `t` (`hasType`) whose encoding is the stored bytes, then the loaded IR has
an entry with the same key and type name whose bytes decode to `x` (all bytes consumed) -/
theorem C01_aux_values (lookup : Bytes → Option Nat) (nodeUuid : Nat → Bytes)
    (t : Codec.Ty) (x : Codec.Val) (ht : Codec.hasType lookup nodeUuid t x = true)
    (v v' : IRV) (a : AuxV) (ha : a ∈ v.aux) (henc : Codec.encode nodeUuid t x = some a.data)
    (hl : fromMsg (toMsg v) = .ok v') :
    ∃ a' ∈ v'.aux, a'.key = a.key ∧ a'.typeName = a.typeName
      ∧ Codec.decode lookup t a'.data = .ok (x, []) := by
  refine ⟨a, (C01_aux_tables v v' hl).1 ▸ ha, rfl, rfl, ?_⟩
  simpa using Codec.decode_encode ht henc []

/-- the module-level twin: the module is found again by its UUID at the same position -/
theorem C01_aux_values_module (lookup : Bytes → Option Nat) (nodeUuid : Nat → Bytes)
    (t : Codec.Ty) (x : Codec.Val) (ht : Codec.hasType lookup nodeUuid t x = true)
    (v v' : IRV) (mod : ModuleV) (hmod : mod ∈ v.modules) (a : AuxV) (ha : a ∈ mod.aux)
    (henc : Codec.encode nodeUuid t x = some a.data)
    (hl : fromMsg (toMsg v) = .ok v') :
    ∃ mod' ∈ v'.modules, mod'.uuid = mod.uuid ∧ ∃ a' ∈ mod'.aux, a'.key = a.key
      ∧ a'.typeName = a.typeName ∧ Codec.decode lookup t a'.data = .ok (x, []) := by
  have hd := Codec.decode_encode ht henc
  obtain ⟨_, h2, h3⟩ := C01_aux_tables v v' hl
  have hp : v'.modules.map (fun m => (m.uuid, m.aux)) = v.modules.map (fun m => (m.uuid, m.aux)) := by
    rw [← List.zip_map', ← List.zip_map', h2, h3]
  obtain ⟨mod', hm', e⟩ := List.mem_map.1 (hp ▸ List.mem_map_of_mem (f := fun m : ModuleV => (m.uuid, m.aux)) hmod)
  exact ⟨mod', hm', (Prod.mk.inj e).1, a, (Prod.mk.inj e).2 ▸ ha, rfl, rfl, by simpa using hd []⟩

/-- non-vacuity: `exIR`'s module table `k1 : mapping<UUID,uint64_t>` holds the encoding of
the empty mapping; it comes back as the empty mapping -/
example : ∃ mod' ∈ exIR.modules, mod'.uuid = exU 2 ∧ ∃ a' ∈ mod'.aux, a'.key = "k1"
    ∧ a'.typeName = "mapping<UUID,uint64_t>"
    ∧ Codec.decode Codec.exLookup (.map (.leaf .uuid) (.leaf .u64)) a'.data = .ok (.map [] [], []) :=
  C01_aux_values_module Codec.exLookup Codec.exNodeUuid (.map (.leaf .uuid) (.leaf .u64)) (.map [] [])
    (by decide) exIR exIR _ (List.mem_cons_self) ⟨"k1", "mapping<UUID,uint64_t>", [0, 0, 0, 0, 0, 0, 0, 0]⟩
    (by simp) (by decide) roundtrip_exIR

/-- an IR-level table `n : int32_t` holding -5 -/
def exAuxIR : IRV := { exIR with aux := [⟨"n", "int32_t", [0xfb, 0xff, 0xff, 0xff]⟩] }

theorem wfir_with_aux {v : IRV} (h : wfir v = true) (a : List AuxV)
    (ha : nodupB (a.map (·.key)) = true) : wfir { v with aux := a } = true := by
  have h := wfir_iff.1 h
  exact wfir_iff.2 ⟨h.all16, h.nodup, h.version, h.modules, (nodupB_iff _).1 ha, h.edgesNodup, h.edges⟩

example : ∃ a' ∈ exAuxIR.aux, a'.key = "n" ∧ a'.typeName = "int32_t"
    ∧ Codec.decode Codec.exLookup (.leaf .i32) a'.data = .ok (.int (-5), []) :=
  C01_aux_values Codec.exLookup Codec.exNodeUuid (.leaf .i32) (.int (-5)) (by decide) exAuxIR exAuxIR
    ⟨"n", "int32_t", [0xfb, 0xff, 0xff, 0xff]⟩ (by simp [exAuxIR]) (by decide)
    (C01_roundtrip exAuxIR (wfir_with_aux wfir_exIR _ rfl))

end Gtirb.Msg
