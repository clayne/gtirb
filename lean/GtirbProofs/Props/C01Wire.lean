import GtirbModel.PbMsg
import GtirbProofs.Lemmas.PbMsgProofs
import GtirbProofs.Props.C01
/-! C01 on files: with the protobuf layer instantiated by the wire model
(`Pb.serMIR` / `Pb.parseMIR`, GtirbModel/PbWire.lean + PbMsg.lean), saving an IR
to bytes and loading those bytes yields the same observable content, for an IR whose numbers
and lengths are within the range of the wire format (`wfW`). -/
namespace Gtirb.Msg
open Gtirb Gtirb.Pb

theorem C01_roundtrip_bytes (v : IRV) (h : wfir v = true) (hw : wfW (toMsg v) = true) :
    loadBytes parseMIR (saveBytes serMIR v) = .ok v :=
  loadBytes_ok (parseMIR_serMIR (toMsg v) hw) (C01_roundtrip v h)

theorem C01_resave_bytes_wire (v v' : IRV) (h : wfir v = true) (hw : wfW (toMsg v) = true)
    (hl : loadBytes parseMIR (saveBytes serMIR v) = .ok v') :
    saveBytes serMIR v' = saveBytes serMIR v := by
  rw [C01_roundtrip_bytes v h hw] at hl
  cases hl
  rfl

/-- every field number the serializer and the parser use is the schema's: it exists, is a
legal field number, and the order written is the ascending one (hence pairwise distinct
per message) -/
theorem C01_fno_table : fnoTableOK = true := fnoTable_ok

/-- the file of `exIR`: within the range of the wire format, and not trivial (8 header bytes
and 908 bytes of message). One evaluation: the kernel shares the nested encodings between
the range check and the length. -/
theorem exIR_file : wfW (toMsg exIR) = true ∧ (saveBytes serMIR exIR).length = 916 := by
  decide +kernel

example : wfW (toMsg exIR) = true := exIR_file.1

example : loadBytes parseMIR (saveBytes serMIR exIR) = .ok exIR :=
  C01_roundtrip_bytes exIR wfir_exIR exIR_file.1

example : parseMIR (serMIR (toMsg exIR)) = some (toMsg exIR) :=
  parseMIR_serMIR _ exIR_file.1

example : (saveBytes serMIR exIR).length = 916 := exIR_file.2

/-- the range condition is needed: the `uint32` field `version` is written as the varint of
`2^32 + 4` and read back modulo `2^32`, so the message read back differs -/
def exWide : MIR :=
  { uuid := [], modules := [], auxData := [], version := 2 ^ 32 + 4, cfg := ⟨[], []⟩ }

example : wfW exWide = false := by decide +kernel
example : parseMIR (serMIR exWide) = some { exWide with version := 4 } := by decide +kernel

/-- the reader alone: a hand-made message whose `cfg` field occurs twice (merged), whose
`version` occurs twice (last wins) and which carries an unknown field 2 -/
example :
    parseMIR [0x3a, 0x03, 0x1a, 0x01, 0xaa,   -- cfg { vertices: aa }
              0x30, 0x07,                     -- version 7
              0x12, 0x01, 0x00,               -- unknown field 2
              0x3a, 0x03, 0x1a, 0x01, 0xbb,   -- cfg { vertices: bb }
              0x30, 0x04]                     -- version 4
      = some { uuid := [], modules := [], auxData := [], version := 4,
               cfg := ⟨[[0xaa], [0xbb]], []⟩ } := by decide +kernel

end Gtirb.Msg
