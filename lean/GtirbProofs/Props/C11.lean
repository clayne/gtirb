import GtirbModel.Cfg
import GtirbProofs.Lemmas.ListLemmas
/-! C11: `gtirb.CFG` behaves as a mathematical set of `(source, target, label)` edges.

The store is a list of entries; the invariant `CfgInv` says that every edge is stored
once, so that membership (`contains`), length (`List.length`) and iteration (the list
itself) are those of the finite set `{e | e ∈ g}`. Every public operation preserves the
invariant and has the set-theoretic membership specification. -/
namespace Gtirb.Cfg

def CfgInv (g : Store) : Prop := g.Nodup

instance (g : Store) : Decidable (CfgInv g) := inferInstanceAs (Decidable g.Nodup)

theorem C11_contains (g : Store) (e : Edge) : contains g e = true ↔ e ∈ g := by
  simp [contains]

theorem contains_eq_false (g : Store) (e : Edge) : contains g e = false ↔ e ∉ g := by
  rw [← C11_contains]; simp

theorem C11_add_mem (g : Store) (e e' : Edge) : e' ∈ add g e ↔ e' ∈ g ∨ e' = e := by
  unfold add
  split
  next h =>
    have := (C11_contains g e).1 h
    constructor
    · intro h'; exact Or.inl h'
    · rintro (h' | rfl)
      · exact h'
      · exact this
  next h => simp

theorem C11_add_present (g : Store) (e : Edge) (h : e ∈ g) : add g e = g := by
  simp [add, (C11_contains g e).2 h]

theorem C11_add_len (g : Store) (e : Edge) (h : e ∉ g) : (add g e).length = g.length + 1 := by
  simp [add, (contains_eq_false g e).2 h]

theorem add_inv (g : Store) (e : Edge) (hg : CfgInv g) : CfgInv (add g e) := by
  unfold add CfgInv at *
  split
  · exact hg
  next h =>
    have h' : e ∉ g := fun hm => h ((C11_contains g e).2 hm)
    simpa [List.nodup_append, hg] using fun a ha (hae : a = e) => h' (hae ▸ ha)

theorem C11_discard_mem (g : Store) (e e' : Edge) (hg : CfgInv g) :
    e' ∈ discard g e ↔ e' ∈ g ∧ e' ≠ e := by
  unfold discard
  rw [List.Nodup.mem_erase_iff hg]
  exact And.comm

theorem C11_discard_absent (g : Store) (e : Edge) (h : e ∉ g) : discard g e = g :=
  List.erase_of_not_mem h

theorem C11_discard_len (g : Store) (e : Edge) (h : e ∈ g) :
    (discard g e).length + 1 = g.length := by
  unfold discard
  rw [List.length_erase_of_mem h]
  have : 0 < g.length := List.length_pos_of_mem h
  omega

theorem discard_inv (g : Store) (e : Edge) (hg : CfgInv g) : CfgInv (discard g e) :=
  List.Nodup.erase e hg

theorem C11_remove (g : Store) (e : Edge) :
    remove g e = if e ∈ g then some (discard g e) else none := by
  unfold remove
  by_cases h : e ∈ g
  · simp [h, (C11_contains g e).2 h]
  · simp [h, (contains_eq_false g e).2 h]

theorem C11_pop (g : Store) (e : Edge) :
    popReported g e = if e ∈ g then some (discard g e) else none :=
  C11_remove g e

theorem C11_update_mem (g : Store) (es : List Edge) (e' : Edge) :
    e' ∈ update g es ↔ e' ∈ g ∨ e' ∈ es := by
  unfold update
  induction es generalizing g with
  | nil => simp
  | cons e es ih =>
    rw [List.foldl_cons, ih, C11_add_mem, List.mem_cons, or_assoc]

theorem C11_ior_mem (g : Store) (es : List Edge) (e' : Edge) :
    e' ∈ ior g es ↔ e' ∈ g ∨ e' ∈ es := C11_update_mem g es e'

theorem update_inv (g : Store) (es : List Edge) (hg : CfgInv g) : CfgInv (update g es) :=
  List.foldlRecOn es add hg fun g hg e _ => add_inv g e hg

theorem isub_inv (g : Store) (es : List Edge) (hg : CfgInv g) : CfgInv (isub g es) :=
  List.foldlRecOn es discard hg fun g hg e _ => discard_inv g e hg

theorem C11_isub_mem (g : Store) (es : List Edge) (e' : Edge) (hg : CfgInv g) :
    e' ∈ isub g es ↔ e' ∈ g ∧ e' ∉ es := by
  unfold isub
  induction es generalizing g with
  | nil => simp
  | cons e es ih =>
    rw [List.foldl_cons, ih _ (discard_inv g e hg), C11_discard_mem g e e' hg, List.mem_cons,
      not_or, and_assoc]

theorem iand_eq_isub (g : Store) (es : List Edge) :
    iand g es = isub g (g.filter fun e => !(es.any (· == e))) := rfl

theorem iand_inv (g : Store) (es : List Edge) (hg : CfgInv g) : CfgInv (iand g es) := by
  rw [iand_eq_isub]; exact isub_inv g _ hg

theorem C11_iand_mem (g : Store) (es : List Edge) (e' : Edge) (hg : CfgInv g) :
    e' ∈ iand g es ↔ e' ∈ g ∧ e' ∈ es := by
  rw [iand_eq_isub, C11_isub_mem g _ e' hg]
  by_cases hm : e' ∈ g <;> simp [hm]

def toggle (g : Store) (e : Edge) : Store := if contains g e then discard g e else add g e

theorem ixor_eq (g : Store) (es : List Edge) : ixor g es = es.foldl toggle g := rfl

theorem toggle_inv (g : Store) (e : Edge) (hg : CfgInv g) : CfgInv (toggle g e) := by
  unfold toggle
  split
  · exact discard_inv g e hg
  · exact add_inv g e hg

theorem toggle_mem (g : Store) (e e' : Edge) (hg : CfgInv g) :
    e' ∈ toggle g e ↔ (e' ∈ g ∧ e' ≠ e) ∨ (e' ∉ g ∧ e' = e) := by
  unfold toggle
  split
  next h =>
    have hm := (C11_contains g e).1 h
    rw [C11_discard_mem g e e' hg]
    by_cases h2 : e' = e <;> simp [h2, hm]
  next h =>
    have hm : e ∉ g := fun hm => h ((C11_contains g e).2 hm)
    rw [C11_add_mem]
    by_cases h2 : e' = e <;> simp [h2, hm]

theorem ixor_inv (g : Store) (es : List Edge) (hg : CfgInv g) : CfgInv (ixor g es) :=
  List.foldlRecOn es toggle hg fun g hg e _ => toggle_inv g e hg

theorem C11_ixor_mem (g : Store) (es : List Edge) (e' : Edge) (hg : CfgInv g) (hes : es.Nodup) :
    e' ∈ ixor g es ↔ (e' ∈ g ∧ e' ∉ es) ∨ (e' ∉ g ∧ e' ∈ es) := by
  rw [ixor_eq]
  induction es generalizing g with
  | nil => simp
  | cons e es ih =>
    rw [List.nodup_cons] at hes
    obtain ⟨hne, hes⟩ := hes
    rw [List.foldl_cons, ih _ (toggle_inv g e hg) hes, toggle_mem g e e' hg, List.mem_cons]
    by_cases h2 : e' = e
    · subst h2; simp [hne]
    · simp [h2]

theorem C11_step_inv (g : Store) (op : Op) (g' : Store) (hg : CfgInv g)
    (h : step g op = some g') : CfgInv g' := by
  cases op with
  | add e => cases h; exact add_inv g e hg
  | discard e => cases h; exact discard_inv g e hg
  | remove e | pop e =>
    simp only [step, remove, popReported] at h
    split at h
    · cases h; exact discard_inv g e hg
    · cases h
  | clear => cases h; exact List.nodup_nil
  | update es | ior es => cases h; exact update_inv g es hg
  | iand es => cases h; exact iand_inv g es hg
  | isub es => cases h; exact isub_inv g es hg
  | ixor es => cases h; exact ixor_inv g es hg

theorem C11_step_error (g : Store) (op : Op) :
    step g op = none ↔ (∃ e, (op = .remove e ∨ op = .pop e) ∧ e ∉ g) := by
  cases op with
  | remove e =>
    simp only [step, C11_remove]
    by_cases h : e ∈ g <;> simp [h]
  | pop e =>
    simp only [step, C11_pop]
    by_cases h : e ∈ g <;> simp [h]
  | _ => simp [step]

/-- failed operations are skipped (KeyError leaves the state unchanged); the reachable stores
are `run [] ops` -/
def run (g : Store) (ops : List Op) : Store := ops.foldl (fun g op => (step g op).getD g) g

theorem run_inv (g : Store) (ops : List Op) (hg : CfgInv g) : CfgInv (run g ops) :=
  List.foldl_getD_inv (fun g op g' => C11_step_inv g op g') ops hg

theorem C11_history (ops : List Op) : CfgInv (run [] ops) := run_inv [] ops List.nodup_nil

theorem C11_len_card (g : Store) (hg : CfgInv g) (e : Edge) :
    g.count e = if e ∈ g then 1 else 0 :=
  List.Nodup.count hg

/-- length and iteration are functions of the edge set: two stores with the same members
iterate the same edges (up to order) and have the same length -/
theorem C11_iteration_set (g g' : Store) (hg : CfgInv g) (hg' : CfgInv g')
    (h : ∀ e, e ∈ g ↔ e ∈ g') : g.Perm g' ∧ g.length = g'.length := by
  have hp : g.Perm g' := (List.perm_ext_iff_of_nodup hg hg').2 h
  exact ⟨hp, hp.length_eq⟩

theorem C11_clear_mem (g : Store) (e : Edge) : e ∉ clear g := by
  simp [clear]

theorem C11_none_label_distinct (s d : Nat) (l : Label) :
    (⟨s, d, none⟩ : Edge) ≠ ⟨s, d, some l⟩ := by
  intro h; cases h

set_option linter.unusedVariables false in
/-- (the hypothesis `h` is not needed for membership; it is what makes the two edges
distinct members, see `C11_parallel_len`) -/
theorem C11_parallel (g : Store) (s d : Nat) (l l' : Option Label) (h : l ≠ l') :
    let g' := add (add g ⟨s, d, l⟩) ⟨s, d, l'⟩
    (⟨s, d, l⟩ : Edge) ∈ g' ∧ (⟨s, d, l'⟩ : Edge) ∈ g' := by
  intro g'
  refine ⟨?_, ?_⟩
  · exact (C11_add_mem _ _ _).2 (Or.inl ((C11_add_mem _ _ _).2 (Or.inr rfl)))
  · exact (C11_add_mem _ _ _).2 (Or.inr rfl)

/-- the two parallel edges are distinct members: both are counted by `len` -/
theorem C11_parallel_len (g : Store) (s d : Nat) (l l' : Option Label) (h : l ≠ l')
    (h1 : (⟨s, d, l⟩ : Edge) ∉ g) (h2 : (⟨s, d, l'⟩ : Edge) ∉ g) :
    (add (add g ⟨s, d, l⟩) ⟨s, d, l'⟩).length = g.length + 2 := by
  rw [C11_add_len, C11_add_len _ _ h1]
  rw [C11_add_mem]
  rintro (h' | h')
  · exact h2 h'
  · exact h (by cases h'; rfl)

theorem C11_out_edges (g : Store) (n : Nat) (e : Edge) :
    e ∈ outEdges g n ↔ e ∈ g ∧ e.src = n := by
  simp [outEdges]

theorem C11_in_edges (g : Store) (n : Nat) (e : Edge) :
    e ∈ inEdges g n ↔ e ∈ g ∧ e.dst = n := by
  simp [inEdges]

theorem C11_out_nodup (g : Store) (n : Nat) (hg : CfgInv g) : (outEdges g n).Nodup :=
  List.Pairwise.filter _ hg

theorem C11_in_nodup (g : Store) (n : Nat) (hg : CfgInv g) : (inEdges g n).Nodup :=
  List.Pairwise.filter _ hg

/-! ### a concrete reachable store: two parallel edges with different labels, a self-loop,
a re-added edge, a removed edge, a failed `remove` -/

def exLabel : Label := ⟨1, true, false⟩

def exOps : List Op :=
  [.add ⟨0, 1, none⟩, .add ⟨0, 1, some exLabel⟩, .add ⟨2, 2, none⟩, .add ⟨0, 1, none⟩,
   .add ⟨1, 2, none⟩, .remove ⟨1, 2, none⟩, .remove ⟨3, 3, none⟩,
   .ixor [⟨2, 2, none⟩, ⟨2, 0, none⟩], .update [⟨2, 2, none⟩, ⟨2, 2, none⟩]]

example : run [] exOps = [⟨0, 1, none⟩, ⟨0, 1, some exLabel⟩, ⟨2, 0, none⟩, ⟨2, 2, none⟩] := by
  decide

example :
    ∀ g, g = run [] exOps →
    CfgInv g ∧ g.length = 4 ∧
    contains g ⟨0, 1, none⟩ = true ∧ contains g ⟨0, 1, some exLabel⟩ = true ∧
    contains g ⟨2, 2, none⟩ = true ∧ contains g ⟨1, 2, none⟩ = false ∧
    contains g ⟨0, 1, some ⟨1, true, true⟩⟩ = false ∧
    outEdges g 0 = [⟨0, 1, none⟩, ⟨0, 1, some exLabel⟩] ∧
    inEdges g 2 = [⟨2, 2, none⟩] ∧ outEdges g 2 = [⟨2, 0, none⟩, ⟨2, 2, none⟩] ∧
    step g (.remove ⟨3, 3, none⟩) = none := by
  intro g hg; subst hg; decide

end Gtirb.Cfg
