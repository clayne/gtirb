import GtirbModel.ForestOps
import GtirbProofs.Props.C16
import GtirbProofs.Props.C16Slices
/-! Property C16, return values and non-mutating operations (`GtirbModel/ForestOps.lean`).

C16: "Owning collections behave like the built-in list, set and dict ... with the return values,
resulting contents and exception types of the corresponding built-in operation ... Non-mutating
operations (comparisons, `|`, `&`, `-`, `^` and their reflected forms, slicing, index/count)
return plain values with the mathematically correct contents and leave ownership untouched."

"Plain values": the results are `List Nat` / `Bool` / `Nat` / `Option`, not collections of a
state. "Leave ownership untouched": the functions take the contents `g.kids p s`, not the state,
and return no state: there is nothing they could change, so this is true by construction and
not stated as a theorem. Its useful consequence is `C16_nm_frame`: a history with queries
interleaved ends in the state of the history without them, and every query is answered from
the contents at that point (`C16_nm_answer`). -/
namespace Gtirb.Forest

/-- the shape of `stepR` and `stepROp`: an outcome of `step` with a value attached to the new state -/
def withRet (x : Except Exc G) (r : Ret) : Except Exc (G × Ret) :=
  match x with
  | .ok g' => .ok (g', r)
  | .error e => .error e

theorem withRet_fst (x : Except Exc G) (r : Ret) : (withRet x r).map (·.1) = x := by
  cases x <;> rfl

theorem withRet_ok_iff {x : Except Exc G} {r r' : Ret} {g' : G} :
    withRet x r = .ok (g', r') ↔ x = .ok g' ∧ r' = r := by
  cases x with
  | error e => exact iff_of_false nofun (fun h => nomatch h.1)
  | ok g1 => exact ⟨fun h => by cases h; exact ⟨rfl, rfl⟩, fun h => by rw [Except.ok.inj h.1, h.2]; rfl⟩

theorem withRet_error_iff {x : Except Exc G} {r : Ret} {e : Exc} : withRet x r = .error e ↔ x = .error e := by
  cases x with
  | error e' => exact ⟨fun h => by cases h; rfl, fun h => by cases h; rfl⟩
  | ok g1 => exact iff_of_false nofun nofun

theorem C16_stepR_state (g : G) (op : Op) : (stepR g op).map (·.1) = step g op :=
  withRet_fst (step g op) (retOf g op)

theorem C16_stepROp_state (g : G) (op : Op) : (stepROp g op).map (·.1) = step g op :=
  withRet_fst (step g op) (retOfOp g op)

theorem C16_stepR_ok_iff (g g' : G) (op : Op) (r : Ret) :
    stepR g op = .ok (g', r) ↔ step g op = .ok g' ∧ r = retOf g op :=
  withRet_ok_iff

theorem C16_stepROp_ok_iff (g g' : G) (op : Op) (r : Ret) :
    stepROp g op = .ok (g', r) ↔ step g op = .ok g' ∧ r = retOfOp g op :=
  withRet_ok_iff

theorem C16_stepR_error_iff (g : G) (op : Op) (e : Exc) :
    stepR g op = .error e ↔ step g op = .error e :=
  withRet_error_iff

theorem pyIndex_eq_none_iff {len : Nat} {k : Int} :
    pyIndex len k = none ↔ ¬ (-(len : Int) ≤ k ∧ k < len) := by
  rw [C16_pyIndex_spec]
  split <;> simp [*]

theorem nmGetItem_eq (xs : List Nat) (k : Int) :
    nmGetItem xs k = (pyIndex xs.length k).bind (fun idx => xs[idx]?) := by
  unfold nmGetItem
  cases pyIndex xs.length k <;> rfl

/-- `modules.pop(k)`: the returned node is the element at Python index `k` of the list before the
call; afterwards it is not in the list (which is the old one without that position) and it is
detached -/
theorem C16_listPop_returns (g g' : G) (i : Nat) (k : Int) (r : Ret) (h : ForestInv g)
    (hs : stepR g (.listPop i k) = .ok (g', r)) :
    ∃ idx old, pyIndex (g.kids i .mods).length k = some idx ∧ (g.kids i .mods)[idx]? = some old ∧
      r = .node old ∧ nmGetItem (g.kids i .mods) k = some old ∧
      g'.kids i .mods = (g.kids i .mods).eraseIdx idx ∧ old ∉ g'.kids i .mods ∧ g'.par old = none := by
  obtain ⟨h1, h2⟩ := (C16_stepR_ok_iff _ _ _ _).1 hs
  obtain ⟨idx, old, hi, ho, hk, hp, _, _⟩ := C16_listPop_content g g' i k h1
  refine ⟨idx, old, hi, ho, ?_, ?_, hk, ?_, hp⟩
  · rw [h2]
    simp only [retOf, hi, ho]
  · rw [nmGetItem_eq, hi]
    exact ho
  · rw [hk, eraseIdx_eq_erase (h.nodup i .mods) ho]
    exact (h.nodup i .mods).not_mem_erase

/-- `modules.pop(k)` raises `IndexError` exactly when `k` is out of range (`¬ (-len ≤ k < len)`) -/
theorem C16_listPop_indexError (g : G) (i : Nat) (k : Int) :
    stepR g (.listPop i k) = .error .indexError ↔
      ¬ (-((g.kids i .mods).length : Int) ≤ k ∧ k < (g.kids i .mods).length) := by
  rw [C16_stepR_error_iff, (C16_builtin_errors_pure g).2.2.2.2.1 i k, pyIndex_eq_none_iff]

/-- a set's `pop()`: the returned element was a member and is not one afterwards; the other
members stay -/
theorem C16_setPop_returns (g g' : G) (p : Nat) (s : Slot) (v : Nat) (r : Ret) (h : ForestInv g)
    (hs : stepR g (.pop p s v) = .ok (g', r)) :
    r = .node v ∧ v ∈ g.kids p s ∧ v ∉ g'.kids p s ∧
      (∀ x, x ∈ g'.kids p s ↔ x ∈ g.kids p s ∧ x ≠ v) := by
  obtain ⟨h1, h2⟩ := (C16_stepR_ok_iff _ _ _ _).1 hs
  have hv : v ∈ g.kids p s := by
    simp only [step] at h1
    split at h1
    · cases h1
    · split at h1
      · assumption
      · cases h1
  rw [C16_pop_member g p s v hv] at h1
  have hc := (C16_discard_content g g' p s v h h1).1
  refine ⟨h2, hv, ?_, hc⟩
  intro hx
  exact ((hc v).1 hx).2 rfl

/-- `pop()` raises `KeyError` exactly on the empty set -/
theorem C16_setPop_keyError (g : G) (p : Nat) (s : Slot) (v : Nat) :
    stepR g (.pop p s v) = .error .keyError ↔ g.kids p s = [] := by
  rw [C16_stepR_error_iff]
  exact (C16_builtin_errors_pure g).2.1 p s v

/-- the operations with an operator spelling that must return the collection itself -/
def isInplace : Op → Bool
  | .update _ _ _ | .isub _ _ _ | .iand _ _ _ _ | .ixor _ _ _ | .extend _ _ => true
  | _ => false

/-- `|=`, `-=`, `&=`, `^=`, `+=` return the collection object itself (the attribute is not
rebound), with the state of `step` -/
theorem C16_inplace_returns_same (g g' : G) (op : Op) (r : Ret) (hop : isInplace op = true)
    (hs : stepROp g op = .ok (g', r)) : r = .same ∧ step g op = .ok g' := by
  obtain ⟨h1, h2⟩ := (C16_stepROp_ok_iff _ _ _ _).1 hs
  refine ⟨?_, h1⟩
  rw [h2]
  cases op <;> first | contradiction | rfl

/-- `-=`, `&=`, `^=` have no method spelling: `stepR` already returns the collection -/
theorem C16_inplace_returns_same' (g g' : G) (p : Nat) (s : Slot) (vs order : List Nat) (r : Ret) :
    (stepR g (.isub p s vs) = .ok (g', r) → r = .same) ∧
    (stepR g (.iand p s vs order) = .ok (g', r) → r = .same) ∧
    (stepR g (.ixor p s vs) = .ok (g', r) → r = .same) :=
  ⟨fun hs => ((C16_stepR_ok_iff _ _ _ _).1 hs).2, fun hs => ((C16_stepR_ok_iff _ _ _ _).1 hs).2,
   fun hs => ((C16_stepR_ok_iff _ _ _ _).1 hs).2⟩

/-- the methods and statements that return `None` -/
def returnsNone : Op → Bool
  | .setParent _ _ | .add _ _ _ | .discard _ _ _ | .remove _ _ _ | .clear _ _ _ | .update _ _ _
  | .insert _ _ _ | .append _ _ | .extend _ _ | .delItem _ _ | .setItem _ _ _ | .listRemove _ _
  | .reverse _ | .listClear _ | .setName _ _ | .setPayload _ _ => true
  | _ => false

theorem C16_method_returns_none (g g' : G) (op : Op) (r : Ret) (hop : returnsNone op = true)
    (hs : stepR g op = .ok (g', r)) : r = .none := by
  rw [((C16_stepR_ok_iff _ _ _ _).1 hs).2]
  cases op <;> first | contradiction | rfl

/-- constructors return the node they allocate -/
theorem C16_constructor_returns (g : G) :
    (∀ u, retOf g (.mkIR u) = .node g.n) ∧
    (∀ k u kids parent, retOf g (.mk k u kids parent) = .node g.n) ∧
    (∀ u nm pl parent, retOf g (.mkSym u nm pl parent) = .node g.n) :=
  ⟨fun _ => rfl, fun _ _ _ _ => rfl, fun _ _ _ _ => rfl⟩

theorem mem_addNew (x : Nat) : ∀ (ys acc : List Nat), x ∈ addNew acc ys ↔ x ∈ acc ∨ x ∈ ys
  | [], acc => (or_iff_left List.not_mem_nil).symm
  | y :: ys, acc => by rw [addNew, mem_addNew x ys, ← setInsertNat, mem_setInsertNat, List.mem_cons, or_assoc]

theorem nodup_addNew : ∀ (ys acc : List Nat), acc.Nodup → (addNew acc ys).Nodup
  | [], _, h => h
  | y :: ys, _, h => nodup_addNew ys _ (nodup_setInsertNat y h)

theorem mem_distinct (x : Nat) (ys : List Nat) : x ∈ distinct ys ↔ x ∈ ys :=
  (mem_addNew x ys []).trans (or_iff_right List.not_mem_nil)

theorem nodup_distinct (ys : List Nat) : (distinct ys).Nodup := nodup_addNew ys [] List.nodup_nil

theorem mem_filter_mem {l ys : List Nat} {x : Nat} :
    x ∈ l.filter (fun a => decide (a ∈ ys)) ↔ x ∈ l ∧ x ∈ ys := by
  rw [List.mem_filter, decide_eq_true_eq]

theorem mem_filter_not_mem {l ys : List Nat} {x : Nat} :
    x ∈ l.filter (fun a => !decide (a ∈ ys)) ↔ x ∈ l ∧ x ∉ ys := by
  rw [List.mem_filter, Bool.not_eq_true', decide_eq_false_iff_not]

/-- `coll | ys` -/
theorem C16_nmOr_mem (xs ys : List Nat) (x : Nat) : x ∈ nmOr xs ys ↔ x ∈ xs ∨ x ∈ ys :=
  mem_addNew x ys xs

theorem C16_nmOr_nodup (xs ys : List Nat) (hx : xs.Nodup) : (nmOr xs ys).Nodup := nodup_addNew ys xs hx

/-- `coll & ys` -/
theorem C16_nmAnd_mem (xs ys : List Nat) (x : Nat) : x ∈ nmAnd xs ys ↔ x ∈ xs ∧ x ∈ ys :=
  mem_filter_mem

theorem C16_nmAnd_nodup (xs ys : List Nat) (hx : xs.Nodup) : (nmAnd xs ys).Nodup :=
  hx.sublist List.filter_sublist

/-- `coll - ys` -/
theorem C16_nmSub_mem (xs ys : List Nat) (x : Nat) : x ∈ nmSub xs ys ↔ x ∈ xs ∧ x ∉ ys :=
  mem_filter_not_mem

theorem C16_nmSub_nodup (xs ys : List Nat) (hx : xs.Nodup) : (nmSub xs ys).Nodup :=
  hx.sublist List.filter_sublist

/-- `ys - coll` -/
theorem C16_nmRSub_mem (ys xs : List Nat) (x : Nat) : x ∈ nmRSub ys xs ↔ x ∈ ys ∧ x ∉ xs :=
  mem_filter_not_mem.trans (and_congr_left' (mem_distinct x ys))

/-- duplicate-free whatever the argument looks like -/
theorem C16_nmRSub_nodup (ys xs : List Nat) : (nmRSub ys xs).Nodup :=
  (nodup_distinct ys).sublist List.filter_sublist

theorem and_not_or_and_not {a b : Prop} : a ∧ ¬ b ∨ b ∧ ¬ a ↔ ¬ (a ↔ b) := by
  by_cases a <;> by_cases b <;> simp [*]

/-- `coll ^ ys`: in exactly one of the two -/
theorem C16_nmXor_mem (xs ys : List Nat) (x : Nat) : x ∈ nmXor xs ys ↔ ¬ (x ∈ xs ↔ x ∈ ys) := by
  rw [nmXor, List.mem_append, C16_nmSub_mem, C16_nmRSub_mem]
  exact and_not_or_and_not

theorem C16_nmXor_mem' (xs ys : List Nat) (x : Nat) : x ∈ nmXor xs ys ↔ (x ∈ xs) ≠ (x ∈ ys) :=
  (C16_nmXor_mem xs ys x).trans (not_congr propext_iff.symm)

/-- the two halves of `^` lie on different sides of `xs` -/
theorem C16_nmXor_nodup (xs ys : List Nat) (hx : xs.Nodup) : (nmXor xs ys).Nodup :=
  nodup_append_of (P := (· ∉ xs)) (C16_nmSub_nodup xs ys hx) (C16_nmRSub_nodup ys xs)
    (fun x h => not_not_intro ((C16_nmSub_mem xs ys x).1 h).1) (fun x h => ((C16_nmRSub_mem ys xs x).1 h).2)

/-- the reflected forms have the members of the mirrored operation -/
theorem C16_nmROr_mem (ys xs : List Nat) (x : Nat) : x ∈ nmROr ys xs ↔ x ∈ ys ∨ x ∈ xs := by
  unfold nmROr
  rw [mem_addNew, mem_distinct]

theorem C16_nmROr_nodup (ys xs : List Nat) : (nmROr ys xs).Nodup := nodup_addNew xs _ (nodup_distinct ys)

theorem C16_nmRAnd_mem (ys xs : List Nat) (x : Nat) : x ∈ nmRAnd ys xs ↔ x ∈ ys ∧ x ∈ xs :=
  mem_filter_mem.trans (and_congr_left' (mem_distinct x ys))

theorem C16_nmRAnd_nodup (ys xs : List Nat) : (nmRAnd ys xs).Nodup :=
  (nodup_distinct ys).sublist List.filter_sublist

theorem C16_nmRXor_mem (ys xs : List Nat) (x : Nat) : x ∈ nmRXor ys xs ↔ ¬ (x ∈ ys ↔ x ∈ xs) := by
  rw [nmRXor, List.mem_append, or_comm, ← List.mem_append]
  exact (C16_nmXor_mem xs ys x).trans (not_congr iff_comm)

theorem C16_nmRXor_nodup (ys xs : List Nat) (hx : xs.Nodup) : (nmRXor ys xs).Nodup :=
  nodup_append_of (P := (· ∈ xs)) (C16_nmRSub_nodup ys xs) (C16_nmSub_nodup xs ys hx)
    (fun x h => ((C16_nmRSub_mem ys xs x).1 h).2) (fun x h => ((C16_nmSub_mem xs ys x).1 h).1)

/-- the truth table of a binary set operator: is `x` in the result, given whether it is in the
collection (`a`) and in the argument (`b`) -/
def binSpec : SetBin → Bool → Bool → Bool
  | .or, a, b | .ror, a, b => a || b
  | .and, a, b | .rand, a, b => a && b
  | .sub, a, b => a && !b
  | .rsub, a, b => b && !a
  | .xor, a, b | .rxor, a, b => a != b

/-- all eight operators at once (what the driver's `nm <op>` answers): the result is a
duplicate-free plain list with exactly the members of the mathematical operation -/
theorem C16_evalBin_spec (op : SetBin) (xs ys : List Nat) (hx : xs.Nodup) :
    (evalBin op xs ys).Nodup ∧
    ∀ x, x ∈ evalBin op xs ys ↔ binSpec op (decide (x ∈ xs)) (decide (x ∈ ys)) = true := by
  cases op
  · exact ⟨C16_nmOr_nodup xs ys hx, fun x => by
      simp only [evalBin, binSpec, C16_nmOr_mem, Bool.or_eq_true, decide_eq_true_eq]⟩
  · exact ⟨C16_nmAnd_nodup xs ys hx, fun x => by
      simp only [evalBin, binSpec, C16_nmAnd_mem, Bool.and_eq_true, decide_eq_true_eq]⟩
  · exact ⟨C16_nmSub_nodup xs ys hx, fun x => by
      simp only [evalBin, binSpec, C16_nmSub_mem, Bool.and_eq_true, Bool.not_eq_true', decide_eq_true_eq,
        decide_eq_false_iff_not]⟩
  · exact ⟨C16_nmXor_nodup xs ys hx, fun x => by
      simp only [evalBin, binSpec, C16_nmXor_mem, bne_iff_ne, ne_eq, decide_eq_decide]⟩
  · exact ⟨C16_nmROr_nodup ys xs, fun x => by
      simp only [evalBin, binSpec, C16_nmROr_mem, Bool.or_eq_true, decide_eq_true_eq, or_comm]⟩
  · exact ⟨C16_nmRAnd_nodup ys xs, fun x => by
      simp only [evalBin, binSpec, C16_nmRAnd_mem, Bool.and_eq_true, decide_eq_true_eq, and_comm]⟩
  · exact ⟨C16_nmRSub_nodup ys xs, fun x => by
      simp only [evalBin, binSpec, C16_nmRSub_mem, Bool.and_eq_true, Bool.not_eq_true', decide_eq_true_eq,
        decide_eq_false_iff_not]⟩
  · exact ⟨C16_nmRXor_nodup ys xs hx, fun x => by
      simp only [evalBin, binSpec, C16_nmRXor_mem, bne_iff_ne, ne_eq, decide_eq_decide, iff_comm]⟩

/-- `coll <= ys`: subset -/
theorem C16_nmLe_iff (xs ys : List Nat) : nmLe xs ys = true ↔ ∀ x ∈ xs, x ∈ ys := by
  simp only [nmLe, List.all_eq_true, decide_eq_true_eq]

/-- `coll >= ys`: superset (`nmGe xs ys` is `nmLe ys xs`) -/
theorem C16_nmGe_iff (xs ys : List Nat) : nmGe xs ys = true ↔ ∀ y ∈ ys, y ∈ xs :=
  C16_nmLe_iff ys xs

/-- `coll < ys`: subset, and some element of `ys` is not in the collection -/
theorem C16_nmLt_iff (xs ys : List Nat) :
    nmLt xs ys = true ↔ (∀ x ∈ xs, x ∈ ys) ∧ ∃ y, y ∈ ys ∧ y ∉ xs := by
  simp only [nmLt, Bool.and_eq_true, C16_nmLe_iff, List.any_eq_true, Bool.not_eq_true', decide_eq_false_iff_not]

/-- `coll > ys` (`nmGt xs ys` is `nmLt ys xs`) -/
theorem C16_nmGt_iff (xs ys : List Nat) :
    nmGt xs ys = true ↔ (∀ y ∈ ys, y ∈ xs) ∧ ∃ x, x ∈ xs ∧ x ∉ ys :=
  C16_nmLt_iff ys xs

/-- `coll == ys`: the same members -/
theorem C16_nmEq_iff (xs ys : List Nat) : nmEq xs ys = true ↔ ∀ x, x ∈ xs ↔ x ∈ ys := by
  rw [nmEq, Bool.and_eq_true, C16_nmLe_iff, C16_nmGe_iff]
  exact ⟨fun h x => ⟨h.1 x, h.2 x⟩, fun h => ⟨fun x => (h x).1, fun x => (h x).2⟩⟩

/-- `coll != ys` -/
theorem C16_nmNe_iff (xs ys : List Nat) : nmNe xs ys = true ↔ ¬ ∀ x, x ∈ xs ↔ x ∈ ys := by
  rw [nmNe, Bool.not_eq_true', ← Bool.not_eq_true, C16_nmEq_iff]

/-- `coll.isdisjoint(ys)`: no common member -/
theorem C16_nmIsDisjoint_iff (xs ys : List Nat) :
    nmIsDisjoint xs ys = true ↔ ∀ x, ¬ (x ∈ xs ∧ x ∈ ys) := by
  simp only [nmIsDisjoint, List.all_eq_true, Bool.not_eq_true', decide_eq_false_iff_not]
  exact ⟨fun h x hx => h x hx.2 hx.1, fun h y hy hx => h y ⟨hx, hy⟩⟩

theorem nmLt_eq (xs ys : List Nat) : nmLt xs ys = (nmLe xs ys && !nmGe xs ys) :=
  congrArg (nmLe xs ys && ·) List.not_all_eq_any_not.symm

/-- the comparisons are consistent with each other and with the operators: `<` is `<=` and `!=`,
`>=` / `>` are `<=` / `<` mirrored on the members, disjoint = empty intersection -/
theorem C16_cmp_consistent (xs ys : List Nat) :
    (nmLt xs ys = (nmLe xs ys && nmNe xs ys)) ∧ (nmGt xs ys = (nmGe xs ys && nmNe xs ys)) ∧
    (nmGe xs ys = nmLe ys xs) ∧ (nmIsDisjoint xs ys = (nmAnd xs ys).isEmpty) := by
  refine ⟨?_, ?_, rfl, ?_⟩
  · rw [nmLt_eq, nmNe, nmEq]
    cases nmLe xs ys <;> rfl
  · rw [show nmGt xs ys = (nmGe xs ys && !nmLe xs ys) from nmLt_eq ys xs, nmNe, nmEq]
    cases nmLe xs ys <;> cases nmGe xs ys <;> rfl
  · rw [Bool.eq_iff_iff, C16_nmIsDisjoint_iff, List.isEmpty_iff, List.eq_nil_iff_forall_not_mem]
    exact forall_congr' fun x => not_congr (C16_nmAnd_mem xs ys x).symm

/-- `v in coll` -/
theorem C16_nmContains_iff (xs : List Nat) (v : Nat) : nmContains xs v = true ↔ v ∈ xs := by
  simp [nmContains]

theorem nmIndex_eq_findIdx? (xs : List Nat) (v : Nat) : nmIndex xs v = xs.findIdx? (· == v) := by
  induction xs with
  | nil => rfl
  | cons a t ih => simp only [nmIndex, ih, List.findIdx?_cons, beq_iff_eq]

/-- `l.index(v) = i`: `v` is at position `i` and at no earlier position -/
theorem C16_nmIndex_some_iff (xs : List Nat) (v i : Nat) :
    nmIndex xs v = some i ↔ xs[i]? = some v ∧ ∀ j, j < i → xs[j]? ≠ some v := by
  rw [nmIndex_eq_findIdx?, List.findIdx?_eq_some_iff_getElem]
  simp only [List.getElem?_eq_some_iff, beq_iff_eq]
  constructor
  · rintro ⟨h, h1, h2⟩
    exact ⟨⟨h, h1⟩, fun j hj e => h2 j hj (List.getElem?_eq_some_iff.1 e).2⟩
  · rintro ⟨⟨h, h1⟩, h2⟩
    exact ⟨h, h1, fun j hj e => h2 j hj (List.getElem?_eq_some_iff.2 ⟨_, e⟩)⟩

/-- `l.index(v)` raises `ValueError` exactly when `v` is not in the list -/
theorem C16_nmIndex_none_iff (xs : List Nat) (v : Nat) : nmIndex xs v = none ↔ v ∉ xs := by
  rw [nmIndex_eq_findIdx?, List.findIdx?_eq_none_iff]
  simp only [beq_eq_false_iff_ne, ne_eq]
  exact ⟨fun h hv => h v hv rfl, fun h x hx e => h (e ▸ hx)⟩

/-- in a duplicate-free list (every reachable module list) the position is the unique one -/
theorem C16_nmIndex_nodup (xs : List Nat) (v i : Nat) (hx : xs.Nodup) :
    nmIndex xs v = some i ↔ xs[i]? = some v := by
  rw [C16_nmIndex_some_iff]
  refine ⟨And.left, fun h => ⟨h, fun j hj hj' => ?_⟩⟩
  obtain ⟨h1, h2⟩ := List.getElem?_eq_some_iff.1 h
  obtain ⟨h3, h4⟩ := List.getElem?_eq_some_iff.1 hj'
  exact Nat.ne_of_lt hj ((List.getElem_inj hx).1 (h4.trans h2.symm))

/-- `l.count(v)`: the number of occurrences -/
theorem C16_nmCount_eq (xs : List Nat) (v : Nat) : nmCount xs v = xs.count v := by
  rw [List.count_eq_countP, List.countP_eq_length_filter]
  rfl

theorem C16_nmCount_nodup (xs : List Nat) (v : Nat) (hx : xs.Nodup) :
    nmCount xs v = if v ∈ xs then 1 else 0 := by
  rw [C16_nmCount_eq]
  split
  · next h => exact Nat.le_antisymm (List.nodup_iff_count.1 hx v) (List.count_pos_iff.2 h)
  · next h => exact List.count_eq_zero.2 h

theorem C16_nmCount_pos_iff (xs : List Nat) (v : Nat) : 0 < nmCount xs v ↔ v ∈ xs := by
  rw [C16_nmCount_eq, List.count_pos_iff]

/-- `l[k]`: Python's index rule (`pyIndex`), `IndexError` exactly when out of range -/
theorem C16_nmGetItem_spec (xs : List Nat) (k : Int) :
    nmGetItem xs k = (pyIndex xs.length k).bind (fun idx => xs[idx]?) ∧
    (nmGetItem xs k = none ↔ pyIndex xs.length k = none) ∧
    (nmGetItem xs k = none ↔ ¬ (-(xs.length : Int) ≤ k ∧ k < xs.length)) ∧
    (-(xs.length : Int) ≤ k ∧ k < xs.length → nmGetItem xs k = xs[(k % xs.length).toNat]?) := by
  have h1 : nmGetItem xs k = none ↔ pyIndex xs.length k = none := by
    rw [nmGetItem_eq]
    cases hp : pyIndex xs.length k with
    | none => exact iff_of_true rfl rfl
    | some idx => exact iff_of_false (mt List.getElem?_eq_none_iff.1 (Nat.not_le.2 (pyIndex_lt hp))) nofun
  refine ⟨nmGetItem_eq xs k, h1, h1.trans pyIndex_eq_none_iff, fun hk => ?_⟩
  rw [nmGetItem_eq, C16_pyIndex_spec, if_pos hk]
  rfl

theorem C16_nmGetItem_nat (xs : List Nat) (n : Nat) : nmGetItem xs (n : Int) = xs[n]? := by
  rw [nmGetItem_eq]
  by_cases hn : n < xs.length
  · rw [pyIndex_of_nonneg (Int.natCast_nonneg n) (Int.ofNat_lt.2 hn)]
    rfl
  · rw [pyIndex_of_ge (Int.ofNat_le.2 (Nat.le_of_not_lt hn)), List.getElem?_eq_none (Nat.le_of_not_lt hn)]
    rfl

theorem C16_nmGetItem_last (xs : List Nat) : nmGetItem xs (-1) = xs.getLast? := by
  cases xs with
  | nil => rfl
  | cons a t =>
    have e : (-1 : Int) + ((a :: t).length : Int) = t.length := by
      rw [List.length_cons, Int.natCast_add, Int.add_comm]
      exact Int.add_neg_cancel_right _ 1
    rw [nmGetItem_eq, pyIndex_of_neg (by decide) (e ▸ Int.natCast_nonneg _), e, List.getLast?_eq_getElem?]
    rfl

theorem pick_cons {xs : List Nat} {p : Nat} (sel : List Nat) (hp : p < xs.length) :
    pick xs (p :: sel) = xs[p] :: pick xs sel :=
  List.filterMap_cons_some (List.getElem?_eq_getElem hp)

theorem mem_of_mem_pick {xs sel : List Nat} {x : Nat} (hx : x ∈ pick xs sel) : x ∈ xs := by
  obtain ⟨_, _, hp⟩ := List.mem_filterMap.1 hx
  exact List.mem_of_getElem? hp

theorem pick_spec (xs sel : List Nat) (h : ∀ p ∈ sel, p < xs.length) :
    (pick xs sel).length = sel.length ∧ ∀ j : Nat, (pick xs sel)[j]? = (sel[j]?).bind (fun (p : Nat) => xs[p]?) := by
  induction sel with
  | nil => exact ⟨rfl, fun _ => rfl⟩
  | cons p t ih =>
    have hp := h p List.mem_cons_self
    obtain ⟨h1, h2⟩ := ih (fun q hq => h q (List.mem_cons_of_mem _ hq))
    rw [pick_cons t hp]
    exact ⟨congrArg (· + 1) h1, fun
      | 0 => (List.getElem?_eq_getElem hp).symm
      | j + 1 => h2 j⟩

theorem pick_range' (xs : List Nat) (n s : Nat) (h : s + n ≤ xs.length) :
    pick xs (List.range' s n) = (xs.drop s).take n := by
  induction n generalizing s with
  | zero => rfl
  | succ n ih =>
    have hs : s < xs.length := Nat.lt_of_lt_of_le (Nat.lt_add_of_pos_right n.succ_pos) h
    rw [List.range'_succ, pick_cons _ hs, ih (s + 1) (Nat.le_trans (Nat.le_of_eq (Nat.add_right_comm s 1 n)) h),
      List.drop_eq_getElem_cons hs, List.take_succ_cons]

theorem nmSlice_eq (xs : List Nat) (start stop step : Option Int) :
    nmSlice xs start stop step = (sliceSelected xs.length start stop step).map (pick xs) := by
  unfold nmSlice
  cases sliceSelected xs.length start stop step <;> rfl

/-- `l[start:stop:step]`: `ValueError` exactly for step 0; otherwise the elements at the positions
`range(*slice.indices(len(l)))` (all of them list positions, pairwise different), in that order -/
theorem C16_nmSlice_spec (xs : List Nat) (start stop step : Option Int) :
    (nmSlice xs start stop step = none ↔ step = some 0) ∧
    ∀ l, nmSlice xs start stop step = some l →
      ∃ sel, sliceSelected xs.length start stop step = some sel ∧ sel.Nodup ∧ (∀ p ∈ sel, p < xs.length) ∧
        l.length = sel.length ∧ (∀ j : Nat, l[j]? = (sel[j]?).bind (fun (p : Nat) => xs[p]?)) ∧
        (∀ x, x ∈ l → x ∈ xs) := by
  rw [nmSlice_eq]
  constructor
  · rw [← C16_sliceIndices_none_iff xs.length start stop step, Option.map_eq_none_iff]
    unfold sliceSelected
    cases sliceIndices xs.length start stop step <;> simp
  · intro l hl
    obtain ⟨sel, hsel, rfl⟩ := Option.map_eq_some_iff.1 hl
    obtain ⟨hnd, hb, _⟩ := C16_sliceSelected_bounds xs.length start stop step sel hsel
    exact ⟨sel, hsel, hnd, hb, (pick_spec xs sel hb).1, (pick_spec xs sel hb).2, fun _ => mem_of_mem_pick⟩

/-- a plain slice (step 1): the segment between the normalised bounds -/
theorem C16_nmSlice_step1 (xs : List Nat) (start stop step : Option Int) (a b : Int)
    (h : sliceIndices xs.length start stop step = some (a, b, 1)) :
    nmSlice xs start stop step = some ((xs.drop a.toNat).take (b - a).toNat) := by
  obtain ⟨h1, h2, _, h4, h5⟩ := C16_sliceSelected_step1 xs.length start stop step a b h
  rw [nmSlice_eq, h5, Option.map_some, pick_range']
  rw [toNat_add_toNat_sub h1]
  exact Int.toNat_le.2 (Int.max_le.2 ⟨h2, h4⟩)

/-- `l[:]` is a copy of the list -/
theorem C16_nmSlice_full (xs : List Nat) : nmSlice xs none none none = some xs := by
  have h : sliceIndices xs.length none none none = some (0, (xs.length : Int), 1) := by
    rw [sliceIndices_eq]
    rfl
  rw [C16_nmSlice_step1 xs none none none 0 xs.length h]
  simp

theorem C16_nm_reads_contents_only (g g' : G) (p : Nat) (s : Slot) (q : NmQ)
    (h : g'.kids p s = g.kids p s) : evalNm g' p s q = evalNm g p s q := by
  unfold evalNm
  rw [h]

theorem runCmds_op_ok {g : G} {o : Op} {cs : List Cmd} {r : G × List NmVal}
    (h : runCmds g (.op o :: cs) = .ok r) : ∃ g1, step g o = .ok g1 ∧ runCmds g1 cs = .ok r := by
  rw [runCmds] at h
  split at h
  · exact ⟨_, ‹_›, h⟩
  · cases h

theorem runCmds_query_ok {g g' : G} {p : Nat} {s : Slot} {q : NmQ} {cs : List Cmd} {vs : List NmVal}
    (h : runCmds g (.query p s q :: cs) = .ok (g', vs)) :
    ∃ vs', runCmds g cs = .ok (g', vs') ∧ vs = evalNm g p s q :: vs' := by
  rw [runCmds] at h
  split at h
  · cases h
    exact ⟨_, ‹_›, rfl⟩
  · cases h

/-- a history with non-mutating operations interleaved ends in exactly the state (or the
exception) of the history with those operations deleted: evaluating them changes nothing any later
operation can see -/
theorem C16_nm_frame (cs : List Cmd) : ∀ (g : G),
    (runCmds g cs).map (·.1) = runE g (cs.filterMap Cmd.op?) := by
  induction cs with
  | nil => intro g; rfl
  | cons c cs ih =>
    intro g
    cases c with
    | op o =>
      rw [runCmds, List.filterMap_cons_some (f := Cmd.op?) rfl, runE]
      cases step g o with
      | error e => rfl
      | ok g1 => exact ih g1
    | query p s q =>
      rw [List.filterMap_cons_none rfl, ← ih g, runCmds]
      cases runCmds g cs <;> rfl

theorem C16_nm_frame_between (g : G) (a b : Op) (p : Nat) (s : Slot) (q : NmQ) :
    (runCmds g [.op a, .query p s q, .op b]).map (·.1) = runE g [a, b] :=
  C16_nm_frame _ g

def nQueries (cs : List Cmd) : Nat := (cs.filter (fun c => c.op?.isNone)).length

/-- every query of a history is answered from the contents at that point: the state reached
by the mutating operations before it -/
theorem C16_nm_answer (cs1 cs2 : List Cmd) (p : Nat) (s : Slot) (q : NmQ) : ∀ (g g' : G) (vs : List NmVal),
    runCmds g (cs1 ++ .query p s q :: cs2) = .ok (g', vs) →
    ∃ g1, runE g (cs1.filterMap Cmd.op?) = .ok g1 ∧ vs[nQueries cs1]? = some (evalNm g1 p s q) := by
  induction cs1 with
  | nil =>
    intro g g' vs h
    obtain ⟨vs', _, rfl⟩ := runCmds_query_ok h
    exact ⟨g, rfl, rfl⟩
  | cons c cs ih =>
    intro g g' vs h
    cases c with
    | op o =>
      obtain ⟨g2, hs, hr⟩ := runCmds_op_ok h
      obtain ⟨g1, h1, h2⟩ := ih g2 g' vs hr
      refine ⟨g1, ?_, h2⟩
      rw [List.filterMap_cons_some (f := Cmd.op?) rfl, runE, hs]
      exact h1
    | query p' s' q' =>
      obtain ⟨vs', hr, rfl⟩ := runCmds_query_ok h
      exact ih g g' vs' hr

/-! ### non-vacuity: concrete instances -/

/-- IR 0 with modules 1, 2, 3; sections 4, 5 in module 1, section 6 in module 2; module 3 empty;
IR 7 without modules -/
def opsBase : List Op :=
  [.mkIR 100, .mk .module 101 [] (some 0), .mk .module 102 [] (some 0), .mk .module 103 [] (some 0),
   .mk .section 104 [] (some 1), .mk .section 105 [] (some 1), .mk .section 106 [] (some 2), .mkIR 107]

def retOutcome (r : Except Exc (G × Ret)) : Option Exc × Option Ret :=
  match r with
  | .ok (_, v) => (none, some v)
  | .error e => (some e, none)

def modsAfter (r : Except Exc (G × Ret)) (i : Nat) : Option (List Nat) :=
  match r with
  | .ok (g, _) => some (g.kids i .mods)
  | .error _ => none

example : (run {} opsBase).kids 0 .mods = [1, 2, 3] ∧ (run {} opsBase).kids 1 .secs = [4, 5] ∧
    (run {} opsBase).kids 3 .secs = [] ∧ (run {} opsBase).kids 7 .mods = [] := by decide

/-- `modules.pop(-1)`, `pop(0)`, `pop(-3)` return the last / first / first module and remove it -/
example : retOutcome (stepR (run {} opsBase) (.listPop 0 (-1))) = (none, some (.node 3)) ∧
    modsAfter (stepR (run {} opsBase) (.listPop 0 (-1))) 0 = some [1, 2] ∧
    retOutcome (stepR (run {} opsBase) (.listPop 0 0)) = (none, some (.node 1)) ∧
    retOutcome (stepR (run {} opsBase) (.listPop 0 (-3))) = (none, some (.node 1)) ∧
    modsAfter (stepR (run {} opsBase) (.listPop 0 (-3))) 0 = some [2, 3] := by decide

/-- out of range on both sides, and on the empty list: `IndexError` -/
example : retOutcome (stepR (run {} opsBase) (.listPop 0 3)) = (some .indexError, none) ∧
    retOutcome (stepR (run {} opsBase) (.listPop 0 (-4))) = (some .indexError, none) ∧
    retOutcome (stepR (run {} opsBase) (.listPop 7 (-1))) = (some .indexError, none) := by decide

/-- a set's `pop()` returns the reported member; `KeyError` on the empty set -/
example : retOutcome (stepR (run {} opsBase) (.pop 1 .secs 5)) = (none, some (.node 5)) ∧
    retOutcome (stepR (run {} opsBase) (.pop 3 .secs 5)) = (some .keyError, none) := by decide

/-- `secs -= {4, 6, 6}`, `&=`, `^=`, `|=`, `modules += [..]` return the collection; `update`,
`extend`, `add`, `discard`, `remove`, `insert`, `del`, `clear` return `None`; a failed `remove`
returns nothing -/
example : retOutcome (stepR (run {} opsBase) (.isub 1 .secs [4, 6, 6])) = (none, some .same) ∧
    retOutcome (stepR (run {} opsBase) (.iand 1 .secs [4, 9] [5])) = (none, some .same) ∧
    retOutcome (stepR (run {} opsBase) (.ixor 1 .secs [4, 6])) = (none, some .same) ∧
    retOutcome (stepROp (run {} opsBase) (.update 1 .secs [6])) = (none, some .same) ∧
    retOutcome (stepROp (run {} opsBase) (.extend 7 [3, 3])) = (none, some .same) ∧
    retOutcome (stepR (run {} opsBase) (.update 1 .secs [6])) = (none, some .none) ∧
    retOutcome (stepR (run {} opsBase) (.extend 7 [3, 3])) = (none, some .none) ∧
    retOutcome (stepR (run {} opsBase) (.add 3 .secs 4)) = (none, some .none) ∧
    retOutcome (stepR (run {} opsBase) (.discard 3 .secs 4)) = (none, some .none) ∧
    retOutcome (stepR (run {} opsBase) (.remove 1 .secs 4)) = (none, some .none) ∧
    retOutcome (stepR (run {} opsBase) (.remove 1 .secs 6)) = (some .keyError, none) ∧
    retOutcome (stepR (run {} opsBase) (.insert 7 0 2)) = (none, some .none) ∧
    retOutcome (stepR (run {} opsBase) (.delItem 0 1)) = (none, some .none) ∧
    retOutcome (stepR (run {} opsBase) (.listClear 0)) = (none, some .none) ∧
    retOutcome (stepR (run {} opsBase) (.mk .section 108 [] none)) = (none, some (.node 8)) := by decide

/-- set operators: repeats in the argument, elements that are not (and could not be) members, an
empty collection, an empty argument -/
example : nmOr [4, 5] [5, 9, 5, 7, 9] = [4, 5, 9, 7] ∧ nmAnd [4, 5] [5, 9, 5] = [5] ∧
    nmSub [4, 5] [5, 9, 5] = [4] ∧ nmRSub [5, 9, 5, 7, 9] [4, 5] = [9, 7] ∧
    nmXor [4, 5] [5, 9, 5, 9] = [4, 9] ∧ nmROr [9, 5, 9] [4, 5] = [9, 5, 4] ∧
    nmRAnd [9, 5, 9, 5] [4, 5] = [5] ∧ nmRXor [9, 5, 9] [4, 5] = [9, 4] ∧
    nmOr [] [2, 2] = [2] ∧ nmAnd [] [2, 2] = [] ∧ nmSub [] [2] = [] ∧ nmRSub [2, 2] [] = [2] ∧
    nmXor [] [2, 2, 3] = [2, 3] ∧ nmOr [4, 5] [] = [4, 5] ∧ nmAnd [4, 5] [] = [] ∧
    nmXor [4, 5] [] = [4, 5] ∧ nmXor [4, 5] [5, 4, 4] = [] := by decide

example : nmLe [4, 5] [5, 4, 4, 9] = true ∧ nmLt [4, 5] [5, 4, 4, 9] = true ∧ nmLt [4, 5] [5, 4, 4] = false ∧
    nmEq [4, 5] [5, 4, 4] = true ∧ nmNe [4, 5] [5, 4, 4] = false ∧ nmEq [4, 5] [5] = false ∧
    nmGe [4, 5] [5, 5] = true ∧ nmGt [4, 5] [5, 5] = true ∧ nmGt [4, 5] [5, 4] = false ∧
    nmGe [4, 5] [9] = false ∧ nmLe [] [] = true ∧ nmLt [] [] = false ∧ nmLt [] [1] = true ∧
    nmEq [] [] = true ∧ nmGe [] [1] = false ∧ nmGe [4] [] = true ∧
    nmIsDisjoint [4, 5] [9, 9] = true ∧ nmIsDisjoint [4, 5] [9, 5] = false ∧
    nmIsDisjoint [] [1] = true ∧ nmIsDisjoint [4] [] = true := by decide

/-- list reads on `[1, 2, 3]`, the empty list, and a node that is not in the list -/
example : nmIndex [1, 2, 3] 3 = some 2 ∧ nmIndex [1, 2, 3] 9 = none ∧ nmIndex [] 1 = none ∧
    nmIndex [7, 8, 7] 7 = some 0 ∧ nmCount [1, 2, 3] 2 = 1 ∧ nmCount [1, 2, 3] 9 = 0 ∧ nmCount [] 2 = 0 ∧
    nmCount [7, 8, 7] 7 = 2 ∧
    nmGetItem [1, 2, 3] 0 = some 1 ∧ nmGetItem [1, 2, 3] (-1) = some 3 ∧ nmGetItem [1, 2, 3] (-3) = some 1 ∧
    nmGetItem [1, 2, 3] 3 = none ∧ nmGetItem [1, 2, 3] (-4) = none ∧ nmGetItem [] 0 = none ∧
    nmGetItem [] (-1) = none := by decide

example : nmSlice [1, 2, 3, 4, 5] none none (some (-1)) = some [5, 4, 3, 2, 1] ∧
    nmSlice [1, 2, 3, 4, 5] (some 1) none (some 2) = some [2, 4] ∧
    nmSlice [1, 2, 3, 4, 5] (some (-2)) (some (-10)) (some (-2)) = some [4, 2] ∧
    nmSlice [1, 2, 3, 4, 5] (some 1) (some (-1)) none = some [2, 3, 4] ∧
    nmSlice [1, 2, 3, 4, 5] (some 3) (some 1) none = some [] ∧
    nmSlice [1, 2, 3, 4, 5] none none (some 0) = none ∧
    nmSlice [] none none none = some [] ∧ nmSlice [] (some 2) (some (-2)) (some (-1)) = some [] := by decide

/-- queries against the state: `m1.sections ^ {5, 6, 6}`, `m3.sections <= {4}` (empty set),
`ir.modules[-1]`, `ir7.modules.index(m1)` -/
example : evalNm (run {} opsBase) 1 .secs (.bin .xor [5, 6, 6]) = .set [4, 6] ∧
    evalNm (run {} opsBase) 1 .secs (.bin .rsub [5, 6, 6]) = .set [6] ∧
    evalNm (run {} opsBase) 3 .secs (.cmp .le [4]) = .bool true ∧
    evalNm (run {} opsBase) 1 .secs (.cmp .eq [5, 4, 5]) = .bool true ∧
    evalNm (run {} opsBase) 0 .mods (.getItem (-1)) = .item (some 3) ∧
    evalNm (run {} opsBase) 7 .mods (.index 1) = .idx none ∧
    evalNm (run {} opsBase) 0 .mods (.slice none none (some (-2))) = .list (some [3, 1]) := by decide

/-- a history with queries: the answers are those of the state at that point (`m1.sections`
before and after `discard(4)`; `m2.sections` after the move of 5), and the final state is the one
of the history without the queries -/
example :
    (match runCmds (run {} opsBase)
        [.query 1 .secs (.bin .or [6]), .op (.discard 1 .secs 4), .query 1 .secs (.bin .or [6]),
         .op (.add 2 .secs 5), .query 2 .secs (.cmp .ge [5, 6]), .query 1 .secs .len] with
     | .ok (g, vs) => some (g.kids 1 .secs, g.kids 2 .secs, vs)
     | .error _ => none) =
    some ([], [6, 5], [.set [4, 5, 6], .set [5, 6], .bool true, .nat 0]) ∧
    (match runE (run {} opsBase) [.discard 1 .secs 4, .add 2 .secs 5] with
     | .ok g => some (g.kids 1 .secs, g.kids 2 .secs)
     | .error _ => none) = some ([], [6, 5]) := by decide

end Gtirb.Forest
