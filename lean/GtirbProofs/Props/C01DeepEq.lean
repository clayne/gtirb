import GtirbProofs.Lemmas.WfDeepEq
import GtirbProofs.Props.C01
import GtirbProofs.Props.C18
/-! C01, last clause: "the original and the loaded IR are `deep_eq` in both
directions".

`wfir` (the precondition of C01) implies the two hypotheses of the `deep_eq`
theorems of C18 (`SelfContained`, `DistinctSiblings`); with them, the loaded IR
(which is the saved content, `C01_loadBytes_saveBytes`) is `deep_eq` to the
original both ways, and `deep_eq` between self-contained IRs is equality of the
canonical forms. -/
namespace Gtirb.Msg
open Gtirb

theorem C01_wfir_selfContained (v : IRV) (h : wfir v = true) : SelfContained v :=
  selfContained_of_wfir (wfir_iff.1 h)

theorem C01_wfir_distinctSiblings (v : IRV) (h : wfir v = true) : DistinctSiblings v :=
  distinctSiblings_of_wfir (wfir_iff.1 h)

/-- at the value level the loaded content IS the saved content, so this is reflexivity, which
needs `SelfContained` -/
theorem C01_deepEq_both (serialize : MIR → Bytes) (parse : Bytes → Option MIR)
    (hps : ∀ m, parse (serialize m) = some m)
    (v v' : IRV) (h : wfir v = true) (hl : loadBytes parse (saveBytes serialize v) = .ok v') :
    deepEq v v' = true ∧ deepEq v' v = true := by
  rw [C01_loadBytes_saveBytes serialize parse hps v h] at hl
  cases hl
  have := C18_refl v (C01_wfir_selfContained v h)
  exact ⟨this, this⟩

theorem C01_deepEq_both_msg (v v' : IRV) (h : wfir v = true) (hl : fromMsg (toMsg v) = .ok v') :
    deepEq v v' = true ∧ deepEq v' v = true := by
  rw [C01_roundtrip v h] at hl
  cases hl
  have := C18_refl v (C01_wfir_selfContained v h)
  exact ⟨this, this⟩

theorem C01_deepEq_canon (v w : IRV) (h : wfir v = true) (hw : wfir w = true) :
    deepEq v w = true ↔ canon v = canon w :=
  C18_iff v w (C01_wfir_distinctSiblings v h) (C01_wfir_distinctSiblings w hw)
    (C01_wfir_selfContained v h) (C01_wfir_selfContained w hw)

theorem C01_canon_loaded (serialize : MIR → Bytes) (parse : Bytes → Option MIR)
    (hps : ∀ m, parse (serialize m) = some m)
    (v v' : IRV) (h : wfir v = true) (hl : loadBytes parse (saveBytes serialize v) = .ok v') :
    wfir v' = true ∧ canon v = canon v' := by
  rw [C01_loadBytes_saveBytes serialize parse hps v h] at hl
  cases hl
  exact ⟨h, rfl⟩

/-! ### non-vacuity: the concrete `exIR` of Props/C01.lean -/

example : SelfContained exIR ∧ DistinctSiblings exIR :=
  ⟨C01_wfir_selfContained exIR wfir_exIR, C01_wfir_distinctSiblings exIR wfir_exIR⟩

example (serialize : MIR → Bytes) (parse : Bytes → Option MIR)
    (hps : ∀ m, parse (serialize m) = some m) (v' : IRV)
    (hl : loadBytes parse (saveBytes serialize exIR) = .ok v') :
    deepEq exIR v' = true ∧ deepEq v' exIR = true :=
  C01_deepEq_both serialize parse hps exIR v' wfir_exIR hl

example : deepEq exIR exIR = true := (C01_deepEq_both_msg exIR exIR wfir_exIR roundtrip_exIR).1

theorem deepEq_exDangling_self : deepEq exDangling exDangling = false := by decide

/-- the hypothesis matters: the IR with a dangling referent (not `wfir`) is not even
`deep_eq` to itself -/
example : wfir exDangling = false ∧ deepEq exDangling exDangling = false :=
  ⟨wfir_exDangling, deepEq_exDangling_self⟩

#print axioms C01_wfir_selfContained
#print axioms C01_wfir_distinctSiblings
#print axioms C01_deepEq_both
#print axioms C01_deepEq_both_msg
#print axioms C01_deepEq_canon
#print axioms C01_canon_loaded

end Gtirb.Msg
