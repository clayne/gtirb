import GtirbProofs.Props.C17Loader
import GtirbProofs.Props.C03Full
import GtirbProofs.Props.C10
/-! Property C03, the clause "for IRs produced by loading a file", and a loaded start state for the
history theorems of C03 / C04 / C10.

The loader is not a sequence of constructor calls: `Node._from_protobuf` registers a fresh node
in the IR's table *before* it is attached (`module.py`, `section.py`, `symbol.py`), re-uses nodes
found in the table, and `Symbol._from_protobuf` writes name and payload of the still detached symbol
directly (no index hook runs; the hooks run when `m.symbols.update(...)` adds it). The mechanism is
`GtirbModel/Loader.lean`; this file proves that `load` of a message whose node UUIDs are pairwise
distinct takes a state satisfying the invariants of C03 / C04 / C10 (`CacheInv`, `ForestInv`,
`IndexInv`; `Distinct`) to a state satisfying them - for *all* IRs of the process, not only the new
one - so that the history theorems can be started from a loaded state.

`IndexInv` needs no hypothesis on the message at all (`load_indexInv`: duplicated UUIDs included). -/
namespace Gtirb.Loader
open Gtirb.Forest

theorem idx_of_oc {g g' : G} (h : IdxOC g g') (hi : IndexInv g) : IndexInv g' := by
  obtain ⟨c, rfl⟩ := h
  exact ⟨hi.name_iff, hi.ref_iff, hi.name_nodup, hi.ref_nodup⟩

theorem idxSt_of {g : G} (hf : ForestInv g) (hi : IndexInv g) : IdxSt g.kind g :=
  ⟨hi, idx_side_of_forest hf, rfl⟩

theorem decodeSymbol_idx {g g' : G} {i : Nat} {x : SkSymbol} {v : Nat} (hf : ForestInv g) (hi : IndexInv g)
    (h : decodeSymbol g i x = .ok (g', v)) : IndexInv g' := by
  rcases decodeSymbol_cases h with ⟨rfl, _, _⟩ | ⟨_, _, pl, _, rfl⟩
  · exact hi
  · exact idx_of_oc ⟨_, rfl⟩
      (idx_st_alloc hf hi .symbol x.uuid _ _ (fun y hy => if_neg hy) (fun y hy => if_neg hy)).1

/-- every elementary step of the loader keeps the symbol indexes exact: fresh nodes are in no collection; the
wrappers' `add` runs the index hooks of the public API; a fresh symbol gets name and payload while detached -/
theorem lstep_index {g0 g g' : G} {S : SkSymbol → Prop} (hm : Mid g0 g) (h : LStep g0 S g g') (hi : IndexInv g) :
    IndexInv g' := by
  cases h with
  | alloc k u _ _ => exact (idx_st_alloc_plain hm.forest hi k u).1
  | reg _ _ _ => exact idx_of_oc ⟨_, rfl⟩ hi
  | regInterval _ _ => exact idx_of_oc (cache_setAll_only _ (cache_walkI _ _) _).idxOC hi
  | add _ _ _ _ hc h => exact (idx_st_setAdd (idxSt_of hm.forest hi) hc.slot h).1
  | blk _ _ _ _ _ h => exact (idx_st_blkUpdate (idxSt_of hm.forest hi) h).1
  | symbol _ h => exact decodeSymbol_idx hm.forest hi h
  | append _ _ _ _ h => exact (idx_st_modInsert (idxSt_of hm.forest hi) h).1

/-- the symbol indexes of every module of the process (`_symbol_name_index`, `_symbol_referent_index`) equal
the scan after a load, whatever the message (duplicated UUIDs, re-used and moved symbols included) -/
theorem load_indexInv {g g' : G} {m : SkIR} {ir : Nat} (hf : ForestInv g) (hi : IndexInv g)
    (hl : load g m = .ok (g', ir)) : IndexInv g' :=
  load_keeps (fun _ _ => lstep_index) hf
    (idx_st_oc (idx_oc_mkIR g m.uuid) (idx_st_alloc_plain hf hi .ir m.uuid)).1 hl

/-- **C03, "for IRs produced by loading a file"** (and C04 / C10 for the loaded state). Loading a message
whose node UUIDs are pairwise distinct, in any process state that satisfies the invariants, yields a state
in which the UUID table of *every* IR is exact (`CacheInv`: `get_by_uuid` = scan, for the new IR and for all
the others), the forest is consistent, the hypothesis of C03 (`Distinct`) is kept, and the symbol indexes are
exact. (`hnd` is needed for `CacheInv` and `Distinct` only: with a duplicated UUID two attached nodes share
one key, `C17_load_dup_block_example`.) -/
theorem C03_load (g g' : G) (m : Loader.SkIR) (ir : Nat) (hf : ForestInv g) (hc : CacheInv g)
    (hl : Loader.load g m = .ok (g', ir)) (hnd : m.nodeUuids.Nodup) :
    ForestInv g' ∧ CacheInv g' ∧ (Distinct g → Distinct g') ∧ (IndexInv g → IndexInv g') := by
  obtain ⟨hdn, hex⟩ := C17_load_exact_nodup g g' m ir hf hl hnd
  obtain ⟨rfl, hm, ha, _⟩ := load_ok hf hl
  have hfr : ∀ x, x < g.n → g'.par x = g.par x ∧ g'.kind x = g.kind x :=
    fun x hx => ⟨(hm.frame x hx).1, (hm.frame x hx).2.1⟩
  -- back-pointers and kinds of the old nodes are untouched, so are their `.ir`
  have hold : ∀ x, x < g.n → irOf g' x = irOf g x := fun x hx =>
    cache_irOf_agree hf.cache_parInv fun y hy => hfr y (cache_desc_anc_lt hf.cache_parInv hy hx)
  refine ⟨hm.forest, ?_, ?_, fun hi => load_indexInv hf hi hl⟩
  · intro i u x
    by_cases hi : i = g.n
    · subst hi
      rw [hex u x]
      constructor
      · rintro ⟨h1, h2, h3⟩; exact ⟨hm.lt, hm.kind_ir, h1, h2, h3⟩
      · rintro ⟨_, _, h1, h2, h3⟩; exact ⟨h1, h2, h3⟩
    · rw [hm.rows i hi u, hc i u x]
      constructor
      · rintro ⟨h1, h2, h3, h4, h5⟩
        exact ⟨Nat.lt_trans h1 hm.lt, by rw [(hfr i h1).2]; exact h2, Nat.lt_trans h3 hm.lt,
          by rw [hold x h3]; exact h4, by rw [(hm.frame x h3).2.2.1]; exact h5⟩
      · rintro ⟨h1, h2, h3, h4, h5⟩
        have hx : x < g.n := by
          apply Classical.byContradiction
          intro hx
          have := ha x (by omega) h3
          rw [h4] at this
          exact hi (Option.some.inj this)
        have hi' : i < g.n := by
          apply Classical.byContradiction
          intro hi'
          exact hi (hm.only_ir i (by omega) h1 h2)
        exact ⟨hi', by rw [← (hfr i hi').2]; exact h2, hx, by rw [← hold x hx]; exact h4,
          by rw [← (hm.frame x hx).2.2.1]; exact h5⟩
  · intro hd a b i ha' hb' hia hib hab
    by_cases hao : a < g.n
    · by_cases hbo : b < g.n
      · rw [hold a hao] at hia; rw [hold b hbo] at hib
        rw [(hm.frame a hao).2.2.1, (hm.frame b hbo).2.2.1] at hab
        exact hd a b i hao hbo hia hib hab
      · have := ha b (by omega) hb'
        rw [hib] at this; cases this
        exact absurd hia (hm.old_not_att hao)
    · have := ha a (by omega) ha'
      rw [hia] at this; cases this
      have hbo : ¬ b < g.n := fun hbo => hm.old_not_att hbo hib
      exact hdn a b (by omega) ha' (by omega) hb' hab

theorem C03_load_init (g' : G) (m : SkIR) (ir : Nat) (hl : load {} m = .ok (g', ir)) (hnd : m.nodeUuids.Nodup) :
    ForestInv g' ∧ CacheInv g' ∧ Distinct g' ∧ IndexInv g' := by
  obtain ⟨h1, h2, h3, h4⟩ := C03_load {} g' m ir C04_init C03_init hl hnd
  refine ⟨h1, h2, h3 ?_, h4 C10_init⟩
  intro a b i ha; exact absurd ha (Nat.not_lt_zero a)

/-- **histories started from a loaded state** (C03, C04, C10): after a load in a state satisfying the
invariants, every history of well-typed public operations during which UUIDs stay pairwise distinct among the
nodes attached to one IR keeps every IR's UUID table exact, the forest consistent and the symbol indexes
exact. (`DistinctAlongFine g' ops` contains `Distinct g'`; by `C03_load` it holds for the loaded state as soon
as it held before the load.) -/
theorem C03_history_after_load (g g' : G) (m : SkIR) (ir : Nat) (hf : ForestInv g) (hc : CacheInv g)
    (hl : load g m = .ok (g', ir)) (hnd : m.nodeUuids.Nodup)
    (ops : List Op) (hops : OpsOK g' ops) (hd : DistinctAlongFine g' ops) :
    CacheInv (run g' ops) ∧ ForestInv (run g' ops) ∧ (IndexInv g → IndexInv (run g' ops)) := by
  obtain ⟨hf', hc', _, hi'⟩ := C03_load g g' m ir hf hc hl hnd
  have hforest : ∀ (pre : List Op), pre <+: ops → ForestInv (run g' pre) :=
    fun pre hpre => C04_run pre g' hf' (OpsOK_prefix pre ops g' hpre hops)
  exact ⟨C03_history_from ops g' hc' hops hd hforest, C04_run ops g' hf' hops,
    fun hi => C10_history_from g' (hi' hi) ops hops hforest⟩

theorem C03_lookup_after_load (g g' : G) (m : SkIR) (ir : Nat) (hf : ForestInv g) (hc : CacheInv g)
    (hl : load g m = .ok (g', ir)) (hnd : m.nodeUuids.Nodup)
    (ops : List Op) (hops : OpsOK g' ops) (hd : DistinctAlongFine g' ops) (i u x : Nat) :
    getByUuid (run g' ops) i u = some x ↔
      (i < (run g' ops).n ∧ (run g' ops).kind i = .ir ∧ x < (run g' ops).n ∧
       irOf (run g' ops) x = some i ∧ (run g' ops).uuid x = u) :=
  C03_lookup_iff _ (C03_history_after_load g g' m ir hf hc hl hnd ops hops hd).1 i u x

/-- C04 / C10 alone need no hypothesis on UUIDs: any message, any history -/
theorem C04_C10_history_after_load (g g' : G) (m : SkIR) (ir : Nat) (hf : ForestInv g) (hi : IndexInv g)
    (hl : load g m = .ok (g', ir)) (ops : List Op) (hops : OpsOK g' ops) :
    ForestInv (run g' ops) ∧ IndexInv (run g' ops) := by
  have hf' : ForestInv g' := (C17_load_coherent' g g' m ir hf hl).2.2.1
  have hforest : ∀ (pre : List Op), pre <+: ops → ForestInv (run g' pre) :=
    fun pre hpre => C04_run pre g' hf' (OpsOK_prefix pre ops g' hpre hops)
  exact ⟨C04_run ops g' hf' hops, C10_history_from g' (load_indexInv hf hi hl) ops hops hforest⟩

/-- a message with all node kinds and all four reference kinds: proxy 20; section 30 / interval 31 with
code block 32 and data block 33; symbols 40 (referent: code block 32), 41 (referent: proxy 20), 42 (value);
entry point 32; an expression using symbol 40; an edge 32 -> 20 -/
def skFull : SkIR :=
  { uuid := 1,
    modules := [{ uuid := 10, proxies := [20],
                  sections := [{ uuid := 30, intervals := [{ uuid := 31, blocks := [(32, true), (33, false)] }] }],
                  symbols := [{ uuid := 40, name := 7, payload := .ref 32 }, { uuid := 41, name := 7, payload := .ref 20 },
                              { uuid := 42, name := 8, payload := .int 5 }],
                  entry := some 32, exprSyms := [40] }],
    edges := [(32, 20)] }

def loadOk (r : Except LErr (G × Nat)) : Bool :=
  match r with
  | .ok _ => true
  | .error _ => false

theorem skFull_loads : loadOk (load {} skFull) = true := by decide +kernel

theorem skFull_nodup : skFull.nodeUuids.Nodup := by decide

/-- `C03_load` is not vacuous: `skFull` is accepted and its node UUIDs are pairwise distinct -/
example : ∃ g' ir, load {} skFull = .ok (g', ir) ∧ ForestInv g' ∧ CacheInv g' ∧ Distinct g' ∧ IndexInv g' := by
  cases h : load {} skFull with
  | error e => have := skFull_loads; rw [h] at this; cases this
  | ok r => exact ⟨r.1, r.2, rfl, C03_load_init r.1 skFull r.2 h skFull_nodup⟩

/-- what the loaded state answers: the table of the new IR (node 0) maps UUID 32 to the code block (node 5);
module node 1 indexes symbols 7, 8 (nodes) under name 7 and symbol 7 under referent 5; a second load of the
same message into that state (IR node 10) leaves the first IR's table alone and answers with its own nodes -/
example :
    (match load {} skFull with
      | .ok (g, ir) => some (ir, getByUuid g ir 32, symbolsNamed g 1 7, references g 5, getByUuid g ir 99)
      | .error _ => none) = some (0, some 5, [7, 8], [7], none) ∧
    (match load {} skFull with
      | .ok (g, _) =>
        (match load g skFull with
          | .ok (g2, ir2) => some (ir2, getByUuid g2 0 32, getByUuid g2 ir2 32, symbolsNamed g2 11 7)
          | .error _ => none)
      | .error _ => none) = some (10, some 5, some 15, [17, 18]) := by decide +kernel

end Gtirb.Loader
