import GtirbModel.LoaderX
import GtirbProofs.Lemmas.LoaderXProofs
import GtirbProofs.Props.C17Loader
import GtirbProofs.Props.C03Load
import GtirbProofs.Props.C01Link
import GtirbProofs.Lemmas.LoaderRefsProofs
/-! Property C17 on the staged decoder with the symbolic-expression pass as the code runs it
(`GtirbModel/LoaderX.lean`, `loadX`): at the end of `Module._decode_protobuf` the loader walks the interval
*objects* under the module and lets each one resolve the symbols of the message it was created from
(`_proto_interval`); `Loader.load` checks one flat list per module *message* instead.

1. Projection: whatever `loadX` accepts, `load` accepts on the same skeleton with the expression symbols erased
   (`XIR.core`), with the same resulting state. Hence every theorem about accepted loads transfers.
2. The difference, decided on examples: accepted by `loadX` (= by the code) and rejected by `load` on the flat
   skeleton; `AttributeError`.
3. Agreement: when no table lookup hits - in particular for pairwise distinct node UUIDs, and for every message
   the value-level reader accepts - `loadX g mx = liftR (load g mx.flat)`. Hence the value-level link carries over.
4. What the pass resolved (`loadXR`). -/
namespace Gtirb.Loader
open Gtirb.Forest

/-! ### 1. projection -/

/-- the skeleton `loadX` projects to carries no expression symbols: its `checkAll` is vacuous -/
theorem XIR.core_exprSyms (mx : XIR) : ∀ md, md ∈ mx.core.modules → md.exprSyms = [] := by
  intro md hmd
  obtain ⟨m, _, rfl⟩ := List.mem_map.1 hmd
  rfl

theorem C17_loadX_load (g g' : G) (mx : XIR) (ir : Nat) (hl : loadX g mx = .ok (g', ir)) :
    load g mx.core = .ok (g', ir) := loadX_ok_load hl

/-- the loaded IR is coherent, whatever the message (duplicates included), in any process state -/
theorem C17_loadX_coherent (g g' : G) (mx : XIR) (ir : Nat) (hf : ForestInv g)
    (hl : loadX g mx = .ok (g', ir)) :
    ir = g.n ∧ g'.kind ir = .ir ∧ ForestInv g' ∧ CacheCoherent g' ir ∧
    -- frame: nothing that existed before is touched, and no other IR's table changes
    (∀ x, x < g.n → g'.par x = g.par x ∧ g'.kind x = g.kind x ∧ g'.uuid x = g.uuid x ∧
      ∀ s, g'.kids x s = g.kids x s) ∧
    (∀ j, j ≠ ir → ∀ u, g'.cache j u = g.cache j u) :=
  C17_load_coherent' g g' mx.core ir hf (loadX_ok_load hl)

/-- fully linked: every node the load created is attached to the new IR -/
theorem C17_loadX_all_attached (g g' : G) (mx : XIR) (ir : Nat) (hf : ForestInv g)
    (hl : loadX g mx = .ok (g', ir)) : ∀ x, g.n ≤ x → x < g'.n → irOf g' x = some ir :=
  C17_load_all_attached g g' mx.core ir hf (loadX_ok_load hl)

/-- typed references: every symbol of the new IR with a referent refers to a block/proxy node that is
attached to the new IR -/
theorem C17_loadX_referents (g g' : G) (mx : XIR) (ir : Nat) (hf : ForestInv g)
    (hl : loadX g mx = .ok (g', ir)) :
    ∀ y, g.n ≤ y → y < g'.n → g'.kind y = .symbol → ∀ b, g'.payload y = .block b →
      (g'.kind b = .code ∨ g'.kind b = .data ∨ g'.kind b = .proxy) ∧ irOf g' b = some ir :=
  C17_load_referents g g' mx.core ir hf (loadX_ok_load hl)

/-- the CFG check, in the final state -/
theorem C17_loadX_edges (g g' : G) (mx : XIR) (ir : Nat) (hf : ForestInv g)
    (hl : loadX g mx = .ok (g', ir)) :
    ∀ e, e ∈ mx.edges → ∀ u, u ∈ [e.1, e.2] →
      ∃ n, g'.cache ir u = some n ∧ (g'.kind n = .code ∨ g'.kind n = .proxy) ∧ irOf g' n = some ir ∧
        g'.uuid n = u :=
  C17_load_edges g g' mx.core ir hf (loadX_ok_load hl)

/-- C03 for loaded IRs (`C03_load`): a message with pairwise distinct node UUIDs, loaded into a state
satisfying the invariants, gives a state satisfying them - for all IRs of the process -/
theorem C03_loadX (g g' : G) (mx : XIR) (ir : Nat) (hf : ForestInv g) (hc : CacheInv g)
    (hl : loadX g mx = .ok (g', ir)) (hnd : mx.core.nodeUuids.Nodup) :
    ForestInv g' ∧ CacheInv g' ∧ (Distinct g → Distinct g') ∧ (IndexInv g → IndexInv g') :=
  C03_load g g' mx.core ir hf hc (loadX_ok_load hl) hnd

/-! ### 2. the difference, decided -/

inductive Outcome where
  | ok | deser | forest | attribute
  deriving DecidableEq, Repr

def outcomeX (r : Except XErr (G × Nat)) : Outcome :=
  match r with
  | .ok _ => .ok
  | .error (.core .deser) => .deser
  | .error (.core (.forest _)) => .forest
  | .error .attribute => .attribute

def outcome (r : Except LErr (G × Nat)) : Outcome :=
  match r with
  | .ok _ => .ok
  | .error .deser => .deser
  | .error (.forest _) => .forest

def coreResult (r : Except XErr (G × Nat)) : Except LErr (G × Nat) :=
  match r with
  | .ok x => .ok x
  | .error (.core e) => .error e
  | .error .attribute => .error .deser

/-- two modules; the section message of the second one re-uses the UUID (3) of the (empty) section of
the first one and contains an interval message whose expression mentions UUID 99, which names nothing -/
def xSkipped : XIR :=
  { uuid := 1, edges := [],
    modules := [{ uuid := 2, proxies := [], symbols := [], entry := none,
                  sections := [{ uuid := 3, intervals := [] }] },
                { uuid := 5, proxies := [], symbols := [], entry := none,
                  sections := [{ uuid := 3, intervals := [{ core := { uuid := 6, blocks := [] }, exprSyms := [99] }] }] }] }

/-- the code (and `loadX`) accepts `xSkipped`: section node 2 is re-used and moved to module 2 (node 3), the
message of the re-used section - its interval 6 with the dangling symbol 99 included - is never looked at, no
node is created for it. The coarser model `load` on the flat skeleton checks 99 and raises
`DeserializationError`. -/
theorem C17_loadX_skipped_example :
    loadSummary (coreResult (loadX {} xSkipped)) 6 =
      some ⟨0, 4, none, [.ir, .module, .section, .module], [1, 2, 3, 5], [none, some 0, some 3, some 0], [1, 3]⟩ ∧
    outcomeX (loadX {} xSkipped) = .ok ∧
    xSkipped.flat.modules.map (·.exprSyms) = [[], [99]] ∧
    outcome (load {} xSkipped.flat) = .deser := by decide

/-- the same inside one module: the section (3) listed twice -/
def xSkippedTwice : XIR :=
  { uuid := 1, edges := [],
    modules := [{ uuid := 2, proxies := [], symbols := [], entry := none,
                  sections := [{ uuid := 3, intervals := [{ core := { uuid := 4, blocks := [] }, exprSyms := [] }] },
                               { uuid := 3, intervals := [{ core := { uuid := 6, blocks := [] }, exprSyms := [99] }] }] }] }

theorem C17_loadX_skipped_twice_example :
    outcomeX (loadX {} xSkippedTwice) = .ok ∧ outcome (load {} xSkippedTwice.flat) = .deser := by decide

/-- an interval (4) decoded - and processed - under module 1 is re-used under module 2 (in the fresh
section 7): at the end of module 2 the interval object has no `_proto_interval` any more -/
def xStolen : XIR :=
  { uuid := 1, edges := [],
    modules := [{ uuid := 2, proxies := [], symbols := [], entry := none,
                  sections := [{ uuid := 3, intervals := [{ core := { uuid := 4, blocks := [] }, exprSyms := [] }] }] },
                { uuid := 5, proxies := [], symbols := [], entry := none,
                  sections := [{ uuid := 7, intervals := [{ core := { uuid := 4, blocks := [] }, exprSyms := [] }] }] }] }

/-- `AttributeError` in the code and in `loadX`; the coarser model `load` accepts -/
theorem C17_loadX_attribute_example :
    outcomeX (loadX {} xStolen) = .attribute ∧ outcome (load {} xStolen.flat) = .ok := by decide

/-- a re-used section that is not empty brings its (processed) intervals along: `AttributeError` as well -/
def xStolenSection : XIR :=
  { uuid := 1, edges := [],
    modules := [{ uuid := 2, proxies := [], symbols := [], entry := none,
                  sections := [{ uuid := 3, intervals := [{ core := { uuid := 4, blocks := [] }, exprSyms := [] }] }] },
                { uuid := 5, proxies := [], symbols := [], entry := none,
                  sections := [{ uuid := 3, intervals := [] }] }] }

theorem C17_loadX_attribute_section_example :
    outcomeX (loadX {} xStolenSection) = .attribute ∧ outcome (load {} xStolenSection.flat) = .ok := by decide

/-- non-vacuity of the projection theorems: they apply to `xSkipped` -/
example : ∃ g' ir, loadX {} xSkipped = .ok (g', ir) ∧ load {} xSkipped.core = .ok (g', ir) ∧
    ForestInv g' ∧ CacheCoherent g' ir := by
  obtain ⟨r, h⟩ : ∃ r, loadX {} xSkipped = .ok r := by
    have := C17_loadX_skipped_example.2.1
    generalize loadX {} xSkipped = x at this
    cases x with
    | ok r => exact ⟨r, rfl⟩
    | error e => cases e with
      | core e => cases e <;> cases this
      | «attribute» => cases this
  have hf : ForestInv ({} : G) := C04_init
  have hc := C17_loadX_coherent {} r.1 xSkipped r.2 hf h
  exact ⟨r.1, r.2, h, C17_loadX_load _ _ _ _ h, hc.2.2.1, hc.2.2.2.1⟩

/-! ### 3. agreement with `load` on the flat skeleton

`MissIR sk` (`Lemmas/LoaderMiss.lean`): no table lookup of `Node._from_protobuf` hits during the load of
`sk` - every UUID of a module, proxy, section, interval, block or symbol message is new to the table when the
message is decoded (a block may carry the UUID of its own interval: the interval registers itself after its
blocks). Then no message is skipped and no node is re-used or moved, every interval object sits under the
module whose message it came from when that module's pass runs, and the pass checks exactly the flat list. -/

example (r : Except LErr (G × Nat)) : liftR r = match r with | .ok a => .ok a | .error e => .error (.core e) := by
  cases r <;> rfl

theorem XIR.flat_nodeUuids (mx : XIR) : mx.flat.nodeUuids = mx.core.nodeUuids := by
  unfold SkIR.nodeUuids XIR.flat XIR.core
  simp only [List.flatMap_map]
  rfl

/-- **agreement, hit-free loads**: when no lookup hits, `loadX` is `load` on the flat skeleton - same state
when accepted, same error otherwise, and `AttributeError` does not occur -/
theorem C17_loadX_agrees_of_miss (g : G) (mx : XIR) (hm : MissIR mx.core) :
    loadX g mx = liftR (load g mx.flat) := loadX_fresh g mx hm

/-- **agreement** for a message with pairwise distinct node UUIDs -/
theorem C17_loadX_agrees (g : G) (mx : XIR) (hnd : mx.core.nodeUuids.Nodup) :
    loadX g mx = liftR (load g mx.flat) := loadX_fresh g mx ((missIR_iff _).2 hnd).1

theorem C17_loadX_agrees_ok (g : G) (mx : XIR) (hnd : mx.core.nodeUuids.Nodup) (r : G × Nat) :
    loadX g mx = .ok r ↔ load g mx.flat = .ok r := by
  rw [C17_loadX_agrees g mx hnd]
  cases load g mx.flat <;> simp [liftR]

theorem C17_loadX_agrees_error (g : G) (mx : XIR) (hnd : mx.core.nodeUuids.Nodup) (e : LErr) :
    loadX g mx = .error (.core e) ↔ load g mx.flat = .error e := by
  rw [C17_loadX_agrees g mx hnd]
  cases load g mx.flat <;> simp [liftR]

theorem C17_loadX_no_attribute (g : G) (mx : XIR) (hnd : mx.core.nodeUuids.Nodup) :
    loadX g mx ≠ .error .attribute := by
  rw [C17_loadX_agrees g mx hnd]
  cases load g mx.flat <;> simp [liftR]

/-- one module with a proxy, a section with two intervals (the first with a code and a data block and two
expression symbols, the second with one), two symbols, an entry point, an edge -/
def xFull : XIR :=
  { uuid := 1, edges := [(5, 3)],
    modules := [{ uuid := 2, proxies := [3], entry := some 5,
                  sections := [{ uuid := 4, intervals :=
                    [{ core := { uuid := 9, blocks := [(5, true), (7, false)] }, exprSyms := [11, 10] },
                     { core := { uuid := 12, blocks := [] }, exprSyms := [10] }] }],
                  symbols := [⟨10, 0, .int 0⟩, ⟨11, 1, .ref 5⟩] }] }

/-- the same with a dangling expression symbol in the second interval -/
def xFullBad : XIR :=
  { xFull with modules := xFull.modules.map fun md => { md with sections := md.sections.map fun s =>
      { s with intervals := s.intervals.map fun x => if x.core.uuid = 12 then { x with exprSyms := [10, 99] } else x } } }

/-- non-vacuity: the agreement theorem applies to `xFull` (accepted by both) and `xFullBad` (rejected by both
with `DeserializationError`) -/
example : xFull.core.nodeUuids.Nodup ∧ xFullBad.core.nodeUuids.Nodup ∧
    outcomeX (loadX {} xFull) = .ok ∧ outcome (load {} xFull.flat) = .ok ∧
    (xFull.flat.modules.map (·.exprSyms)) = [[11, 10, 10]] ∧
    outcomeX (loadX {} xFullBad) = .deser ∧ outcome (load {} xFullBad.flat) = .deser := by decide

/-! ### the value-level link (C01) for `skelOfX` / `loadX`

`skelOfX m` is the skeleton of the message with the expression symbols kept per interval message; its flat
projection is `skelOf m` (`C01_skelOfX_flat`). A message the value-level reader `Proto.fromMsg` accepts is
loaded without a single table hit (`missIR_of_fromMsg`: `fromMsg` checks every node UUID against its
environment exactly where `Node._from_protobuf` looks it up), so on such a message `loadX` is `load` on the
flat skeleton (`C01_linkX_agrees`) and `C01_link_accepts` / `C01_link_shape` carry over. -/

open Gtirb.Msg (MIR IRV fromMsg)

theorem C01_skelOfX_flat (m : MIR) : (skelOfX m).map XIR.flat = skelOf m := (skelOf_eq_X m).symm

def SkIR.eraseExprSyms (sk : SkIR) : SkIR :=
  { sk with modules := sk.modules.map fun md => { md with exprSyms := [] } }

theorem C01_skelOfX_core (m : MIR) : (skelOfX m).map XIR.core = (skelOf m).map SkIR.eraseExprSyms := by
  rw [← C01_skelOfX_flat]
  cases skelOfX m with
  | none => rfl
  | some mx =>
    simp only [Option.map_some]
    congr 1
    unfold XIR.core XIR.flat SkIR.eraseExprSyms
    simp only [List.map_map]
    rfl

/-- the per-interval lists, concatenated, are the module's `exprSyms` of `skelOf` -/
theorem C01_skelOfX_exprSyms (m : MIR) (mx : XIR) (h : skelOfX m = some mx) :
    ∃ sk, skelOf m = some sk ∧ sk.modules.map (·.exprSyms) = mx.modules.map XModule.flatSyms := by
  refine ⟨mx.flat, by rw [← C01_skelOfX_flat, h]; rfl, ?_⟩
  unfold XIR.flat
  simp only [List.map_map]
  rfl

theorem skelOfX_of_skelOf {m : MIR} {sk : SkIR} (hs : skelOf m = some sk) : ∃ mx, skelOfX m = some mx ∧ mx.flat = sk := by
  rw [← C01_skelOfX_flat] at hs
  cases hx : skelOfX m with
  | none => rw [hx] at hs; cases hs
  | some mx => rw [hx] at hs; cases hs; exact ⟨mx, rfl, rfl⟩

theorem C01_linkX_skeleton (m : MIR) (v : IRV) (h : fromMsg m = .ok v) : ∃ mx, skelOfX m = some mx := by
  obtain ⟨sk, hs⟩ := C01_link_skeleton m v h
  obtain ⟨mx, hx, _⟩ := skelOfX_of_skelOf hs
  exact ⟨mx, hx⟩

theorem C01_linkX_agrees (m : MIR) (v : IRV) (h : fromMsg m = .ok v) (mx : XIR) (hs : skelOfX m = some mx) (g : G) :
    MissIR mx.core ∧ loadX g mx = liftR (load g mx.flat) := by
  have hsk : skelOf m = some mx.flat := by rw [← C01_skelOfX_flat, hs]; rfl
  have hm : MissIR mx.flat := missIR_of_fromMsg h hsk
  have hm' : MissIR mx.core := missIR_core_of_flat hm
  exact ⟨hm', loadX_fresh g mx hm'⟩

/-- (A) acceptance: whenever `fromMsg` accepts a message, the message has a skeleton and `loadX` accepts it
(no `DeserializationError`, no `AttributeError`, no exception out of the object graph) -/
theorem C01_linkX_accepts (m : MIR) (v : IRV) (h : fromMsg m = .ok v) :
    ∃ mx, skelOfX m = some mx ∧ ∃ g ir, loadX {} mx = .ok (g, ir) := by
  obtain ⟨sk, hs, g, ir, hl⟩ := C01_link_accepts m v h
  obtain ⟨mx, hx, rfl⟩ := skelOfX_of_skelOf hs
  refine ⟨mx, hx, g, ir, ?_⟩
  rw [(C01_linkX_agrees m v h mx hx {}).2, hl]
  rfl

/-- contrapositive of `C01_linkX_accepts` -/
theorem C01_linkX_rejects (m : MIR) (mx : XIR) (e : XErr) (hs : skelOfX m = some mx)
    (hl : loadX {} mx = .error e) : ∃ e', fromMsg m = .error e' := by
  cases hf : fromMsg m with
  | error e' => exact ⟨e', rfl⟩
  | ok v =>
    obtain ⟨mx', hx', g, ir, hl'⟩ := C01_linkX_accepts m v hf
    rw [hs] at hx'
    cases hx'
    rw [hl] at hl'
    cases hl'

/-- (B) shape: the graph `loadX` builds is the structure the message states, read back from the IR node
through the owning collections, in message order at every level -/
theorem C01_linkX_shape (m : MIR) (v : IRV) (h : fromMsg m = .ok v) (mx : XIR) (hs : skelOfX m = some mx)
    (g : G) (ir : Nat) (hl : loadX {} mx = .ok (g, ir)) :
    g.uuid ir = mx.uuid ∧ (g.kids ir .mods).map (readModule g) = mx.modules.map fun md => skShape md.core := by
  have hsk : skelOf m = some mx.flat := by rw [← C01_skelOfX_flat, hs]; rfl
  have hl' : load {} mx.flat = .ok (g, ir) := by
    have := (C01_linkX_agrees m v h mx hs {}).2
    rw [hl] at this
    cases hf : load {} mx.flat with
    | error e => rw [hf] at this; cases this
    | ok r => rw [hf] at this; simp only [liftR] at this; cases this; rfl
  obtain ⟨h1, h2⟩ := C01_link_shape m v h mx.flat hsk g ir hl'
  refine ⟨h1, ?_⟩
  rw [h2]
  unfold XIR.flat
  simp only [List.map_map]
  rfl

deriving instance DecidableEq for XInterval
deriving instance DecidableEq for XSection
deriving instance DecidableEq for XModule
deriving instance DecidableEq for XIR

example : skelOfX exLinkMsg = some
    { uuid := 1,
      modules := [{ uuid := 2, proxies := [3],
                    sections := [⟨4, [⟨⟨9, [(5, true), (7, false)]⟩, [11]⟩]⟩],
                    symbols := [⟨10, 0, .int 0⟩, ⟨11, 1, .ref 5⟩],
                    entry := some 5 }],
      edges := [(5, 3)] } ∧
    ((skelOfX exLinkMsg).map fun mx => outcomeX (loadX {} mx)) = some .ok := by decide

/-- non-vacuity: the link theorems apply to `exLinkMsg` -/
example : ∃ v mx g ir, fromMsg exLinkMsg = .ok v ∧ skelOfX exLinkMsg = some mx ∧ loadX {} mx = .ok (g, ir) ∧
    g.uuid ir = mx.uuid ∧ (g.kids ir .mods).map (readModule g) = mx.modules.map fun md => skShape md.core := by
  cases hf : fromMsg exLinkMsg with
  | error e => have := exLinkMsg_accepted; rw [hf] at this; cases this
  | ok v =>
    obtain ⟨mx, hs, g, ir, hl⟩ := C01_linkX_accepts _ v hf
    obtain ⟨h1, h2⟩ := C01_linkX_shape _ v hf mx hs g ir hl
    exact ⟨v, mx, g, ir, rfl, hs, hl, h1, h2⟩

/-- `dupMsg` (a block carrying the UUID of its own interval: node UUIDs not pairwise distinct, still no table
hit) is accepted by `fromMsg` and by `loadX`, by evaluation -/
example : (fromMsg dupMsg).toOption.isSome = true ∧
    ((skelOfX dupMsg).map fun mx => (decide mx.core.nodeUuids.Nodup, outcomeX (loadX {} mx))) = some (false, .ok) := by
  decide

/-! ### 4. what the pass resolved

`loadX` checks the expression symbols and drops what the table answered; the Python loader stores the
answers in `interval.symbolic_expressions`. `loadXR` performs exactly the steps of `loadX`
(`C17_loadXR_loadX`) and returns, for every check of the pass, the interval node, the symbol UUID and the
node the table answered at that moment (cf. `loadR`, `C09_loadR_sound`). -/

/-- a record of the pass: (interval node, symbol UUID, symbol node) -/
abbrev XRec := Nat × Nat × Nat

def symExprsR (g : G) (ir : Nat) : Pend → List Nat → Except XErr (Pend × List XRec)
  | pend, [] => .ok (pend, [])
  | pend, x :: xs =>
    match pend.lookup x with
    | none => .error .attribute
    | some syms =>
      match resolveAll g ir (fun k => k == Kind.symbol) syms with
      | .error e => .error (.core e)
      | .ok ns =>
        match symExprsR g ir (pend.filter fun e => e.1 != x) xs with
        | .error e => .error e
        | .ok (pend', rs) => .ok (pend', (syms.zip ns).map (fun p => (x, p.1, p.2)) ++ rs)

/-- `decodeModuleX` (in the form `decodeModuleX_eq_build`), recording -/
def decodeModuleXR (g : G) (pend : Pend) (ir : Nat) (m : XModule) : Except XErr (G × Nat × Pend × List XRec) :=
  match moduleBuildX g pend ir m with
  | .error e => .error (.core e)
  | .ok (g8, v, pend6, fresh) =>
    if fresh then
      match symExprsR g8 ir pend6 (intervalsUnder g8 v) with
      | .error e => .error e
      | .ok (pend8, rs) => .ok (g8, v, pend8, rs)
    else .ok (g8, v, pend6, [])

def decodeModulesXR (ir : Nat) : G → Pend → List XModule → Except XErr (G × List XRec)
  | g, _, [] => .ok (g, [])
  | g, pend, m :: ms =>
    match decodeModuleXR g pend ir m with
    | .error e => .error e
    | .ok (g1, v, pend1, rs1) =>
      match liftE (modAppend g1 ir v) with
      | .error e => .error (.core e)
      | .ok g2 =>
        match decodeModulesXR ir g2 pend1 ms with
        | .error e => .error e
        | .ok (g3, rs2) => .ok (g3, rs1 ++ rs2)

def loadXR (g : G) (m : XIR) : Except XErr (G × Nat × List XRec) :=
  let ir := g.n
  let g1 := mkIR g m.uuid
  match decodeModulesXR ir g1 [] m.modules with
  | .error e => .error e
  | .ok (g2, rs) =>
    match checkAll g2 ir (fun k => k == Kind.code || k == Kind.proxy) (m.edges.flatMap fun e => [e.1, e.2]) with
    | .error e => .error (.core e)
    | .ok _ => .ok (g2, ir, rs)

def dropRecs {α : Type} (r : Except XErr (α × List XRec)) : Except XErr α :=
  match r with
  | .ok (a, _) => .ok a
  | .error e => .error e

theorem symExprsR_proj (g : G) (ir : Nat) : ∀ (xs : List Nat) (pend : Pend),
    dropRecs (symExprsR g ir pend xs) = symExprs g ir pend xs
  | [], _ => rfl
  | x :: xs, pend => by
    simp only [symExprsR, symExprs, resolveAll_eq]
    cases pend.lookup x with
    | none => rfl
    | some syms =>
      simp only []
      cases checkAll g ir (fun k => k == Kind.symbol) syms with
      | error e => rfl
      | ok _ =>
        simp only [Except.map]
        rw [← symExprsR_proj g ir xs]
        cases symExprsR g ir (pend.filter fun e => e.1 != x) xs <;> rfl

theorem decodeModuleXR_proj (g : G) (pend : Pend) (ir : Nat) (m : XModule) :
    (match decodeModuleXR g pend ir m with
     | .ok (g', v, pend', _) => .ok (g', v, pend')
     | .error e => .error e) = decodeModuleX g pend ir m := by
  rw [decodeModuleX_eq_build]
  unfold decodeModuleXR
  cases moduleBuildX g pend ir m with
  | error e => rfl
  | ok r =>
    obtain ⟨g8, v, pend6, fresh⟩ := r
    cases fresh with
    | false => rfl
    | true =>
      simp only [if_true]
      rw [← symExprsR_proj]
      cases symExprsR g8 ir pend6 (intervalsUnder g8 v) <;> rfl

theorem decodeModulesXR_proj (ir : Nat) : ∀ (ms : List XModule) (g : G) (pend : Pend),
    dropRecs (decodeModulesXR ir g pend ms) = decodeModulesX ir g pend ms
  | [], _, _ => rfl
  | m :: ms, g, pend => by
    simp only [decodeModulesXR, decodeModulesX]
    rw [← decodeModuleXR_proj]
    cases decodeModuleXR g pend ir m with
    | error e => rfl
    | ok r =>
      obtain ⟨g1, v, pend1, rs1⟩ := r
      simp only []
      cases liftE (modAppend g1 ir v) with
      | error e => rfl
      | ok g2 =>
        simp only []
        rw [← decodeModulesXR_proj ir ms g2 pend1]
        cases decodeModulesXR ir g2 pend1 ms <;> rfl

theorem C17_loadXR_loadX (g : G) (mx : XIR) :
    (match loadXR g mx with
     | .ok (g', ir, _) => .ok (g', ir)
     | .error e => .error e) = loadX g mx := by
  unfold loadXR loadX
  simp only []
  rw [← decodeModulesXR_proj]
  cases decodeModulesXR g.n (mkIR g mx.uuid) [] mx.modules with
  | error e => rfl
  | ok r =>
    obtain ⟨g2, rs⟩ := r
    simp only [dropRecs]
    cases checkAll g2 g.n (fun k => k == Kind.code || k == Kind.proxy) (mx.edges.flatMap fun e => [e.1, e.2]) <;> rfl

theorem loadXR_ok_loadX {g g' : G} {mx : XIR} {ir : Nat} {rs : List XRec} (h : loadXR g mx = .ok (g', ir, rs)) :
    loadX g mx = .ok (g', ir) := by
  rw [← C17_loadXR_loadX, h]

def XIR.intervals (mx : XIR) : List XInterval := mx.modules.flatMap fun m => m.sections.flatMap (·.intervals)

/-- every pending entry belongs to an interval node this load created from one of the interval messages `L`,
and holds that message's expression symbols -/
def PendOK (g0 g : G) (L : List XInterval) (pend : Pend) : Prop :=
  ∀ e, e ∈ pend → ∃ xm, xm ∈ L ∧ New g0 g (· = Kind.interval) xm.core.uuid e.1 ∧ e.2 = xm.exprSyms

theorem PendOK.of_grows {g0 g g' : G} {L : List XInterval} {pend : Pend} (h : PendOK g0 g L pend) (hg : Grows g g') :
    PendOK g0 g' L pend := fun e he => by
  obtain ⟨xm, h1, h2, h3⟩ := h e he
  exact ⟨xm, h1, h2.of_grows hg, h3⟩

def PStep (g0 : G) (L : List XInterval) (g : G) (pend : Pend) (g' : G) (pend' : Pend) : Prop :=
  Grows g g' ∧ (PendOK g0 g L pend → PendOK g0 g' L pend')

theorem intervalX_pstep {g0 g g' : G} {L : List XInterval} {pend pend' : Pend} {x : XInterval} {v : Nat}
    (hx : x ∈ L) (h0 : g0.n ≤ g.n) (h : decodeIntervalX g pend g0.n x = .ok (g', v, pend')) :
    PStep g0 L g pend g' pend' := by
  rw [decodeIntervalX_eq] at h
  cases hd : decodeInterval g g0.n x.core with
  | error e => rw [hd] at h; cases h
  | ok r =>
    obtain ⟨g1, v1⟩ := r
    rw [hd] at h
    cases h
    have hgr : Grows g g' := ((Made.trace 3).interval (fun _ hk => hk) hd).1
    refine ⟨hgr, fun hp => ?_⟩
    rcases decodeInterval_cases hd with ⟨_, hc, _⟩ | ⟨hc, rfl, g2, bs, g3, hb, hu, rfl⟩
    · simp only [hc, Option.isNone_some, Bool.false_eq_true, if_false]
      exact hp.of_grows hgr
    · simp only [hc, Option.isNone_none, if_true]
      rw [decodeBlocks_eq] at hb
      have g14 : Grows (alloc g .interval x.core.uuid).1 (cacheAddInterval g3 g0.n g.n) :=
        (((Made.trace 4).list (L := fun _ => []) (fun g b _ _ hh =>
            (Made.trace 4).leaf (by cases b.2 <;> decide) (decodeBlock_eq g _ b ▸ hh)) _ _ _ _ hb).1.trans
          (blkUpdate_stable hu).grows).trans (stable_of_onlyCache (onlyCache_cacheAddInterval _ _ _)).grows
      intro e he
      rcases List.mem_cons.1 he with rfl | he
      · exact ⟨x, hx, ⟨h0, Nat.lt_of_lt_of_le (Nat.lt_succ_self _) g14.1,
          by rw [(g14.2 g.n (Nat.lt_succ_self _)).1]; simp, by rw [(g14.2 g.n (Nat.lt_succ_self _)).2]; simp⟩, rfl⟩
      · exact (hp.of_grows hgr) e he

theorem attachX_pstep {α : Type} {g0 : G} {L : List XInterval}
    {dec : G → Pend → Nat → α → Except LErr (G × Nat × Pend)} {p : Nat} {slot : Slot} :
    ∀ (as : List α) (g : G) (pend : Pend) (g' : G) (pend' : Pend),
      (∀ a, a ∈ as → ∀ g pend g' v pend', g0.n ≤ g.n → dec g pend g0.n a = .ok (g', v, pend') →
        PStep g0 L g pend g' pend') →
      g0.n ≤ g.n → decodeAttachX dec g0.n p slot g pend as = .ok (g', pend') → PStep g0 L g pend g' pend'
  | [], g, pend, g', pend', _, _, h => by
    simp only [decodeAttachX] at h
    cases h
    exact ⟨(Stable.refl _).grows, fun hp => hp⟩
  | a :: as, g, pend, g', pend', hdec, h0, h => by
    simp only [decodeAttachX] at h
    cases hd : dec g pend g0.n a with
    | error e => rw [hd] at h; cases h
    | ok r =>
      obtain ⟨g1, v, pend1⟩ := r
      rw [hd] at h
      simp only [] at h
      cases hs : liftE (setAdd g1 p slot v) with
      | error e => rw [hs] at h; cases h
      | ok g2 =>
        rw [hs] at h
        simp only [] at h
        obtain ⟨a1, a2⟩ := hdec a List.mem_cons_self g pend g1 v pend1 h0 hd
        have a12 : Grows g1 g2 := (setAdd_stable (liftE_ok hs)).grows
        obtain ⟨b1, b2⟩ := attachX_pstep as g2 pend1 g' pend' (fun a' ha' => hdec a' (List.mem_cons_of_mem _ ha'))
          (Nat.le_trans h0 (a1.trans a12).1) h
        exact ⟨(a1.trans a12).trans b1, fun hp => b2 ((a2 hp).of_grows a12)⟩

theorem sectionX_pstep {g0 g g' : G} {L : List XInterval} {pend pend' : Pend} {s : XSection} {v : Nat}
    (hs : ∀ x, x ∈ s.intervals → x ∈ L) (h0 : g0.n ≤ g.n) (h : decodeSectionX g pend g0.n s = .ok (g', v, pend')) :
    PStep g0 L g pend g' pend' := by
  rcases decodeSectionX_cases h with ⟨rfl, rfl, _⟩ | ⟨_, _, ha⟩
  · exact ⟨(Stable.refl _).grows, fun hp => hp⟩
  · have g02 : Grows g (cacheSet (alloc g .section s.uuid).1 g0.n s.uuid g.n) :=
      (grows_alloc g _ _).trans (stable_cacheSet _ _ _ _).grows
    obtain ⟨b1, b2⟩ := attachX_pstep (L := L) s.intervals _ pend _ _
      (fun x hx g pend g' v pend' hg hd => intervalX_pstep (hs x hx) hg hd) (Nat.le_trans h0 g02.1) ha
    exact ⟨g02.trans b1, fun hp => b2 (hp.of_grows g02)⟩

theorem moduleBuildX_pstep {g0 g g8 : G} {L : List XInterval} {pend pend6 : Pend} {m : XModule} {v : Nat} {fresh : Bool}
    (hm : ∀ s, s ∈ m.sections → ∀ x, x ∈ s.intervals → x ∈ L) (h0 : g0.n ≤ g.n)
    (h : moduleBuildX g pend g0.n m = .ok (g8, v, pend6, fresh)) : PStep g0 L g pend g8 pend6 := by
  rcases moduleBuildX_cases h with ⟨_, rfl, rfl, _⟩ | ⟨_, _, _, g4, g6, hp4, hp6, hp8⟩
  · exact ⟨(Stable.refl _).grows, fun hp => hp⟩
  · have g04 : Grows g g4 := ((grows_alloc g _ _).trans (stable_cacheSet _ _ _ _).grows).trans
      ((Made.trace 2).attach (L := fun _ => []) (fun g u _ _ hh =>
        (Made.trace 2).leaf (k := .proxy) (by decide) (decodeProxy_eq g _ u ▸ hh)) _ _ _ hp4).1
    obtain ⟨b1, b2⟩ := attachX_pstep (L := L) m.sections g4 pend g6 pend6
      (fun s hs g pend g' v pend' hg hd => sectionX_pstep (hm s hs) hg hd) (Nat.le_trans h0 g04.1) hp6
    have g68 : Grows g6 g8 :=
      ((Made.trace 2).attach (L := fun _ => []) (fun _ _ _ _ hh => (Made.trace 2).symbol (by decide) hh) _ _ _ hp8).1
    exact ⟨(g04.trans b1).trans g68, fun hp => (b2 (hp.of_grows g04)).of_grows g68⟩

/-- the pass in a state in the middle of a load: every record is a symbol the table answered for a UUID of the
interval's pending entry; what remains pending was pending -/
theorem symExprsR_sound {g0 g : G} (hm : Mid g0 g) : ∀ (xs : List Nat) (pend pend' : Pend) (rs : List XRec),
    symExprsR g g0.n pend xs = .ok (pend', rs) →
    (∀ e, e ∈ pend' → e ∈ pend) ∧
    ∀ r, r ∈ rs → (∃ syms, (r.1, syms) ∈ pend ∧ r.2.1 ∈ syms) ∧ New g0 g (· = Kind.symbol) r.2.1 r.2.2
  | [], pend, pend', rs, h => by
    simp only [symExprsR] at h
    cases h
    exact ⟨fun e he => he, fun r hr => by cases hr⟩
  | x :: xs, pend, pend', rs, h => by
    simp only [symExprsR, resolveAll_eq] at h
    cases hl : pend.lookup x with
    | none => rw [hl] at h; cases h
    | some syms =>
      rw [hl] at h
      simp only [] at h
      rcases checkAll_cases g g0.n (fun k => k == Kind.symbol) syms with ⟨a1, hall⟩ | ⟨a1, _⟩
      · rw [a1] at h
        simp only [Except.map] at h
        cases hr : symExprsR g g0.n (pend.filter fun e => e.1 != x) xs with
        | error e => rw [hr] at h; cases h
        | ok r2 =>
          obtain ⟨p2, rs2⟩ := r2
          rw [hr] at h
          cases h
          obtain ⟨i1, i2⟩ := symExprsR_sound hm xs _ _ _ hr
          refine ⟨fun e he => (List.mem_filter.1 (i1 e he)).1, ?_⟩
          intro r hr'
          rcases List.mem_append.1 hr' with hr' | hr'
          · obtain ⟨q, hq, rfl⟩ := List.mem_map.1 hr'
            obtain ⟨q1, q2⟩ := List.mem_zip_map _ hq
            refine ⟨⟨syms, List.mem_of_lookup hl, q1⟩, ?_⟩
            rw [q2]
            exact (New.of_entry hm (ok := fun k => k == Kind.symbol) (hall _ q1).answer.1 (hall _ q1).answer.2).imp
              (fun k hk => by simpa using hk)
          · obtain ⟨⟨syms', s1, s2⟩, n2⟩ := i2 r hr'
            exact ⟨⟨syms', (List.mem_filter.1 s1).1, s2⟩, n2⟩
      · rw [a1] at h; cases h

def RecOK (g0 g : G) (L : List XInterval) (r : XRec) : Prop :=
  ∃ xm, xm ∈ L ∧ r.2.1 ∈ xm.exprSyms ∧ New g0 g (· = Kind.interval) xm.core.uuid r.1 ∧
    New g0 g (· = Kind.symbol) r.2.1 r.2.2

theorem decodeModulesXR_sound {g0 : G} {L : List XInterval} : ∀ (ms : List XModule) (g g' : G) (pend : Pend)
    (rs : List XRec), (∀ m, m ∈ ms → ∀ s, s ∈ m.sections → ∀ x, x ∈ s.intervals → x ∈ L) →
    Mid g0 g → AllAtt g0 g → PendOK g0 g L pend → decodeModulesXR g0.n g pend ms = .ok (g', rs) →
    Grows g g' ∧ Mid g0 g' ∧ AllAtt g0 g' ∧ ∀ r, r ∈ rs → RecOK g0 g' L r
  | [], g, g', pend, rs, _, hm, ha, _, h => by
    simp only [decodeModulesXR] at h
    cases h
    exact ⟨(Stable.refl _).grows, hm, ha, fun r hr => by cases hr⟩
  | m :: ms, g, g', pend, rs, hL, hm, ha, hp, h => by
    simp only [decodeModulesXR] at h
    cases hd : decodeModuleXR g pend g0.n m with
    | error e => rw [hd] at h; cases h
    | ok r =>
      obtain ⟨g1, v, pend1, rs1⟩ := r
      rw [hd] at h
      simp only [] at h
      cases hap : liftE (modAppend g1 g0.n v) with
      | error e => rw [hap] at h; cases h
      | ok g2 =>
        rw [hap] at h
        simp only [] at h
        cases hr : decodeModulesXR g0.n g2 pend1 ms with
        | error e => rw [hr] at h; cases h
        | ok r2 =>
          obtain ⟨g3, rs2⟩ := r2
          rw [hr] at h
          cases h
          have hcore := decodeModuleX_ok_core (by rw [← decodeModuleXR_proj, hd])
          have d := decodeModule_ok _ g m.core g1 v hm (ha.cov hm) hcore
          obtain ⟨m2, a2⟩ := modAppend_outer d.mid d.new d.lt d.kind d.cov (liftE_ok hap)
          have g12 : Grows g1 g2 := (modAppend_stable (liftE_ok hap)).grows
          have hrec1 : Grows g g1 ∧ PendOK g0 g1 L pend1 ∧ ∀ r, r ∈ rs1 → RecOK g0 g1 L r := by
            unfold decodeModuleXR at hd
            cases hb : moduleBuildX g pend g0.n m with
            | error e => rw [hb] at hd; cases hd
            | ok rb =>
              obtain ⟨g8, v8, pend6, fresh⟩ := rb
              rw [hb] at hd
              obtain ⟨s1, s2⟩ := moduleBuildX_pstep (L := L) (hL m List.mem_cons_self) (Nat.le_of_lt hm.lt) hb
              cases fresh with
              | false =>
                simp only [Bool.false_eq_true, if_false] at hd
                cases hd
                exact ⟨s1, s2 hp, fun r hr => by cases hr⟩
              | true =>
                simp only [if_true] at hd
                cases hse : symExprsR g8 g0.n pend6 (intervalsUnder g8 v8) with
                | error e => rw [hse] at hd; cases hd
                | ok rse =>
                  obtain ⟨p8, rs8⟩ := rse
                  rw [hse] at hd
                  cases hd
                  obtain ⟨t1, t2⟩ := symExprsR_sound d.mid _ _ _ _ hse
                  refine ⟨s1, fun e he => s2 hp e (t1 e he), ?_⟩
                  intro r hr'
                  obtain ⟨⟨syms, u1, u2⟩, n2⟩ := t2 r hr'
                  obtain ⟨xm, x1, x2, x3⟩ := s2 hp _ u1
                  exact ⟨xm, x1, by rw [← x3]; exact u2, x2, n2⟩
          obtain ⟨g01, hp1, hrs1⟩ := hrec1
          obtain ⟨g23, m3, a3, hrs2⟩ := decodeModulesXR_sound ms g2 g' pend1 rs2
            (fun m' hm' => hL m' (List.mem_cons_of_mem _ hm')) m2 a2 (hp1.of_grows g12) hr
          refine ⟨(g01.trans g12).trans g23, m3, a3, ?_⟩
          intro r hr'
          rcases List.mem_append.1 hr' with hr' | hr'
          · obtain ⟨xm, x1, x2, x3, x4⟩ := hrs1 r hr'
            exact ⟨xm, x1, x2, x3.of_grows (g12.trans g23), x4.of_grows (g12.trans g23)⟩
          · exact hrs2 r hr'

/-- **what the pass resolved, any message** (duplicated UUIDs included): every record names an interval node
created by this load from an interval message `xm` of the message (kind interval, UUID of `xm`) and a symbol
node created by this load (kind symbol, carrying the recorded UUID, which is one of `xm`'s expression
symbols); both are allocated in the final state and attached to the loaded IR. (With duplicated UUIDs the
final table may answer another node for that UUID; kind and UUID were fixed at resolution time.) -/
theorem C17_loadXR_sound (g g' : G) (mx : XIR) (ir : Nat) (rs : List XRec) (hf : ForestInv g)
    (hl : loadXR g mx = .ok (g', ir, rs)) :
    ir = g.n ∧ ∀ r, r ∈ rs → ∃ xm, xm ∈ mx.intervals ∧ r.2.1 ∈ xm.exprSyms ∧
      IsLoaded g g' (· = Kind.interval) xm.core.uuid r.1 ∧ IsLoaded g g' (· = Kind.symbol) r.2.1 r.2.2 := by
  unfold loadXR at hl
  simp only [] at hl
  cases hd : decodeModulesXR g.n (mkIR g mx.uuid) [] mx.modules with
  | error e => rw [hd] at hl; cases hl
  | ok r =>
    obtain ⟨g2, rs2⟩ := r
    rw [hd] at hl
    simp only [] at hl
    cases hc : checkAll g2 g.n (fun k => k == Kind.code || k == Kind.proxy) (mx.edges.flatMap fun e => [e.1, e.2]) with
    | error e => rw [hc] at hl; cases hl
    | ok _ =>
      rw [hc] at hl
      cases hl
      obtain ⟨m1, a1⟩ := mid_mkIR hf mx.uuid
      obtain ⟨_, _, a2, hrs⟩ := decodeModulesXR_sound (g0 := g) (L := mx.intervals) mx.modules _ _ [] rs
        (fun m hm s hs x hx => List.mem_flatMap.2 ⟨m, hm, List.mem_flatMap.2 ⟨s, hs, hx⟩⟩) m1 a1
        (fun e he => by cases he) hd
      refine ⟨rfl, fun r hr => ?_⟩
      obtain ⟨xm, x1, x2, x3, x4⟩ := hrs r hr
      exact ⟨xm, x1, x2, IsLoaded.of_new a2 x3, IsLoaded.of_new a2 x4⟩

/-- on `xFull`: three checks, in pass order - interval node 4 (UUID 9) resolves 11 to symbol node 9 and 10 to
symbol node 8, interval node 7 (UUID 12) resolves 10 to symbol node 8 -/
theorem C17_loadXR_example : (match loadXR {} xFull with
    | .ok (g, _, rs) => some (rs, [4, 7].map g.uuid, [9, 8].map g.uuid, [9, 8].map g.kind)
    | .error _ => none) =
    some ([(4, 11, 9), (4, 10, 8), (7, 10, 8)], [9, 12], [11, 10], [.symbol, .symbol]) := by decide

/-- non-vacuity: `C17_loadXR_sound` applies to `xFull` -/
example : ∃ g' ir rs, loadXR {} xFull = .ok (g', ir, rs) ∧ rs.length = 3 ∧
    ∀ r, r ∈ rs → ∃ xm, xm ∈ xFull.intervals ∧ r.2.1 ∈ xm.exprSyms ∧
      IsLoaded {} g' (· = Kind.interval) xm.core.uuid r.1 ∧ IsLoaded {} g' (· = Kind.symbol) r.2.1 r.2.2 := by
  cases h : loadXR {} xFull with
  | error e => have := C17_loadXR_example; rw [h] at this; cases this
  | ok r =>
    obtain ⟨g', ir, rs⟩ := r
    have hf : ForestInv ({} : G) := C04_init
    refine ⟨g', ir, rs, rfl, ?_, (C17_loadXR_sound {} g' xFull ir rs hf h).2⟩
    have := C17_loadXR_example
    rw [h] at this
    simp only [Option.some.injEq, Prod.mk.injEq] at this
    rw [this.1]
    rfl

end Gtirb.Loader
