import GtirbModel.CfgKeyed
import GtirbProofs.Props.C11
/-! C11, mechanism level: the keyed multigraph store of `GtirbModel/CfgKeyed.lean`
(`_edge_key` search, networkx key allocation, `remove_edge` by key) refines the
duplicate-free edge list of `GtirbModel/Cfg.lean` operation by operation. -/
namespace Gtirb.Cfg

def keyTriples (g : MStore) : List (Nat × Nat × Nat) := g.map fun m => (m.src, m.dst, m.key)

/-- `keys`: within one `(source, target)` key dict every key occurs once (a Python dict);
`labels`: no two parallel edges carry equal labels (`abs g` is duplicate-free) -/
structure MInv (g : MStore) : Prop where
  keys : (keyTriples g).Nodup
  labels : (abs g).Nodup

instance (g : MStore) : Decidable (MInv g) :=
  decidable_of_iff ((keyTriples g).Nodup ∧ (abs g).Nodup)
    ⟨fun h => ⟨h.1, h.2⟩, fun h => ⟨h.1, h.2⟩⟩

theorem MInv.nil : MInv [] := ⟨List.nodup_nil, List.nodup_nil⟩

theorem toEdge_eq_iff (m : MEdge) (e : Edge) :
    m.toEdge = e ↔ m.src = e.src ∧ m.dst = e.dst ∧ m.label = e.label := by
  cases e; simp [MEdge.toEdge]

theorem edgeKey_nil (e : Edge) : edgeKey [] e = none := rfl

/-- looking in the key dict of `(source, target)` for the label is looking in the store for
the edge -/
theorem edgeKey_eq_find (g : MStore) (e : Edge) :
    edgeKey g e = (g.find? fun m => m.toEdge = e).map (·.key) := by
  unfold edgeKey keydict
  rw [List.find?_filter]
  congr 2
  funext m
  cases e
  simp [MEdge.toEdge, Bool.and_assoc]

theorem edgeKey_cons (m : MEdge) (g : MStore) (e : Edge) :
    edgeKey (m :: g) e = if m.toEdge = e then some m.key else edgeKey g e := by
  simp only [edgeKey_eq_find, List.find?_cons]
  by_cases h : m.toEdge = e <;> simp [h]

theorem edgeKey_some (g : MStore) (e : Edge) (k : Nat) (h : edgeKey g e = some k) :
    ∃ m, m ∈ g ∧ m.toEdge = e ∧ m.key = k := by
  rw [edgeKey_eq_find, Option.map_eq_some_iff] at h
  obtain ⟨m, hm, hk⟩ := h
  exact ⟨m, List.mem_of_find?_eq_some hm, by simpa using List.find?_some hm, hk⟩

theorem mContains_iff (g : MStore) (e : Edge) : mContains g e = true ↔ e ∈ abs g := by
  unfold mContains abs
  rw [edgeKey_eq_find, Option.isSome_map, List.find?_isSome, List.mem_map]
  simp only [decide_eq_true_eq]

/-- `__contains__` (the `_edge_key` search) is membership of the abstract store -/
theorem C11_refine_contains (g : MStore) (e : Edge) :
    (edgeKey g e).isSome = contains (abs g) e :=
  Bool.eq_iff_iff.2 ((mContains_iff g e).trans (C11_contains _ e).symm)

theorem edgeKey_eq_none (g : MStore) (e : Edge) : edgeKey g e = none ↔ e ∉ abs g := by
  rw [← mContains_iff, mContains, Option.not_isSome_iff_eq_none]

/-- `while key in keydict: key += 1` stops on a free key, unless every key it tried is taken -/
theorem bumpKey_fresh (ks : List Nat) (fuel k : Nat) :
    bumpKey ks fuel k ∉ ks ∨ ∀ j, k ≤ j → j < k + fuel → j ∈ ks := by
  induction fuel generalizing k with
  | zero => exact .inr fun j h1 h2 => by omega
  | succ fuel ih =>
    unfold bumpKey
    split
    next hc =>
      refine (ih (k + 1)).imp_right fun h j h1 h2 => ?_
      by_cases hj : j = k
      · subst hj; simpa using hc
      · exact h j (by omega) (by omega)
    next hc => exact .inl (by simpa using hc)

/-- `len(keydict) + 1` tries suffice: that many distinct keys do not fit in the key dict -/
theorem newKey_not_mem (g : MStore) (s d : Nat) :
    newKey g s d ∉ (keydict g s d).map (·.key) := by
  unfold newKey
  refine (bumpKey_fresh _ _ _).resolve_right fun h => ?_
  have := (List.nodup_range' (s := ((keydict g s d).map (·.key)).length)
    (n := ((keydict g s d).map (·.key)).length + 1)).length_le_of_subset fun j hj => by
      rw [List.mem_range'_1] at hj
      exact h j hj.1 hj.2
  simp at this
  omega

/-- the allocated key is not in use between that ordered pair -/
theorem C11_newKey_fresh (g : MStore) (s d : Nat) :
    ∀ m, m ∈ g → m.src = s → m.dst = d → m.key ≠ newKey g s d := by
  intro m hm hs hd hk
  apply newKey_not_mem g s d
  rw [← hk]
  apply List.mem_map.2
  refine ⟨m, ?_, rfl⟩
  unfold keydict
  simp [hm, hs, hd]

/-- when the number of parallel edges is itself free (no discard has left a hole below),
it is the key -/
theorem newKey_eq_length (g : MStore) (s d : Nat)
    (h : (keydict g s d).length ∉ (keydict g s d).map (·.key)) :
    newKey g s d = (keydict g s d).length := by
  have hc : ((keydict g s d).map (·.key)).contains ((keydict g s d).map (·.key)).length
      = false := by
    simpa using h
  unfold newKey
  show bumpKey _ (_ + 1) _ = _
  unfold bumpKey
  rw [if_neg (by rw [hc]; simp)]
  simp

theorem abs_mAdd (g : MStore) (e : Edge) : abs (mAdd g e) = add (abs g) e := by
  unfold mAdd add
  rw [mContains, C11_refine_contains]
  split
  · rfl
  · simp [nxAddEdge, abs, MEdge.toEdge]

theorem C11_refine_add (g : MStore) (e : Edge) (h : MInv g) :
    MInv (mAdd g e) ∧ abs (mAdd g e) = add (abs g) e := by
  refine ⟨⟨?_, by rw [abs_mAdd]; exact add_inv _ _ h.labels⟩, abs_mAdd g e⟩
  unfold mAdd
  split
  · exact h.keys
  · unfold nxAddEdge keyTriples
    rw [List.map_append, List.nodup_append]
    refine ⟨h.keys, by simp, ?_⟩
    intro a ha b hb
    simp only [List.map_cons, List.map_nil, List.mem_singleton] at hb
    subst hb
    intro hab
    subst hab
    obtain ⟨m, hm, hmeq⟩ := List.mem_map.1 ha
    simp only [Prod.mk.injEq] at hmeq
    exact C11_newKey_fresh g _ _ m hm hmeq.1 hmeq.2.1 hmeq.2.2

/-- what `remove_edge` keeps -/
theorem nxKeeps_iff (x : MEdge) (s d k : Nat) :
    (!(x.src == s && x.dst == d && x.key == k)) = true ↔ (x.src, x.dst, x.key) ≠ (s, d, k) := by
  simp only [Bool.not_eq_true', Bool.and_eq_false_iff, beq_eq_false_iff_ne, ne_eq, Prod.mk.injEq,
    Classical.not_and_iff_not_or_not, or_assoc]

/-- only key uniqueness is needed: `remove_edge` by key deletes the one entry that
`_edge_key` found, which is the first entry of the edge -/
theorem mDiscard_eq_eraseP (g : MStore) (e : Edge) (h : (keyTriples g).Nodup) :
    mDiscard g e = g.eraseP fun m => m.toEdge = e := by
  induction g with
  | nil => rfl
  | cons m g ih =>
    obtain ⟨hm, hg⟩ := List.nodup_cons.1 h
    have ih := ih hg
    unfold mDiscard at ih ⊢
    rw [edgeKey_cons]
    by_cases hme : m.toEdge = e
    · obtain ⟨h1, h2, -⟩ := (toEdge_eq_iff m e).1 hme
      rw [if_pos hme, List.eraseP_cons_of_pos (by simpa using hme)]
      show List.filter _ (m :: g) = g
      rw [List.filter_cons_of_neg (by rw [nxKeeps_iff, h1, h2]; simp)]
      exact List.filter_eq_self.2 fun x hx => (nxKeeps_iff ..).2 fun hx' =>
        hm (List.mem_map.2 ⟨x, hx, by simp only [hx', h1, h2]⟩)
    · rw [if_neg hme, List.eraseP_cons_of_neg (by simpa using hme), ← ih]
      cases hk : edgeKey g e with
      | none => rfl
      | some k =>
        obtain ⟨m', hm', hm'e, hm'k⟩ := edgeKey_some g e k hk
        obtain ⟨h1, h2, -⟩ := (toEdge_eq_iff m' e).1 hm'e
        exact List.filter_cons_of_pos ((nxKeeps_iff ..).2 fun hx' =>
          hm (List.mem_map.2 ⟨m', hm', by simp only [hx', h1, h2, hm'k]⟩))

theorem abs_mDiscard (g : MStore) (e : Edge) (h : (keyTriples g).Nodup) :
    abs (mDiscard g e) = discard (abs g) e := by
  rw [mDiscard_eq_eraseP g e h]
  unfold abs discard
  rw [List.erase_eq_eraseP, List.eraseP_map]
  congr 2
  funext m
  simp [eq_comm]
  rfl

theorem C11_refine_discard (g : MStore) (e : Edge) (h : MInv g) :
    MInv (mDiscard g e) ∧ abs (mDiscard g e) = discard (abs g) e := by
  have ha := abs_mDiscard g e h.keys
  refine ⟨⟨?_, ha ▸ discard_inv _ _ h.labels⟩, ha⟩
  rw [mDiscard_eq_eraseP g e h.keys]
  exact h.keys.sublist (List.eraseP_sublist.map _)

theorem C11_refine_clear (g : MStore) : MInv (mClear g) ∧ abs (mClear g) = clear (abs g) :=
  ⟨MInv.nil, rfl⟩

/-- iteration enumerates exactly the abstract store; under the invariant every edge once -/
theorem C11_refine_iter (g : MStore) : mEdges g = abs g ∧ mLen g = (abs g).length ∧
    (MInv g → (mEdges g).Nodup) :=
  ⟨rfl, by simp [mLen, abs], fun h => h.labels⟩

theorem C11_refine_out (g : MStore) (n : Nat) :
    mOutEdges g n = outEdges (abs g) n ∧ abs (g.filter (·.src == n)) = outEdges (abs g) n := by
  have : abs (g.filter (·.src == n)) = outEdges (abs g) n := by
    unfold abs outEdges
    rw [List.filter_map]
    rfl
  exact ⟨this, this⟩

theorem C11_refine_in (g : MStore) (n : Nat) :
    mInEdges g n = inEdges (abs g) n ∧ abs (g.filter (·.dst == n)) = inEdges (abs g) n := by
  have : abs (g.filter (·.dst == n)) = inEdges (abs g) n := by
    unfold abs inEdges
    rw [List.filter_map]
    rfl
  exact ⟨this, this⟩

theorem refine_foldl {α : Type} (f : MStore → α → MStore) (f' : Store → α → Store)
    (hf : ∀ g a, MInv g → MInv (f g a) ∧ abs (f g a) = f' (abs g) a)
    (xs : List α) (g : MStore) (h : MInv g) :
    MInv (xs.foldl f g) ∧ abs (xs.foldl f g) = xs.foldl f' (abs g) := by
  induction xs generalizing g with
  | nil => exact ⟨h, rfl⟩
  | cons a xs ih =>
    obtain ⟨h1, h2⟩ := hf g a h
    rw [List.foldl_cons, List.foldl_cons, ← h2]
    exact ih _ h1

theorem refine_update (g : MStore) (es : List Edge) (h : MInv g) :
    MInv (mUpdate g es) ∧ abs (mUpdate g es) = update (abs g) es :=
  refine_foldl mAdd add C11_refine_add es g h

theorem refine_isub (g : MStore) (es : List Edge) (h : MInv g) :
    MInv (mIsub g es) ∧ abs (mIsub g es) = isub (abs g) es :=
  refine_foldl mDiscard discard C11_refine_discard es g h

theorem refine_iand (g : MStore) (es : List Edge) (h : MInv g) :
    MInv (mIand g es) ∧ abs (mIand g es) = iand (abs g) es :=
  refine_foldl mDiscard discard C11_refine_discard _ g h

theorem refine_ixor (g : MStore) (es : List Edge) (h : MInv g) :
    MInv (mIxor g es) ∧ abs (mIxor g es) = ixor (abs g) es := by
  refine refine_foldl (fun g e => if mContains g e then mDiscard g e else mAdd g e)
    (fun g e => if contains g e then discard g e else add g e) ?_ es g h
  intro g e hg
  simp only [mContains, C11_refine_contains]
  split
  · exact C11_refine_discard g e hg
  · exact C11_refine_add g e hg

/-- `mStep` and `Cfg.step` commute through `abs` (same successor store, same failures), and
the representation invariant is preserved -/
theorem C11_refine_step (g : MStore) (op : Op) (h : MInv g) :
    (mStep g op).map abs = step (abs g) op ∧ ∀ g', mStep g op = some g' → MInv g' := by
  have ok : ∀ {g' : MStore} {s' : Store}, MInv g' ∧ abs g' = s' →
      (some g').map abs = some s' ∧ ∀ g'', some g' = some g'' → MInv g'' :=
    fun h => ⟨congrArg some h.2, fun _ e => Option.some.inj e ▸ h.1⟩
  cases op with
  | add e => exact ok (C11_refine_add g e h)
  | discard e => exact ok (C11_refine_discard g e h)
  | remove e | pop e =>
    simp only [mStep, step, mRemove, remove, mPopReported, popReported, mContains, C11_refine_contains]
    split
    · exact ok (C11_refine_discard g e h)
    · exact ⟨rfl, fun _ e => nomatch e⟩
  | clear => exact ok (C11_refine_clear g)
  | update es | ior es => exact ok (refine_update g es h)
  | iand es => exact ok (refine_iand g es h)
  | isub es => exact ok (refine_isub g es h)
  | ixor es => exact ok (refine_ixor g es h)

/-- the keyed store fails exactly when the set-level store does -/
theorem C11_refine_step_error (g : MStore) (op : Op) (h : MInv g) :
    mStep g op = none ↔ step (abs g) op = none := by
  rw [← (C11_refine_step g op h).1]
  cases mStep g op <;> simp

theorem C11_refine_run (g : MStore) (ops : List Op) (h : MInv g) :
    MInv (mRun g ops) ∧ abs (mRun g ops) = run (abs g) ops := by
  unfold mRun run
  induction ops generalizing g with
  | nil => exact ⟨h, rfl⟩
  | cons op ops ih =>
    rw [List.foldl_cons, List.foldl_cons]
    obtain ⟨hsq, hinv⟩ := C11_refine_step g op h
    cases hs : mStep g op with
    | none =>
      rw [hs] at hsq
      rw [← hsq]
      exact ih g h
    | some g' =>
      rw [hs] at hsq
      rw [← hsq]
      exact ih g' (hinv g' hs)

/-- every store reachable through the public operations from the empty CFG satisfies the
representation invariant and abstracts to the set-level store reached by the same history -/
theorem C11_refine_history (ops : List Op) :
    MInv (mRun [] ops) ∧ abs (mRun [] ops) = run [] ops :=
  C11_refine_run [] ops MInv.nil

/-- all observations of a reachable keyed store are those of the set-level store -/
theorem C11_keyed_history (ops : List Op) :
    MInv (mRun [] ops) ∧ mEdges (mRun [] ops) = run [] ops ∧
    mLen (mRun [] ops) = (run [] ops).length ∧
    (∀ e, mContains (mRun [] ops) e = contains (run [] ops) e) ∧
    (∀ n, mOutEdges (mRun [] ops) n = outEdges (run [] ops) n) ∧
    (∀ n, mInEdges (mRun [] ops) n = inEdges (run [] ops) n) := by
  obtain ⟨hi, ha⟩ := C11_refine_history ops
  refine ⟨hi, ha, ?_, ?_, ?_, ?_⟩
  · rw [← ha]; exact (C11_refine_iter _).2.1
  · intro e; rw [← ha]; exact C11_refine_contains _ e
  · intro n; rw [← ha]; exact (C11_refine_out _ n).1
  · intro n; rw [← ha]; exact (C11_refine_in _ n).1

/-- the mathematical-set transformer of every operation -/
def specStep (S : Edge → Prop) : Op → Edge → Prop
  | .add e => fun x => S x ∨ x = e
  | .discard e => fun x => S x ∧ x ≠ e
  | .remove e => fun x => S x ∧ x ≠ e
  | .pop e => fun x => S x ∧ x ≠ e
  | .clear => fun _ => False
  | .update es => fun x => S x ∨ x ∈ es
  | .ior es => fun x => S x ∨ x ∈ es
  | .iand es => fun x => S x ∧ x ∈ es
  | .isub es => fun x => S x ∧ x ∉ es
  | .ixor es => fun x => (S x ∧ x ∉ es) ∨ (¬ S x ∧ x ∈ es)

/-- when the operation fails: `remove` / reported `pop` of a non-member -/
def specFails (S : Edge → Prop) : Op → Prop
  | .remove e => ¬ S e
  | .pop e => ¬ S e
  | _ => False

theorem C11_step_refines (g g' : Store) (op : Op) (hg : CfgInv g)
    (hx : ∀ es, op = .ixor es → es.Nodup) (hs : step g op = some g') :
    ∀ x, x ∈ g' ↔ specStep (· ∈ g) op x := by
  intro x
  cases op with
  | add e => cases hs; exact C11_add_mem g e x
  | discard e => cases hs; exact C11_discard_mem g e x hg
  | remove e =>
    simp only [step, C11_remove] at hs
    split at hs
    · cases hs; exact C11_discard_mem g e x hg
    · cases hs
  | pop e =>
    simp only [step, C11_pop] at hs
    split at hs
    · cases hs; exact C11_discard_mem g e x hg
    · cases hs
  | clear => cases hs; simp [specStep]
  | update es => cases hs; exact C11_update_mem g es x
  | ior es => cases hs; exact C11_ior_mem g es x
  | iand es => cases hs; exact C11_iand_mem g es x hg
  | isub es => cases hs; exact C11_isub_mem g es x hg
  | ixor es => cases hs; exact C11_ixor_mem g es x hg (hx es rfl)

theorem C11_step_fails (g : Store) (op : Op) : step g op = none ↔ specFails (· ∈ g) op := by
  cases op with
  | remove e => simp only [step, C11_remove, specFails]; by_cases h : e ∈ g <;> simp [h]
  | pop e => simp only [step, C11_pop, specFails]; by_cases h : e ∈ g <;> simp [h]
  | _ => simp [step, specFails]

/-- the same statement for the mechanism: what `__contains__` answers after an operation of
the keyed store is the set transformer applied to what it answered before -/
theorem C11_keyed_step_refines (g g' : MStore) (op : Op) (hg : MInv g)
    (hx : ∀ es, op = .ixor es → es.Nodup) (hs : mStep g op = some g') :
    MInv g' ∧ ∀ x, mContains g' x = true ↔ specStep (fun y => mContains g y = true) op x := by
  obtain ⟨hsq, hinv⟩ := C11_refine_step g op hg
  refine ⟨hinv g' hs, ?_⟩
  rw [hs] at hsq
  have h := C11_step_refines (abs g) (abs g') op hg.labels hx hsq.symm
  intro x
  rw [mContains_iff, h x]
  have hS : (fun y => mContains g y = true) = (· ∈ abs g) := by
    funext y; exact propext (mContains_iff g y)
  rw [hS]

theorem C11_keyed_step_fails (g : MStore) (op : Op) (hg : MInv g) :
    mStep g op = none ↔ specFails (fun y => mContains g y = true) op := by
  have hS : (fun y => mContains g y = true) = (· ∈ abs g) := by
    funext y; exact propext (mContains_iff g y)
  rw [C11_refine_step_error g op hg, C11_step_fails, hS]

/-- `pop()` raising `KeyError` is a valid observation exactly of the empty CFG -/
theorem C11_pop_keyError (g : MStore) :
    (kStep g .popKeyError = .keyError ↔ g = []) ∧
    (kStep g .popKeyError = .invalid ↔ g ≠ []) ∧ ∀ g', kStep g .popKeyError ≠ .ok g' := by
  cases g <;> simp [kStep]

/-- `pop()` returning `e` is a valid observation exactly when `e` is a member; then the
successor is the store with `e` discarded; it is never a `KeyError` -/
theorem C11_pop_reported (g : MStore) (e : Edge) :
    kStep g (.base (.pop e)) = if e ∈ abs g then .ok (mDiscard g e) else .invalid := by
  simp [kStep, mContains_iff]

theorem C11_kStep_ok (g g' : MStore) (op : Op) :
    kStep g (.base op) = .ok g' ↔ mStep g op = some g' := by
  cases op with
  | pop e =>
    simp only [kStep, mStep, mPopReported]
    split <;> simp
  | _ =>
    simp only [kStep]
    split <;> simp_all

/-- `KeyError` is raised by `remove` of a non-member and by `pop` of the empty CFG only -/
theorem C11_kStep_keyError (g : MStore) (kop : KOp) :
    kStep g kop = .keyError ↔
      (kop = .popKeyError ∧ g = []) ∨ (∃ e, kop = .base (.remove e) ∧ e ∉ abs g) := by
  cases kop with
  | popKeyError =>
    simp only [(C11_pop_keyError g).1, true_and, reduceCtorEq, false_and, exists_false, or_false]
  | base op =>
    cases op with
    | pop e => rw [C11_pop_reported]; split <;> simp
    | remove e =>
      simp only [kStep, mStep, mRemove, mContains_iff]
      by_cases h : e ∈ abs g <;> simp [h]
    | _ => simp [kStep, mStep]

/-- an observation is rejected as impossible only for `pop`: a `KeyError` from a non-empty
CFG, or a returned edge that was not a member -/
theorem C11_kStep_invalid (g : MStore) (kop : KOp) :
    kStep g kop = .invalid ↔
      (kop = .popKeyError ∧ g ≠ []) ∨ (∃ e, kop = .base (.pop e) ∧ e ∉ abs g) := by
  cases kop with
  | popKeyError =>
    simp only [(C11_pop_keyError g).2.1, true_and, reduceCtorEq, false_and, exists_false, or_false]
  | base op =>
    cases op with
    | pop e => rw [C11_pop_reported]; split <;> simp_all
    | remove e =>
      simp only [kStep, mStep, mRemove]
      split <;> simp_all
    | _ => simp [kStep, mStep]

theorem flatMap_filter_perm {α : Type} (f : α → Nat) (l : List α) (ns : List Nat)
    (hns : ns.Nodup) :
    (ns.flatMap fun n => l.filter fun x => f x == n).Perm (l.filter fun x => ns.contains (f x)) := by
  induction ns with
  | nil => simp
  | cons n ns ih =>
    rw [List.nodup_cons] at hns
    rw [List.flatMap_cons]
    refine ((ih hns.2).append_left _).trans ?_
    -- split the elements with `f x ∈ n :: ns` into those with `f x = n` and the others
    have h := List.filter_append_perm (fun x => f x == n)
      (l.filter fun x => (n :: ns).contains (f x))
    rw [List.filter_filter, List.filter_filter] at h
    refine (List.Perm.of_eq ?_).trans h
    congr 1 <;> apply List.filter_congr <;> intro x _ <;> by_cases hx : f x = n
    · simp [hx]
    · simp [hx]
    · subst hx; simpa using hns.1
    · simp [hx]

/-- `MultiDiGraph.edges()` enumerates node by node; whatever the (duplicate-free) node order,
provided it covers the sources, the result is the store up to order -/
theorem C11_refine_iter_grouped (g : MStore) (ns : List Nat) (hns : ns.Nodup)
    (hall : ∀ m, m ∈ g → m.src ∈ ns) : (mEdgesBy ns g).Perm (abs g) := by
  have h := (flatMap_filter_perm (fun m : MEdge => m.src) g ns hns).map MEdge.toEdge
  have hfil : (g.filter fun x => ns.contains x.src) = g := by
    apply List.filter_eq_self.2
    intro m hm
    simpa using hall m hm
  rw [hfil, List.map_flatMap] at h
  exact h

/-! `kF` is the all-false label (`Branch`, not conditional, not direct), which is a label and not
a missing label. `kOps`: three parallel edges `0 -> 1` (no label, all-false label, another
label), two parallel self-loops, a discard that leaves a hole in the keys of `(0, 1)`, two
more adds on that pair, a failing `remove`, an edge `1 -> 0`. -/

def kF : Label := ⟨0, false, false⟩
def kL1 : Label := ⟨1, false, true⟩
def kL2 : Label := ⟨1, true, false⟩
def kL3 : Label := ⟨2, false, true⟩

def kOps : List Op :=
  [.add ⟨0, 1, none⟩, .add ⟨0, 1, some kF⟩, .add ⟨0, 1, some kL2⟩, .add ⟨0, 1, some kF⟩,
   .add ⟨2, 2, none⟩, .add ⟨2, 2, some kF⟩, .discard ⟨0, 1, none⟩, .add ⟨0, 1, some kL3⟩,
   .add ⟨0, 1, none⟩, .remove ⟨3, 3, none⟩, .add ⟨1, 0, none⟩]

def kG : MStore := mRun [] kOps

theorem kG_eq : kG = [⟨0, 1, 1, some kF⟩, ⟨0, 1, 2, some kL2⟩, ⟨2, 2, 0, none⟩, ⟨2, 2, 1, some kF⟩,
    ⟨0, 1, 3, some kL3⟩, ⟨0, 1, 4, none⟩, ⟨1, 0, 0, none⟩] := by decide

/-- the keys: `(0,1)` lost key 0 and received 3 and 4 (the count of parallel edges, 2 and then
3, was taken both times); the self-loop pair and `(1,0)` have their own key spaces -/
example : kG = [⟨0, 1, 1, some kF⟩, ⟨0, 1, 2, some kL2⟩, ⟨2, 2, 0, none⟩, ⟨2, 2, 1, some kF⟩,
    ⟨0, 1, 3, some kL3⟩, ⟨0, 1, 4, none⟩, ⟨1, 0, 0, none⟩] := kG_eq

example : MInv kG ∧ abs kG = run [] kOps := C11_refine_history kOps

example : MInv kG := (C11_refine_history kOps).1

-- `C11_refine_contains`: the all-false label and the missing label are different members
example : mContains kG ⟨0, 1, none⟩ = true ∧ mContains kG ⟨0, 1, some kF⟩ = true ∧
    mContains kG ⟨1, 0, some kF⟩ = false ∧ mContains kG ⟨1, 0, none⟩ = true ∧
    mContains kG ⟨2, 2, some kF⟩ = true ∧ mContains kG ⟨2, 2, some kL1⟩ = false ∧
    edgeKey kG ⟨0, 1, none⟩ = some 4 ∧ edgeKey kG ⟨2, 2, some kF⟩ = some 1 ∧
    contains (abs kG) ⟨0, 1, none⟩ = true ∧ contains (abs kG) ⟨1, 0, some kF⟩ = false := by
  rw [kG_eq]
  decide

-- `C11_refine_add` / `C11_newKey_fresh`: adding a fourth and a fifth label to `(0, 1)`
example : newKey kG 0 1 = 5 ∧ newKey kG 2 2 = 2 ∧ newKey kG 1 0 = 1 ∧ newKey kG 1 1 = 0 ∧
    mAdd kG ⟨0, 1, some kL1⟩ = kG ++ [⟨0, 1, 5, some kL1⟩] ∧ mAdd kG ⟨0, 1, none⟩ = kG ∧
    abs (mAdd kG ⟨0, 1, some kL1⟩) = add (abs kG) ⟨0, 1, some kL1⟩ ∧
    MInv (mAdd kG ⟨0, 1, some kL1⟩) := by
  rw [kG_eq]
  decide

-- `C11_refine_discard`: `remove_edge` by key takes out one of the parallel edges
example : mDiscard kG ⟨0, 1, some kL2⟩ = [⟨0, 1, 1, some kF⟩, ⟨2, 2, 0, none⟩,
      ⟨2, 2, 1, some kF⟩, ⟨0, 1, 3, some kL3⟩, ⟨0, 1, 4, none⟩, ⟨1, 0, 0, none⟩] ∧
    abs (mDiscard kG ⟨0, 1, some kL2⟩) = discard (abs kG) ⟨0, 1, some kL2⟩ ∧
    mDiscard kG ⟨2, 2, some kL2⟩ = kG ∧
    newKey (mDiscard kG ⟨0, 1, some kL2⟩) 0 1 = 5 ∧
    newKey (mDiscard (mDiscard kG ⟨0, 1, some kL2⟩) ⟨0, 1, some kF⟩) 0 1 = 2 := by
  rw [kG_eq]
  decide

/-- the `keys` half of the invariant is needed for `C11_refine_discard`: with a repeated
key (impossible in a dict) `remove_edge` by key would take out two edges -/
example :
    let bad : MStore := [⟨0, 1, 0, none⟩, ⟨0, 1, 0, some kF⟩]
    (abs bad).Nodup ∧ ¬ MInv bad ∧ abs (mDiscard bad ⟨0, 1, none⟩) = [] ∧
    discard (abs bad) ⟨0, 1, none⟩ = [⟨0, 1, some kF⟩] := by decide

-- `C11_refine_out` / `C11_refine_in` / `C11_refine_iter`: the self-loops are in both views of 2
example : mOutEdges kG 2 = [⟨2, 2, none⟩, ⟨2, 2, some kF⟩] ∧
    mInEdges kG 2 = [⟨2, 2, none⟩, ⟨2, 2, some kF⟩] ∧
    mInEdges kG 1 = [⟨0, 1, some kF⟩, ⟨0, 1, some kL2⟩, ⟨0, 1, some kL3⟩, ⟨0, 1, none⟩] ∧
    mOutEdges kG 1 = [⟨1, 0, none⟩] ∧ mOutEdges kG 3 = [] ∧ mLen kG = 7 ∧
    mOutEdges kG 0 = outEdges (abs kG) 0 ∧ mInEdges kG 0 = inEdges (abs kG) 0 := by
  rw [kG_eq]
  decide

-- `C11_refine_iter_grouped`: node order 2, 0, 1 (any order of the node dict)
example : mEdgesBy [2, 0, 1] kG = [⟨2, 2, none⟩, ⟨2, 2, some kF⟩, ⟨0, 1, some kF⟩,
      ⟨0, 1, some kL2⟩, ⟨0, 1, some kL3⟩, ⟨0, 1, none⟩, ⟨1, 0, none⟩] ∧
    (mEdgesBy [2, 0, 1] kG).Perm (abs kG) := by
  rw [kG_eq]
  exact ⟨by decide, C11_refine_iter_grouped _ [2, 0, 1] (by decide) (by decide)⟩

-- `C11_refine_step` on the mixins, from a store with parallel edges and holes in the keys
example :
    (mStep kG (.ixor [⟨0, 1, none⟩, ⟨0, 1, some kL1⟩, ⟨2, 2, some kF⟩, ⟨1, 1, none⟩])).map abs
      = step (abs kG) (.ixor [⟨0, 1, none⟩, ⟨0, 1, some kL1⟩, ⟨2, 2, some kF⟩, ⟨1, 1, none⟩]) ∧
    mStep kG (.ixor [⟨0, 1, none⟩, ⟨0, 1, some kL1⟩, ⟨2, 2, some kF⟩, ⟨1, 1, none⟩]) =
      some [⟨0, 1, 1, some kF⟩, ⟨0, 1, 2, some kL2⟩, ⟨2, 2, 0, none⟩, ⟨0, 1, 3, some kL3⟩,
        ⟨1, 0, 0, none⟩, ⟨0, 1, 4, some kL1⟩, ⟨1, 1, 0, none⟩] ∧
    mStep kG (.iand [⟨0, 1, none⟩, ⟨2, 2, some kF⟩, ⟨3, 3, none⟩]) =
      some [⟨2, 2, 1, some kF⟩, ⟨0, 1, 4, none⟩] ∧
    mStep kG (.isub [⟨0, 1, none⟩, ⟨2, 2, some kF⟩, ⟨3, 3, none⟩]) =
      some [⟨0, 1, 1, some kF⟩, ⟨0, 1, 2, some kL2⟩, ⟨2, 2, 0, none⟩, ⟨0, 1, 3, some kL3⟩,
        ⟨1, 0, 0, none⟩] ∧
    mStep kG (.update [⟨1, 0, some kF⟩, ⟨1, 0, some kF⟩, ⟨1, 0, none⟩]) =
      some (kG ++ [⟨1, 0, 1, some kF⟩]) ∧
    mStep kG (.remove ⟨1, 0, some kF⟩) = none ∧ step (abs kG) (.remove ⟨1, 0, some kF⟩) = none ∧
    mStep kG .clear = some [] := by
  rw [kG_eq]
  decide

-- `C11_keyed_step_refines` / `C11_step_refines`: hypotheses are satisfiable
example : ∀ x, mContains (mIxor kG [⟨0, 1, none⟩, ⟨1, 1, none⟩]) x = true ↔
    (mContains kG x = true ∧ x ∉ [⟨0, 1, none⟩, ⟨1, 1, none⟩]) ∨
    (¬ mContains kG x = true ∧ x ∈ [(⟨0, 1, none⟩ : Edge), ⟨1, 1, none⟩]) :=
  (C11_keyed_step_refines kG _ (.ixor [⟨0, 1, none⟩, ⟨1, 1, none⟩])
    (C11_refine_history kOps).1 (fun es h => by cases h; decide) rfl).2

-- `pop`: the three outcomes are different
example : kStep [] .popKeyError = .keyError ∧ kStep kG .popKeyError = .invalid ∧
    kStep kG (.base (.pop ⟨1, 0, none⟩)) = .ok (mDiscard kG ⟨1, 0, none⟩) ∧
    kStep kG (.base (.pop ⟨1, 0, some kF⟩)) = .invalid ∧
    kStep [] (.base (.pop ⟨1, 0, none⟩)) = .invalid ∧
    kStep kG (.base (.remove ⟨1, 0, some kF⟩)) = .keyError := by
  rw [kG_eq]
  decide

/-! ### the shortcut "key = number of parallel edges" (seeded change C11-m3)

After `add(a,b,L1); add(a,b,L2); discard(a,b,L1)` the key dict of `(a,b)` is `{1: L2}`. The
shortcut allocates `len = 1` again: in the list model the `keys` invariant breaks (and with
it `C11_refine_discard`, see the example above); in networkx `add_edge(a, b, key=1,
label=L3)` overwrites the attributes of the existing key 1, so the edge labelled `L2`
silently becomes `L3`. `newKey` allocates 2. -/

def badKey (g : MStore) (s d : Nat) : Nat := (keydict g s d).length

def badAdd (g : MStore) (e : Edge) : MStore :=
  if mContains g e then g else g ++ [⟨e.src, e.dst, badKey g e.src e.dst, e.label⟩]

example :
    let g := mDiscard (badAdd (badAdd [] ⟨0, 1, some kL1⟩) ⟨0, 1, some kL2⟩) ⟨0, 1, some kL1⟩
    let g' := mDiscard (mAdd (mAdd [] ⟨0, 1, some kL1⟩) ⟨0, 1, some kL2⟩) ⟨0, 1, some kL1⟩
    g = [⟨0, 1, 1, some kL2⟩] ∧ g' = g ∧ MInv g ∧
    badKey g 0 1 = 1 ∧ newKey g 0 1 = 2 ∧
    badAdd g ⟨0, 1, some kL3⟩ = [⟨0, 1, 1, some kL2⟩, ⟨0, 1, 1, some kL3⟩] ∧
    ¬ (keyTriples (badAdd g ⟨0, 1, some kL3⟩)).Nodup ∧ ¬ MInv (badAdd g ⟨0, 1, some kL3⟩) ∧
    mAdd g ⟨0, 1, some kL3⟩ = [⟨0, 1, 1, some kL2⟩, ⟨0, 1, 2, some kL3⟩] ∧
    MInv (mAdd g ⟨0, 1, some kL3⟩) ∧
    -- the collision is observable one step later: discarding L3 takes L2 with it
    abs (mDiscard (badAdd g ⟨0, 1, some kL3⟩) ⟨0, 1, some kL3⟩) = [] ∧
    abs (mDiscard (mAdd g ⟨0, 1, some kL3⟩) ⟨0, 1, some kL3⟩) = [⟨0, 1, some kL2⟩] := by
  decide

/-- no allocator that can return a key in use preserves the invariant -/
theorem C11_key_collision_breaks (g : MStore) (s d k : Nat) (l : Option Label)
    (h : ∃ m, m ∈ g ∧ m.src = s ∧ m.dst = d ∧ m.key = k) : ¬ MInv (g ++ [⟨s, d, k, l⟩]) := by
  intro hi
  obtain ⟨m, hm, hs, hd, hk⟩ := h
  have hk' := hi.keys
  unfold keyTriples at hk'
  rw [List.map_append, List.nodup_append] at hk'
  exact hk'.2.2 (m.src, m.dst, m.key) (List.mem_map.2 ⟨m, hm, rfl⟩) (s, d, k) (by simp)
    (by rw [hs, hd, hk])

end Gtirb.Cfg
