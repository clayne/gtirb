import GtirbModel.Expected
import GtirbModel.Generated.CodecTable
import GtirbModel.Generated.Version
import GtirbModel.Generated.Schema
import GtirbModel.Generated.PyEnums
import GtirbModel.Codec
/-! Table theorems, re-checked on every run against the tables regenerated
from /repo's current source. -/
namespace Gtirb.Tables
open Gtirb

/-- The implementation registers exactly the documented heads with the
documented width / signedness / struct format. -/
theorem C08_codec_table : Generated.codecTable = Expected.codecTable := rfl

/-- one row of the codec table against what the model knows of that head -/
def codecRowOk : String × String × Nat × Bool × String → Bool
  | (name, _, bs, sg, fmt) =>
    match Codec.leafOfName name with
    | some l =>
      if l.isInt then l.width == bs && l.signed == sg && fmt == ""
      else if l == .f32 then bs == 4 && fmt == "<f"
      else if l == .f64 then bs == 8 && fmt == "<d"
      else bs == 0 && fmt == ""
    | none => Codec.isContainerName name && bs == 0

/-- the model's head table agrees with the codec table row by row -/
theorem C08_model_heads : Expected.codecTable.all codecRowOk = true ∧
    Expected.codecTable.length = 20 := by decide +kernel

/-- Every message, field, number, type, label, one-of and enum constant that
the translator reads from proto/*.proto equals the schema the Lean `Msg`
records were written against: no field can be added to, renumbered in or
removed from the schema without this failing. -/
theorem C02_schema_matches_model :
    Generated.schemaMessages = Expected.expectedMessages ∧
    Generated.schemaEnums = Expected.expectedEnums := ⟨rfl, rfl⟩

def insertInt (x : Int) : List Int → List Int
  | [] => [x]
  | y :: ys => if x ≤ y then x :: y :: ys else y :: insertInt x ys
def sortInts (l : List Int) : List Int := l.foldr insertInt []

def enumNumbers (tbl : List (String × List (String × Int))) (name : String) : List Int :=
  match tbl.find? (·.1 == name) with
  | some (_, vals) => sortInts (vals.map (·.2))
  | none => []

/-- For each of the seven mirrored enums the value set of the Python `Enum`
class (regenerated by importing the package built from the working tree)
equals the number set of the schema enum: every constant the schema defines is
accepted by the reader, and the writer emits no number the schema lacks. -/
theorem C02_enum_bijection :
    Expected.enumMirrors.all (fun n =>
      enumNumbers Generated.pyEnums n == enumNumbers Generated.schemaEnums n
      && !(enumNumbers Generated.schemaEnums n).isEmpty) = true := by decide +kernel

/-- magic and version: `GTIRB`, and the version constant the package exports is
the one version.txt declares -/
theorem C02_version_magic :
    Generated.magic = [71, 84, 73, 82, 66] ∧
    Generated.protobufVersion = Generated.versionTxtProtobuf ∧
    Generated.protobufVersion < 256 := by decide

end Gtirb.Tables
