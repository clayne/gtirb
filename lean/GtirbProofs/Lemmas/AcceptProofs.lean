import GtirbProofs.Lemmas.ProtoProofs
/-! The reader's check against the specification `closedMsg` (C02, C09): which messages are
accepted. The table at every lookup is an explicit function of the message, and the table filtered
by kind (`uuidsOf`) is the UUID list `mmoduleOK` speaks of, so a reference check is membership in a
visibility list (`mem_of_refIs`, `refIs_of_mem`). Under the structural conditions a module's check
is its three reference checks (`chkModule_struct`), which serves acceptance and the error class. -/
namespace Gtirb.Msg
open Gtirb

theorem nodupM_iff {α : Type} [DecidableEq α] (l : List α) : nodupM l = true ↔ l.Nodup := by
  induction l with
  | nil => simp [nodupM]
  | cons x xs ih => simp [nodupM, ih]

theorem mblockKind_fst (b : MBlock) : (mblockKind b).map (·.1) = b.uuid? := by
  obtain ⟨off, val⟩ := b
  cases val with
  | none => rfl
  | some bv => cases bv <;> rfl

theorem mblockKinds_fst (bs : List MBlock) : (mblockKinds bs).map (·.1) = bs.filterMap MBlock.uuid? := by
  rw [mblockKinds, List.map_filterMap]
  exact congrArg (List.filterMap · bs) (funext mblockKind_fst)

theorem mintervalKinds_fst (x : MByteInterval) :
    (mintervalKinds x).map (·.1) = x.blockUuids ++ [x.uuid] := by
  simp [mintervalKinds, MByteInterval.blockUuids, mblockKinds_fst]

theorem msectionKinds_fst (s : MSection) : (msectionKinds s).map (·.1) = s.nodeUuids := by
  simp [msectionKinds, MSection.nodeUuids, List.map_flatMap, mintervalKinds_fst]

theorem mmoduleKinds_fst (m : MModule) : (mmoduleKinds m).map (·.1) = m.nodeUuids := by
  simp [mmoduleKinds, MModule.nodeUuids, List.map_flatMap, msectionKinds_fst, Function.comp_def]

theorem menvOf_fst (m : MIR) : ((menvOf m.uuid m.modules).reverse).map (·.1) = m.nodeUuids := by
  simp [menvOf, MIR.nodeUuids, List.map_flatMap, mmoduleKinds_fst]

def uuidsOf (p : KindTag → Bool) (E : Env) : List U := E.filterMap fun e => if p e.2 then some e.1 else none

theorem mem_uuidsOf {p : KindTag → Bool} {E : Env} {u : U} :
    u ∈ uuidsOf p E ↔ ∃ k, p k = true ∧ (u, k) ∈ E := by
  simp only [uuidsOf, List.mem_filterMap, Option.ite_none_right_eq_some, Option.some.injEq]
  constructor
  · rintro ⟨⟨u', k⟩, hm, hp, rfl⟩; exact ⟨k, hp, hm⟩
  · rintro ⟨k, hp, hm⟩; exact ⟨(u, k), hm, hp, rfl⟩

@[simp] theorem uuidsOf_append (p : KindTag → Bool) (A B : Env) :
    uuidsOf p (A ++ B) = uuidsOf p A ++ uuidsOf p B := List.filterMap_append

@[simp] theorem uuidsOf_cons (p : KindTag → Bool) (u : U) (k : KindTag) (E : Env) :
    uuidsOf p ((u, k) :: E) = (if p k then [u] else []) ++ uuidsOf p E := by
  simp only [uuidsOf, List.filterMap_cons]
  cases p k <;> rfl

@[simp] theorem uuidsOf_nil (p : KindTag → Bool) : uuidsOf p [] = [] := rfl

theorem uuidsOf_flatMap {α : Type} (p : KindTag → Bool) (f : α → Env) (l : List α) :
    uuidsOf p (l.flatMap f) = l.flatMap fun a => uuidsOf p (f a) := List.filterMap_flatMap

theorem uuidsOf_map_const {α : Type} (p : KindTag → Bool) (g : α → U) (k : KindTag) (l : List α) :
    uuidsOf p (l.map fun a => (g a, k)) = if p k then l.map g else [] := by
  induction l with
  | nil => cases p k <;> rfl
  | cons a l ih => rw [List.map_cons, uuidsOf_cons, ih]; cases p k <;> rfl

theorem mem_uuidsOf_or {p q : KindTag → Bool} {E : Env} {u : U} :
    u ∈ uuidsOf (fun k => p k || q k) E ↔ u ∈ uuidsOf p E ∨ u ∈ uuidsOf q E := by
  simp only [mem_uuidsOf, Bool.or_eq_true]
  constructor
  · rintro ⟨k, hp | hq, hm⟩
    · exact .inl ⟨k, hp, hm⟩
    · exact .inr ⟨k, hq, hm⟩
  · rintro (⟨k, hp, hm⟩ | ⟨k, hq, hm⟩)
    · exact ⟨k, .inl hp, hm⟩
    · exact ⟨k, .inr hq, hm⟩

theorem uuidsOf_mblockKinds_of {p : KindTag → Bool} {g : MBlock → Option U}
    (h : ∀ b, (mblockKind b).bind (fun k => if p k.2 then some k.1 else none) = g b) (bs : List MBlock) :
    uuidsOf p (mblockKinds bs) = bs.filterMap g := by
  rw [uuidsOf, mblockKinds, List.filterMap_filterMap]
  exact congrArg (List.filterMap · bs) (funext h)

theorem uuidsOf_blocks_nil {p : KindTag → Bool} (hc : p .code = false) (hd : p .data = false)
    (bs : List MBlock) : uuidsOf p (mblockKinds bs) = [] := by
  rw [uuidsOf_mblockKinds_of (g := fun _ => none) fun ⟨_, val⟩ => by
    rcases val with _ | c | d
    · rfl
    · simp only [mblockKind, Option.bind_some, hc, Bool.false_eq_true, if_false]
    · simp only [mblockKind, Option.bind_some, hd, Bool.false_eq_true, if_false]]
  exact List.filterMap_eq_nil_iff.2 fun _ _ => rfl

theorem uuidsOf_mmoduleKinds {p : KindTag → Bool} (h1 : p .module = false) (h2 : p .section = false)
    (h3 : p .interval = false) (m : MModule) :
    uuidsOf p (mmoduleKinds m) = (if p .proxy then m.proxies else [])
      ++ (m.sections.flatMap fun s => s.byteIntervals.flatMap fun x => uuidsOf p (mblockKinds x.blocks))
      ++ (if p .symbol then m.symbolUuids else []) := by
  simp only [mmoduleKinds, msectionKinds, mintervalKinds, uuidsOf_append, uuidsOf_cons, uuidsOf_flatMap,
    uuidsOf_map_const, uuidsOf_nil, h1, h2, h3, Bool.false_eq_true, if_false, List.nil_append,
    List.append_nil, List.map_id', MModule.symbolUuids]

theorem uuidsOf_code (m : MModule) : uuidsOf (· == .code) (mmoduleKinds m) = m.codeUuids := by
  rw [uuidsOf_mmoduleKinds rfl rfl rfl]
  simp only [uuidsOf_mblockKinds_of (p := (· == .code)) (g := MBlock.codeUuid?) fun ⟨_, val⟩ => by
    rcases val with _ | c | d <;> rfl]
  exact List.append_nil _

theorem uuidsOf_mmoduleKinds_noblock {p : KindTag → Bool} (h1 : p .module = false)
    (h2 : p .section = false) (h3 : p .interval = false) (hc : p .code = false) (hd : p .data = false)
    (m : MModule) :
    uuidsOf p (mmoduleKinds m)
      = (if p .proxy then m.proxies else []) ++ (if p .symbol then m.symbolUuids else []) := by
  rw [uuidsOf_mmoduleKinds h1 h2 h3, List.flatMap_eq_nil_iff.2 fun s _ =>
    List.flatMap_eq_nil_iff.2 fun x _ => uuidsOf_blocks_nil hc hd x.blocks, List.append_nil]

theorem uuidsOf_symbol (m : MModule) : uuidsOf (· == .symbol) (mmoduleKinds m) = m.symbolUuids :=
  uuidsOf_mmoduleKinds_noblock rfl rfl rfl rfl rfl m

theorem uuidsOf_proxy (m : MModule) : uuidsOf (· == .proxy) (mmoduleKinds m) = m.proxies :=
  (uuidsOf_mmoduleKinds_noblock rfl rfl rfl rfl rfl m).trans (List.append_nil _)

/-- under the block kinds the table holds the proxies, then the blocks; `MModule.blockUuids` lists
them the other way round -/
theorem mem_uuidsOf_block (m : MModule) (u : U) :
    u ∈ uuidsOf isBlockKind (mmoduleKinds m) ↔ u ∈ m.blockUuids := by
  rw [uuidsOf_mmoduleKinds rfl rfl rfl]
  simp only [uuidsOf_mblockKinds_of (p := isBlockKind) (g := MBlock.uuid?) fun ⟨_, val⟩ => by
    rcases val with _ | c | d <;> rfl]
  show u ∈ (m.proxies ++ _) ++ [] ↔ _
  rw [List.append_nil, MModule.blockUuids, List.mem_append, List.mem_append, or_comm]
  rfl

theorem mem_uuidsOf_cfg (m : MModule) (u : U) :
    u ∈ uuidsOf (fun k => k == .code || k == .proxy) (mmoduleKinds m) ↔ u ∈ m.codeUuids ++ m.proxies := by
  rw [mem_uuidsOf_or, uuidsOf_code, uuidsOf_proxy, List.mem_append]

theorem uuidsOf_sub_nodeUuids {p : KindTag → Bool} {m : MModule} {u : U}
    (h : u ∈ uuidsOf p (mmoduleKinds m)) : u ∈ m.nodeUuids := by
  obtain ⟨k, _, hk⟩ := mem_uuidsOf.1 h
  rw [← mmoduleKinds_fst]
  exact List.mem_map.2 ⟨(u, k), hk, rfl⟩

theorem codeUuids_sub {m : MModule} {u : U} (h : u ∈ m.codeUuids) : u ∈ m.nodeUuids :=
  uuidsOf_sub_nodeUuids (uuidsOf_code m ▸ h)

theorem symbolUuids_sub {m : MModule} {u : U} (h : u ∈ m.symbolUuids) : u ∈ m.nodeUuids :=
  uuidsOf_sub_nodeUuids (uuidsOf_symbol m ▸ h)

theorem proxies_sub {m : MModule} {u : U} (h : u ∈ m.proxies) : u ∈ m.nodeUuids :=
  uuidsOf_sub_nodeUuids (uuidsOf_proxy m ▸ h)

theorem blockUuids_sub {m : MModule} {u : U} (h : u ∈ m.blockUuids) : u ∈ m.nodeUuids :=
  uuidsOf_sub_nodeUuids ((mem_uuidsOf_block m u).2 h)

theorem menvOf_snoc (uuid : U) (earlier : List MModule) (m : MModule) :
    (mmoduleKinds m).reverse ++ menvOf uuid earlier = menvOf uuid (earlier ++ [m]) := by
  simp [menvOf]

theorem mem_uuidsOf_menvOf {p : KindTag → Bool} (hp : p .ir = false) {L : MModule → List U}
    (hL : ∀ m u, u ∈ uuidsOf p (mmoduleKinds m) ↔ u ∈ L m) {uuid : U} {ms : List MModule} {u : U} :
    u ∈ uuidsOf p (menvOf uuid ms) ↔ u ∈ ms.flatMap L := by
  simp only [mem_uuidsOf, menvOf, List.mem_append, List.mem_reverse, List.mem_flatMap, List.mem_singleton,
    Prod.mk.injEq, ← hL]
  constructor
  · rintro ⟨k, hk, ⟨m, hm, h⟩ | ⟨_, rfl⟩⟩
    · exact ⟨m, hm, k, hk, h⟩
    · rw [hp] at hk; cases hk
  · rintro ⟨m, hm, k, hk, h⟩
    exact ⟨k, hk, .inl ⟨m, hm, h⟩⟩

theorem uuidsOf_symbols {p : KindTag → Bool} (hp : p .symbol = false) (ss : List MSymbol) (E : Env) :
    uuidsOf p ((ss.flatMap fun s => [(s.uuid, KindTag.symbol)]).reverse ++ E) = uuidsOf p E := by
  rw [← List.map_eq_flatMap, uuidsOf_append, ← List.map_reverse, uuidsOf_map_const, hp]
  rfl

/-- entries of kind `symbol` apart, the table in which a module's entry point and referents are
looked up is the table after the module -/
theorem uuidsOf_menv2 {p : KindTag → Bool} (hp : p .symbol = false) (env : Env) (m : MModule) :
    uuidsOf p (menv2 env m) = uuidsOf p ((mmoduleKinds m).reverse ++ env) := by
  rw [← menv2_symbols, uuidsOf_symbols hp]

theorem mem_of_refIs {p : KindTag → Bool} {E : Env} {u : U} (h : refIs p E u = .ok ()) :
    u.length = 16 ∧ u ∈ uuidsOf p E := by
  obtain ⟨h16, k, hf, hk⟩ := refIs_ok_iff.1 h
  exact ⟨h16, mem_uuidsOf.2 ⟨k, hk, Env.mem_of_find hf⟩⟩

theorem refIs_of_mem {p : KindTag → Bool} {E : Env} {u : U} (hnd : (E.map (·.1)).Nodup)
    (h16 : u.length = 16) (h : u ∈ uuidsOf p E) : refIs p E u = .ok () := by
  obtain ⟨k, hk, hm⟩ := mem_uuidsOf.1 h
  exact refIs_ok_iff.2 ⟨h16, k, Env.find_of_mem hnd hm, hk⟩

/-- what `mmoduleOK` asks of the references of a module message: each names a node of the
right kind of the same or an earlier module -/
def MModRefs (earlier : List MModule) (m : MModule) : Prop :=
  (m.entryPoint.isEmpty = true ∨ m.entryPoint ∈ earlier.flatMap (·.codeUuids) ++ m.codeUuids)
    ∧ (∀ s ∈ m.symbols, ∀ u, s.payload = some (.referentUuid u) →
        u ∈ earlier.flatMap (·.blockUuids) ++ m.blockUuids)
    ∧ (∀ s ∈ m.sections, ∀ x ∈ s.byteIntervals, ∀ kv ∈ x.symbolicExpressions,
        ∀ u ∈ mexprSyms kv.2, u ∈ earlier.flatMap (·.symbolUuids) ++ m.symbolUuids)

theorem mmoduleOK_iff {earlier : List MModule} {m : MModule} : mmoduleOK earlier m = true ↔
    MModRefs earlier m
    ∧ (pyEnumHas "ISA" m.isa = true ∧ pyEnumHas "FileFormat" m.fileFormat = true
      ∧ pyEnumHas "ByteOrder" m.byteOrder = true)
    ∧ ∀ s ∈ m.sections, s.sectionFlags.all (pyEnumHas "SectionFlag") = true
      ∧ ∀ x ∈ s.byteIntervals, x.contents.length ≤ x.size ∧ (∀ b ∈ x.blocks, mblockOK b = true)
        ∧ ∀ kv ∈ x.symbolicExpressions, kv.2.value.isSome = true := by
  simp only [mmoduleOK, MModRefs, Bool.and_eq_true, List.all_eq_true, decide_eq_true_eq,
    Bool.or_eq_true]
  constructor
  · rintro ⟨⟨⟨⟨⟨h1, h2⟩, h3⟩, h4⟩, h5⟩, h6⟩
    refine ⟨⟨h4, fun s hs u hu => ?_, fun s hs x hx kv hkv => (((h6 s hs).2 x hx).2 kv hkv).2⟩,
      ⟨h1, h2, h3⟩, fun s hs => ⟨(h6 s hs).1, fun x hx =>
        ⟨((h6 s hs).2 x hx).1.1, ((h6 s hs).2 x hx).1.2, fun kv hkv => (((h6 s hs).2 x hx).2 kv hkv).1⟩⟩⟩
    have := h5 s hs
    rw [hu] at this
    exact of_decide_eq_true this
  · rintro ⟨⟨h4, h5, h7⟩, ⟨h1, h2, h3⟩, h6⟩
    refine ⟨⟨⟨⟨⟨h1, h2⟩, h3⟩, h4⟩, fun s hs => ?_⟩, fun s hs => ⟨(h6 s hs).1, fun x hx =>
      ⟨⟨((h6 s hs).2 x hx).1, ((h6 s hs).2 x hx).2.1⟩,
        fun kv hkv => ⟨((h6 s hs).2 x hx).2.2 kv hkv, h7 s hs x hx kv hkv⟩⟩⟩⟩
    obtain ⟨su, sp, sn, sa⟩ := s
    cases sp with
    | none => rfl
    | some p =>
      cases p with
      | value n => rfl
      | referentUuid u => exact decide_eq_true (h5 _ hs u rfl)

theorem mmodulesOK_iff {earlier ms : List MModule} : mmodulesOK earlier ms = true ↔
    ∀ pre mm post, ms = pre ++ mm :: post → mmoduleOK (earlier ++ pre) mm = true :=
  List.prefixCheck_iff (fun _ => rfl) (fun _ _ _ => rfl) ms earlier

structure ClosedMsg (m : MIR) : Prop where
  all16 : ∀ u ∈ m.nodeUuids, u.length = 16
  nodup : m.nodeUuids.Nodup
  version : m.version = Generated.protobufVersion
  modules : mmodulesOK [] m.modules = true
  edges : ∀ e ∈ m.cfg.edges,
    (e.sourceUuid ∈ (m.modules.flatMap fun mm => mm.codeUuids ++ mm.proxies)
      ∧ e.targetUuid ∈ (m.modules.flatMap fun mm => mm.codeUuids ++ mm.proxies))
    ∧ ∀ l, e.label = some l → pyEnumHas "EdgeType" l.type = true

theorem closedMsg_iff {m : MIR} : closedMsg m = true ↔ ClosedMsg m := by
  simp only [closedMsg, Bool.and_eq_true, List.all_eq_true, beq_iff_eq, nodupM_iff, decide_eq_true_eq]
  constructor
  · rintro ⟨⟨⟨⟨h1, h2⟩, h3⟩, h4⟩, h7⟩
    exact ⟨h1, h2, h3, h4, fun e he => ⟨(h7 e he).1, fun l hl => by
      have := (h7 e he).2; rw [hl] at this; exact this⟩⟩
  · rintro ⟨h1, h2, h3, h4, h7⟩
    refine ⟨⟨⟨⟨h1, h2⟩, h3⟩, h4⟩, fun e he => ⟨(h7 e he).1, ?_⟩⟩
    cases hl : e.label with
    | none => rfl
    | some l => exact (h7 e he).2 l hl

theorem ClosedMsg.moduleOK {m : MIR} (c : ClosedMsg m) {pre post : List MModule} {mm : MModule}
    (hs : m.modules = pre ++ mm :: post) : mmoduleOK pre mm = true := by
  simpa using mmodulesOK_iff.1 c.modules pre mm post hs

/-- what `mmoduleOK` with 16-byte node UUIDs says of a module apart from its references (and what
`structOK` of Props/C02Exact.lean asks of each module: `mmodStruct_of`, Props/C09Errors.lean) -/
structure MModStruct (m : MModule) : Prop where
  enums : pyEnumHas "ISA" m.isa = true ∧ pyEnumHas "FileFormat" m.fileFormat = true
    ∧ pyEnumHas "ByteOrder" m.byteOrder = true
  all16 : ∀ u ∈ m.nodeUuids, u.length = 16
  flags : ∀ s ∈ m.sections, s.sectionFlags.all (pyEnumHas "SectionFlag") = true
  ivs : ∀ s ∈ m.sections, ∀ x ∈ s.byteIntervals,
    x.contents.length ≤ x.size ∧ ∀ b ∈ x.blocks, mblockOK b = true
  exprs : ∀ s ∈ m.sections, ∀ x ∈ s.byteIntervals, ∀ kv ∈ x.symbolicExpressions,
    kv.2.value.isSome = true

theorem chkBlocks_of_struct {env : Env} {bs : List MBlock} (hok : ∀ b ∈ bs, mblockOK b = true)
    (h16 : ∀ k ∈ mblockKinds bs, k.1.length = 16)
    (hnd : (((mblockKinds bs).reverse ++ env).map (·.1)).Nodup) :
    chkList chkBlock (fun b => (mblockKind b).toList) env bs = .ok () := by
  refine chkList_ok_iff.2 fun pre b post hs => chkBlock_ok_iff.2 ?_
  subst hs
  rw [← flatMap_toList_mblockKind] at hnd h16
  refine ⟨hok b (by simp), fun k hk => ⟨h16 k (by simp [hk]), ?_⟩⟩
  have := nodup_at_split hnd
  rw [hk] at this
  exact fresh_of_nodup (A := []) this

theorem chkInterval_of_struct {env : Env} {x : MByteInterval} (hlen : x.contents.length ≤ x.size)
    (hb : ∀ b ∈ x.blocks, mblockOK b = true) (h16 : ∀ k ∈ mintervalKinds x, k.1.length = 16)
    (hnd : (((mintervalKinds x).reverse ++ env).map (·.1)).Nodup) : chkInterval env x = .ok () := by
  have e : (mintervalKinds x).reverse ++ env
      = (x.uuid, KindTag.interval) :: ((mblockKinds x.blocks).reverse ++ env) := by
    simp [mintervalKinds]
  rw [e] at hnd
  have hf := fresh_of_nodup (A := []) hnd
  simp only [chkInterval, andThen_ok, fresh_ok_iff, guardE_ok, decide_eq_true_eq]
  exact ⟨⟨h16 (x.uuid, .interval) (by simp [mintervalKinds]), fun h => hf (by simp [h])⟩, hlen,
    chkBlocks_of_struct hb (fun k hk => h16 k (by simp [mintervalKinds, hk])) (nodup_suffix (A := [_]) hnd)⟩

theorem chkSection_of_struct {env : Env} {s : MSection}
    (hfl : s.sectionFlags.all (pyEnumHas "SectionFlag") = true)
    (hg : ∀ x ∈ s.byteIntervals, x.contents.length ≤ x.size ∧ ∀ b ∈ x.blocks, mblockOK b = true)
    (h16 : ∀ k ∈ msectionKinds s, k.1.length = 16)
    (hnd : (((msectionKinds s).reverse ++ env).map (·.1)).Nodup) : chkSection env s = .ok () := by
  have e : (msectionKinds s).reverse ++ env
      = (s.byteIntervals.flatMap mintervalKinds).reverse ++ ((s.uuid, KindTag.section) :: env) := by
    simp [msectionKinds]
  rw [e] at hnd
  simp only [chkSection, andThen_ok, fresh_ok_iff, guardE_ok]
  refine ⟨⟨h16 (s.uuid, .section) (by simp [msectionKinds]), fresh_of_nodup hnd⟩, hfl,
    chkList_ok_iff.2 fun pre x post hs => ?_⟩
  have hm : x ∈ s.byteIntervals := by simp [hs]
  rw [hs] at hnd
  exact chkInterval_of_struct (hg x hm).1 (hg x hm).2 (fun k hk => h16 k (by
    simp only [msectionKinds, List.mem_cons, List.mem_flatMap]; exact .inr ⟨x, hm, hk⟩))
    (nodup_at_split hnd)

theorem chkModule_struct {env : Env} {m : MModule} (st : MModStruct m)
    (hnd : ((menv2 env m).map (·.1)).Nodup) :
    chkModule env m =
      andThen (if m.entryPoint.isEmpty then .ok () else refIs (· == .code) (menv2 env m) m.entryPoint)
        (andThen (chkList chkSymbol (fun s => [(s.uuid, KindTag.symbol)]) (menv2 env m) m.symbols)
          (chkAll (chkExprsS ((mmoduleKinds m).reverse ++ env)) m.sections)) := by
  have hnd1 : ((menv1 env m).map (·.1)).Nodup := nodup_suffix hnd
  have ek : m.proxies.map (fun p => (p, KindTag.proxy))
      = m.proxies.flatMap fun p => [(p, KindTag.proxy)] := List.map_eq_flatMap
  have h1 : fresh env m.uuid .module = .ok () :=
    fresh_ok_iff.2 ⟨st.all16 _ (by simp [MModule.nodeUuids]), fresh_of_nodup hnd1⟩
  have h3 : chkList (fun e p => fresh e p .proxy) (fun p => [(p, KindTag.proxy)])
      ((m.uuid, .module) :: env) m.proxies = .ok () := by
    refine chkList_ok_iff.2 fun pre p post hs =>
      fresh_ok_iff.2 ⟨st.all16 p (by simp [MModule.nodeUuids, hs]), ?_⟩
    rw [menv1, ek, hs] at hnd1
    exact fresh_of_nodup (A := []) (nodup_at_split hnd1)
  have h4 : chkList chkSection msectionKinds (menv1 env m) m.sections = .ok () := by
    refine chkList_ok_iff.2 fun pre s post hs => ?_
    have hm : s ∈ m.sections := by simp [hs]
    rw [menv2, hs] at hnd
    refine chkSection_of_struct (st.flags s hm) (st.ivs s hm) (fun k hk => st.all16 k.1 ?_) (nodup_at_split hnd)
    rw [← mmoduleKinds_fst]
    exact List.mem_map_of_mem (by
      simp only [mmoduleKinds, List.cons_append, List.mem_cons, List.mem_append, List.mem_flatMap]
      exact .inr (.inl (.inr ⟨s, hm, hk⟩)))
  simp only [chkModule, h1, st.enums.1, st.enums.2.1, st.enums.2.2, h3, h4, andThen, guardE,
    Bool.and_self, if_true]

theorem struct_of_chkInterval {env : Env} {x : MByteInterval} (h : chkInterval env x = .ok ()) :
    x.contents.length ≤ x.size ∧ (∀ b ∈ x.blocks, mblockOK b = true)
      ∧ ∀ k ∈ mintervalKinds x, k.1.length = 16 := by
  simp only [chkInterval, andThen_ok, fresh_ok_iff, guardE_ok, decide_eq_true_eq] at h
  obtain ⟨⟨h16, _⟩, hl, hb⟩ := h
  have hg : ∀ b ∈ x.blocks, mblockOK b = true ∧ ∀ k, mblockKind b = some k → k.1.length = 16 :=
    fun b hm =>
      let ⟨_, hc⟩ := chkList_ok_mem hb hm
      ⟨(chkBlock_ok_iff.1 hc).1, fun k hk => ((chkBlock_ok_iff.1 hc).2 k hk).1⟩
  refine ⟨hl, fun b hm => (hg b hm).1, fun k hk => ?_⟩
  simp only [mintervalKinds, mblockKinds, List.mem_append, List.mem_filterMap, List.mem_singleton] at hk
  rcases hk with ⟨b, hm, hbk⟩ | rfl
  · exact (hg b hm).2 k hbk
  · exact h16

theorem struct_of_chkSection {env : Env} {s : MSection} (h : chkSection env s = .ok ()) :
    s.sectionFlags.all (pyEnumHas "SectionFlag") = true
      ∧ (∀ x ∈ s.byteIntervals, x.contents.length ≤ x.size ∧ ∀ b ∈ x.blocks, mblockOK b = true)
      ∧ ∀ k ∈ msectionKinds s, k.1.length = 16 := by
  simp only [chkSection, andThen_ok, fresh_ok_iff, guardE_ok] at h
  obtain ⟨⟨h16, _⟩, hfl, hx⟩ := h
  have hg := fun x (hm : x ∈ s.byteIntervals) =>
    let ⟨_, hc⟩ := chkList_ok_mem hx hm
    struct_of_chkInterval hc
  refine ⟨hfl, fun x hm => ⟨(hg x hm).1, (hg x hm).2.1⟩, fun k hk => ?_⟩
  simp only [msectionKinds, List.mem_cons, List.mem_flatMap] at hk
  rcases hk with rfl | ⟨x, hm, hk⟩
  · exact h16
  · exact (hg x hm).2.2 k hk

theorem mmodStruct_of_chk {env : Env} {m : MModule} (h : chkModule env m = .ok ()) : MModStruct m := by
  simp only [chkModule, andThen_ok, fresh_ok_iff, guardE_ok, Bool.and_eq_true, chkAll_ok_iff, chkExprsS,
    chkExprsI] at h
  obtain ⟨⟨h16, _⟩, ⟨⟨hisa, hff⟩, hbo⟩, hpx, hsec, _, hsym, hex⟩ := h
  have hg := fun s (hm : s ∈ m.sections) =>
    let ⟨_, hc⟩ := chkList_ok_mem hsec hm
    struct_of_chkSection hc
  refine ⟨⟨hisa, hff, hbo⟩, fun u hu => ?_, fun s hm => (hg s hm).1, fun s hm => (hg s hm).2.1,
    fun s hs x hx kv hkv => (chkExpr_ok_iff.1 (hex s hs x hx kv hkv)).1⟩
  rw [← mmoduleKinds_fst] at hu
  obtain ⟨k, hk, rfl⟩ := List.mem_map.1 hu
  simp only [mmoduleKinds, List.cons_append, List.mem_cons, List.mem_append, List.mem_map,
    List.mem_flatMap] at hk
  rcases hk with rfl | (⟨p, hp, rfl⟩ | ⟨s, hm, hk⟩) | ⟨y, hy, rfl⟩
  · exact h16
  · obtain ⟨_, hc⟩ := chkList_ok_mem hpx hp
    exact (fresh_ok_iff.1 hc).1
  · exact (hg s hm).2.2 k hk
  · obtain ⟨_, hc⟩ := chkList_ok_mem hsym hy
    exact (chkSymbol_ok_iff.1 hc).1.1

theorem mem_uuidsOf_snoc {p : KindTag → Bool} (hp : p .ir = false) {L : MModule → List U}
    (hL : ∀ m u, u ∈ uuidsOf p (mmoduleKinds m) ↔ u ∈ L m) {uuid : U} {earlier : List MModule}
    {m : MModule} {u : U} :
    u ∈ uuidsOf p ((mmoduleKinds m).reverse ++ menvOf uuid earlier) ↔ u ∈ earlier.flatMap L ++ L m := by
  rw [menvOf_snoc, mem_uuidsOf_menvOf hp hL, List.flatMap_append, List.flatMap_cons, List.flatMap_nil,
    List.append_nil]

theorem len16_of_mem_uuidsOf {p : KindTag → Bool} (hp : p .ir = false) {uuid : U} {ms : List MModule}
    (hall : ∀ m ∈ ms, ∀ u ∈ m.nodeUuids, u.length = 16) {u : U} (h : u ∈ uuidsOf p (menvOf uuid ms)) :
    u.length = 16 := by
  obtain ⟨m, hm, hu⟩ := List.mem_flatMap.1
    ((mem_uuidsOf_menvOf hp (L := fun m => uuidsOf p (mmoduleKinds m)) fun _ _ => Iff.rfl).1 h)
  exact hall m hm u (uuidsOf_sub_nodeUuids hu)

theorem mmoduleOK_of_chk {uuid : U} {earlier : List MModule} {m : MModule}
    (h : chkModule (menvOf uuid earlier) m = .ok ()) : mmoduleOK earlier m = true := by
  have st := mmodStruct_of_chk h
  simp only [chkModule, andThen_ok, chkAll_ok_iff, chkExprsS, chkExprsI] at h
  obtain ⟨_, _, _, _, hentry, hsym, hex⟩ := h
  refine mmoduleOK_iff.2 ⟨⟨?_, fun s hs u hu => ?_, fun s hs x hx kv hkv u hu => ?_⟩, st.enums,
    fun s hs => ⟨st.flags s hs, fun x hx =>
      ⟨(st.ivs s hs x hx).1, (st.ivs s hs x hx).2, st.exprs s hs x hx⟩⟩⟩
  · cases he : m.entryPoint.isEmpty with
    | true => exact .inl rfl
    | false =>
      simp only [he, Bool.false_eq_true, if_false] at hentry
      have := (mem_of_refIs hentry).2
      rw [uuidsOf_menv2 rfl] at this
      exact .inr ((mem_uuidsOf_snoc rfl fun m u => by rw [uuidsOf_code]).1 this)
  · obtain ⟨pre, post, hsplit⟩ := List.append_of_mem hs
    have := (mem_of_refIs ((chkSymbol_ok_iff.1 (chkList_ok_iff.1 hsym pre s post hsplit)).2 u hu)).2
    rw [uuidsOf_symbols rfl, uuidsOf_menv2 rfl] at this
    exact (mem_uuidsOf_snoc rfl mem_uuidsOf_block).1 this
  · have := (mem_of_refIs ((chkExpr_ok_iff.1 (hex s hs x hx kv hkv)).2 u hu)).2
    exact (mem_uuidsOf_snoc rfl fun m u => by rw [uuidsOf_symbol]).1 this

theorem chkModule_of_closed {uuid : U} {earlier : List MModule} {m : MModule}
    (h : mmoduleOK earlier m = true)
    (hall : ∀ m' ∈ earlier ++ [m], ∀ u ∈ m'.nodeUuids, u.length = 16)
    (hnd : (((mmoduleKinds m).reverse ++ menvOf uuid earlier).map (·.1)).Nodup) :
    chkModule (menvOf uuid earlier) m = .ok () := by
  obtain ⟨⟨hentry, hrefs, hexprs⟩, hen, hsecs⟩ := mmoduleOK_iff.1 h
  have st : MModStruct m := ⟨hen, hall m (by simp), fun s hs => (hsecs s hs).1,
    fun s hs x hx => ⟨((hsecs s hs).2 x hx).1, ((hsecs s hs).2 x hx).2.1⟩,
    fun s hs x hx => ((hsecs s hs).2 x hx).2.2⟩
  have h16 : ∀ {p : KindTag → Bool}, p .ir = false → ∀ {u : U},
      u ∈ uuidsOf p ((mmoduleKinds m).reverse ++ menvOf uuid earlier) → u.length = 16 := by
    intro p hp u hu
    rw [menvOf_snoc] at hu
    exact len16_of_mem_uuidsOf hp hall hu
  have hnd' := hnd
  rw [← menv2_symbols] at hnd'
  have hnd2 : ((menv2 (menvOf uuid earlier) m).map (·.1)).Nodup := nodup_suffix hnd'
  rw [chkModule_struct st hnd2]
  simp only [andThen_ok, chkList_ok_iff, chkSymbol_ok_iff, chkAll_ok_iff, chkExprsS, chkExprsI,
    chkExpr_ok_iff]
  refine ⟨?_, fun pre s post hs => ?_, fun s hs x hx kv hkv =>
    ⟨st.exprs s hs x hx kv hkv, fun u hu => ?_⟩⟩
  · split
    · rfl
    · next hne =>
      have hm := (mem_uuidsOf_snoc (uuid := uuid) rfl fun m u => by rw [uuidsOf_code]).2
        (hentry.resolve_left hne)
      refine refIs_of_mem hnd2 (h16 rfl hm) ?_
      rw [uuidsOf_menv2 rfl]
      exact hm
  · rw [hs] at hnd'
    have hn := nodup_at_split hnd'
    refine ⟨⟨st.all16 s.uuid (by simp [MModule.nodeUuids, hs]), fresh_of_nodup (A := []) hn⟩,
      fun u hu => ?_⟩
    have hm := (mem_uuidsOf_snoc (uuid := uuid) rfl mem_uuidsOf_block).2 (hrefs s (by simp [hs]) u hu)
    refine refIs_of_mem (nodup_suffix (A := [_]) hn) (h16 rfl hm) ?_
    rw [uuidsOf_symbols rfl, uuidsOf_menv2 rfl]
    exact hm
  · have hm := (mem_uuidsOf_snoc (uuid := uuid) rfl fun m u => by rw [uuidsOf_symbol]).2
      (hexprs s hs x hx kv hkv u hu)
    exact refIs_of_mem hnd (h16 rfl hm) hm

theorem chkBlocks_nodup {env : Env} {bs : List MBlock}
    (h : chkList chkBlock (fun b => (mblockKind b).toList) env bs = .ok ())
    (hn : (env.map (·.1)).Nodup) : (((mblockKinds bs).reverse ++ env).map (·.1)).Nodup := by
  rw [← flatMap_toList_mblockKind]
  refine chkList_nodup (S := fun _ => True) (fun env b hc _ hn => ?_) h (fun _ _ => trivial) hn
  cases hk : mblockKind b with
  | none => exact hn
  | some k => exact List.nodup_cons.2 ⟨((chkBlock_ok_iff.1 hc).2 k hk).2, hn⟩

/-- `fresh` is asked for the interval before its blocks are decoded and the interval is entered
after them, so an interval carrying the UUID of one of its own blocks is the one repetition the
reader does not reject; the table's keys stay distinct only without it -/
theorem chkInterval_nodup {env : Env} {x : MByteInterval} (h : chkInterval env x = .ok ())
    (hside : x.uuid ∉ x.blockUuids) (hn : (env.map (·.1)).Nodup) :
    (((mintervalKinds x).reverse ++ env).map (·.1)).Nodup := by
  simp only [chkInterval, andThen_ok, fresh_ok_iff] at h
  obtain ⟨⟨_, hf⟩, _, hb⟩ := h
  have e : (mintervalKinds x).reverse ++ env
      = (x.uuid, KindTag.interval) :: ((mblockKinds x.blocks).reverse ++ env) := by
    simp [mintervalKinds]
  rw [e]
  refine List.nodup_cons.2 ⟨?_, chkBlocks_nodup hb hn⟩
  rw [List.map_append, List.map_reverse, mblockKinds_fst, List.mem_append, List.mem_reverse]
  exact fun h => h.elim hside hf

theorem chkSection_nodup {env : Env} {s : MSection} (h : chkSection env s = .ok ())
    (hside : ∀ x ∈ s.byteIntervals, x.uuid ∉ x.blockUuids) (hn : (env.map (·.1)).Nodup) :
    (((msectionKinds s).reverse ++ env).map (·.1)).Nodup := by
  simp only [chkSection, andThen_ok, fresh_ok_iff] at h
  obtain ⟨⟨_, hf⟩, _, hx⟩ := h
  have e : (msectionKinds s).reverse ++ env
      = (s.byteIntervals.flatMap mintervalKinds).reverse ++ ((s.uuid, KindTag.section) :: env) := by
    simp [msectionKinds]
  rw [e]
  exact chkList_nodup (fun _ _ hc hs hn => chkInterval_nodup hc hs hn) hx hside (List.nodup_cons.2 ⟨hf, hn⟩)

theorem chkModule_nodup {env : Env} {m : MModule} (h : chkModule env m = .ok ())
    (hside : ∀ s ∈ m.sections, ∀ x ∈ s.byteIntervals, x.uuid ∉ x.blockUuids)
    (hn : (env.map (·.1)).Nodup) : (((mmoduleKinds m).reverse ++ env).map (·.1)).Nodup := by
  simp only [chkModule, andThen_ok, fresh_ok_iff] at h
  obtain ⟨⟨_, hf⟩, _, hpx, hsec, _, hsym, _⟩ := h
  have h1 : ((menv1 env m).map (·.1)).Nodup := by
    have ek : m.proxies.map (fun p => (p, KindTag.proxy))
        = m.proxies.flatMap fun p => [(p, KindTag.proxy)] := List.map_eq_flatMap
    rw [menv1, ek]
    exact chkList_nodup (K := fun p => [(p, KindTag.proxy)]) (S := fun _ => True)
      (fun _ _ hc _ hn => List.nodup_cons.2 ⟨(fresh_ok_iff.1 hc).2, hn⟩) hpx (fun _ _ => trivial)
      (List.nodup_cons.2 ⟨hf, hn⟩)
  have h2 : ((menv2 env m).map (·.1)).Nodup :=
    chkList_nodup (fun _ _ hc hs hn => chkSection_nodup hc hs hn) hsec hside h1
  rw [← menv2_symbols]
  exact chkList_nodup (K := fun s : MSymbol => [(s.uuid, KindTag.symbol)]) (S := fun _ => True)
    (fun _ _ hc _ hn => List.nodup_cons.2 ⟨(chkSymbol_ok_iff.1 hc).1.2, hn⟩) hsym (fun _ _ => trivial) h2

/-- an accepted message is closed, but for the distinctness of its node UUIDs -/
theorem closed_of_chkMsg {m : MIR} (h : chkMsg m = .ok ()) :
    (∀ u ∈ m.nodeUuids, u.length = 16) ∧ m.version = Generated.protobufVersion
      ∧ mmodulesOK [] m.modules = true
      ∧ ∀ e ∈ m.cfg.edges,
          (e.sourceUuid ∈ (m.modules.flatMap fun mm => mm.codeUuids ++ mm.proxies)
            ∧ e.targetUuid ∈ (m.modules.flatMap fun mm => mm.codeUuids ++ mm.proxies))
          ∧ ∀ l, e.label = some l → pyEnumHas "EdgeType" l.type = true := by
  simp only [chkMsg, andThen_ok, checkUuid_ok_iff, guardE_ok, beq_iff_eq, chkAll_ok_iff] at h
  obtain ⟨h16, hver, hmods, hedges⟩ := h
  refine ⟨fun u hu => ?_, hver, mmodulesOK_iff.2 fun pre mm post hs => ?_, fun e he => ?_⟩
  · simp only [MIR.nodeUuids, List.mem_cons, List.mem_flatMap] at hu
    rcases hu with rfl | ⟨mm, hm, hu⟩
    · exact h16
    · obtain ⟨_, hc⟩ := chkList_ok_mem hmods hm
      exact (mmodStruct_of_chk hc).all16 u hu
  · exact mmoduleOK_of_chk (chkList_ok_iff.1 hmods pre mm post hs)
  · have hc := hedges e he
    simp only [chkEdge, andThen_ok] at hc
    have cfg : ∀ {u : U}, refIs (fun k => k == .code || k == .proxy) (menvOf m.uuid m.modules) u = .ok () →
        u ∈ m.modules.flatMap fun mm => mm.codeUuids ++ mm.proxies := fun hu =>
      (mem_uuidsOf_menvOf rfl mem_uuidsOf_cfg).1 (mem_of_refIs hu).2
    refine ⟨⟨cfg hc.1, cfg hc.2.1⟩, fun l hl => ?_⟩
    rw [hl] at hc
    exact guardE_ok.1 hc.2.2

theorem nodup_of_chkMsg {m : MIR} (h : chkMsg m = .ok ())
    (hside : ∀ mm ∈ m.modules, ∀ s ∈ mm.sections, ∀ x ∈ s.byteIntervals, x.uuid ∉ x.blockUuids) :
    m.nodeUuids.Nodup := by
  simp only [chkMsg, andThen_ok] at h
  have := chkList_nodup (fun _ _ hc hs hn => chkModule_nodup hc hs hn) h.2.2.1 hside
    (by simp)
  rw [← menvOf_fst, List.map_reverse, (List.reverse_perm _).nodup_iff]
  exact this

theorem chkMsg_of_closed {m : MIR} (h : closedMsg m = true) : chkMsg m = .ok () := by
  obtain ⟨h16, hnd, hver, hmods, hedges⟩ := closedMsg_iff.1 h
  have hndk : ((menvOf m.uuid m.modules).map (·.1)).Nodup := by
    rw [← (List.reverse_perm _).nodup_iff, ← List.map_reverse, menvOf_fst]
    exact hnd
  have hall : ∀ mm ∈ m.modules, ∀ u ∈ mm.nodeUuids, u.length = 16 := fun mm hm u hu =>
    h16 u (by
      simp only [MIR.nodeUuids, List.mem_cons, List.mem_flatMap]
      exact .inr ⟨mm, hm, hu⟩)
  simp only [chkMsg, andThen_ok, checkUuid_ok_iff, guardE_ok, beq_iff_eq, chkList_ok_iff, chkAll_ok_iff]
  refine ⟨h16 _ List.mem_cons_self, hver, fun pre mm post hs => ?_, fun e he => ?_⟩
  · rw [menvOf, hs] at hndk
    refine chkModule_of_closed ((closedMsg_iff.1 h).moduleOK hs)
      (fun m' hm' => hall m' (by
        rw [hs]
        rcases List.mem_append.1 hm' with h | h
        · exact List.mem_append_left _ h
        · exact List.mem_append_right _ (List.mem_cons.2 (.inl (List.mem_singleton.1 h))))) ?_
    exact nodup_at_split hndk
  · obtain ⟨⟨hs, ht⟩, hl⟩ := hedges e he
    have cfg : ∀ {u : U}, u ∈ (m.modules.flatMap fun mm => mm.codeUuids ++ mm.proxies) →
        refIs (fun k => k == .code || k == .proxy) (menvOf m.uuid m.modules) u = .ok () := fun hu =>
      have hm := (mem_uuidsOf_menvOf (uuid := m.uuid) rfl mem_uuidsOf_cfg).2 hu
      refIs_of_mem hndk (len16_of_mem_uuidsOf rfl hall hm) hm
    simp only [chkEdge, andThen_ok]
    refine ⟨cfg hs, cfg ht, ?_⟩
    cases hlab : e.label with
    | none => rfl
    | some l => exact guardE_ok.2 (hl l hlab)

end Gtirb.Msg
