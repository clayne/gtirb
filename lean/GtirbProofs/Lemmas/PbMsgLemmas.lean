import GtirbModel.PbMsg
import GtirbProofs.Lemmas.PbWireProofs
import GtirbProofs.Lemmas.ListLemmas
/-! Layer-2 combinator facts: what each reader combinator returns on what the
matching writer combinator wrote; what the field-number table says of a message's keys;
and, once for all messages, that a message written field by field is well-formed and is
read back field by field (`written`). -/
namespace Gtirb.Pb
open Gtirb Gtirb.Msg

@[simp] theorem getAll_nil (k : Nat) : getAll [] k = [] := rfl

@[simp] theorem getAll_append (a b : WMsg) (k : Nat) :
    getAll (a ++ b) k = getAll a k ++ getAll b k := by
  simp [getAll]

theorem getAll_eq_nil {m : WMsg} {k : Nat} : getAll m k = [] ↔ ∀ f ∈ m, f.1 ≠ k := by
  simp [getAll, List.filter_eq_nil_iff]

theorem getAll_fld (k' k : Nat) (vs : List WVal) :
    getAll (fld k' vs) k = if k' = k then vs else [] := by
  unfold getAll fld
  rw [List.filter_map, List.map_map]
  split
  · next h => subst h; simp [Function.comp_def]
  · next h => simp [Function.comp_def, h]

@[simp] theorem getAll_fld_self (k : Nat) (vs : List WVal) : getAll (fld k vs) k = vs := by
  simp [getAll_fld]

theorem getAll_fld_ne {k' k : Nat} (h : k' ≠ k) (vs : List WVal) : getAll (fld k' vs) k = [] := by
  simp [getAll_fld, h]

theorem wf_nil : WMsg.wf [] = true := rfl

@[simp] theorem wf_append (a b : WMsg) : WMsg.wf (a ++ b) = (WMsg.wf a && WMsg.wf b) := by
  simp [WMsg.wf]

theorem wf_fld (k : Nat) (vs : List WVal) (h0 : 0 < k) (h1 : k < 2 ^ 29) :
    WMsg.wf (fld k vs) = vs.all WVal.wf := by
  unfold WMsg.wf fld
  induction vs with
  | nil => rfl
  | cons v vs ih => simp_all [fieldWf]

theorem filter_append' (p : Nat × WVal → Bool) (a b : WMsg) :
    (a ++ b).filter p = a.filter p ++ b.filter p := List.filter_append ..

theorem allVarint_vUInt (n : Nat) : allVarint (vUInt n) = some (if n = 0 then [] else [n]) := by
  unfold vUInt; split <;> simp [allVarint]

@[simp] theorem lastUInt_vUInt (n : Nat) : lastUInt (vUInt n) = some n := by
  unfold lastUInt; rw [allVarint_vUInt]
  by_cases h : n = 0 <;> simp [h]

@[simp] theorem lastUInt_single (n : Nat) : lastUInt [.varint n] = some n := by
  simp [lastUInt, allVarint]

@[simp] theorem lastBool_vBool (b : Bool) : lastBool (vBool b) = some b := by
  cases b <;> simp [lastBool, vBool, lastUInt, allVarint]

@[simp] theorem lastInt_vInt (i : Int) (h : i64OK i = true) : lastInt (vInt i) = some i := by
  simp only [i64OK, Bool.and_eq_true, decide_eq_true_eq] at h
  simp [lastInt, vInt, toInt64_ofInt64 i h]

@[simp] theorem lastEnum_vUInt (n : Nat) (h : enumOK n = true) : lastEnum (vUInt n) = some n := by
  simp only [enumOK, decide_eq_true_eq] at h
  simp [lastEnum, h]

@[simp] theorem lastU32_vUInt (n : Nat) (h : u32OK n = true) : lastU32 (vUInt n) = some n := by
  simp only [u32OK, decide_eq_true_eq] at h
  simp [lastU32, Nat.mod_eq_of_lt h]

@[simp] theorem lastBytes_vBytes (bs : Bytes) : lastBytes (vBytes bs) = some bs := by
  unfold lastBytes vBytes
  by_cases h : bs = [] <;> simp [h, allLen]

@[simp] theorem lastBytes_single (bs : Bytes) : lastBytes [.len bs] = some bs := by
  simp [lastBytes, allLen]

theorem strOf_utf8 (s : String) : strOf (utf8 s) = some s := by
  unfold strOf utf8
  rw [Array.toArray_toList]
  exact String.fromUTF8?_toUTF8 s

@[simp] theorem lastStr_vStr (s : String) : lastStr (vStr s) = some s := by
  simp [lastStr, vStr, strOf_utf8]

@[simp] theorem lastStr_single (s : String) : lastStr [.len (utf8 s)] = some s := by
  simp [lastStr, strOf_utf8]

@[simp] theorem allLen_vRep (bss : List Bytes) : allLen (vRep bss) = some bss := by
  unfold vRep
  induction bss with
  | nil => rfl
  | cons b bss ih => simp [allLen, ih]

@[simp] theorem wf_len (bs : Bytes) : (WVal.len bs).wf = lenOK bs := rfl

@[simp] theorem wf_varint (n : Nat) : (WVal.varint n).wf = u64OK n := rfl

@[simp] theorem all_wf_vUInt (n : Nat) (h : u64OK n = true) : (vUInt n).all WVal.wf = true := by
  simp only [u64OK, decide_eq_true_eq] at h
  unfold vUInt; split <;> simp [WVal.wf, h]

theorem u64OK_of_enumOK {n : Nat} (h : enumOK n = true) : u64OK n = true := by
  simp only [enumOK, u64OK, decide_eq_true_eq] at *
  exact Nat.lt_trans h (by decide)

theorem u64OK_of_u32OK {n : Nat} (h : u32OK n = true) : u64OK n = true := by
  simp only [u32OK, u64OK, decide_eq_true_eq] at *
  exact Nat.lt_trans h (by decide)

@[simp] theorem all_wf_vBool (b : Bool) : (vBool b).all WVal.wf = true := by
  cases b <;> simp [vBool, WVal.wf]

@[simp] theorem all_wf_vInt (i : Int) : (vInt i).all WVal.wf = true :=
  all_wf_vUInt _ (by simpa [u64OK] using ofInt64_lt i)

@[simp] theorem all_wf_vBytes (bs : Bytes) (h : lenOK bs = true) :
    (vBytes bs).all WVal.wf = true := by
  simp only [lenOK, decide_eq_true_eq] at h
  unfold vBytes; split <;> simp [WVal.wf, h]

@[simp] theorem all_wf_vStr (s : String) (h : lenOK (utf8 s) = true) :
    (vStr s).all WVal.wf = true :=
  all_wf_vBytes _ h

@[simp] theorem all_wf_vRep (bss : List Bytes) (h : bss.all lenOK = true) :
    (vRep bss).all WVal.wf = true := by
  simpa [vRep, List.all_map, Function.comp_def, WVal.wf, lenOK] using h

@[simp] theorem all_wf_vPacked (ns : List Nat) (h : lenOK (ns.flatMap encVarint) = true) :
    (vPacked ns).all WVal.wf = true := by
  unfold vPacked; split
  · rfl
  · simpa [WVal.wf, lenOK] using h

@[simp] theorem all_wf_vMsgs {α : Type} (f : α → WMsg) (xs : List α) :
    (vMsgs f xs).all WVal.wf = xs.all fun x => lenOK (encodeW (f x)) := by
  simp [vMsgs, List.all_map, Function.comp_def]

theorem asMsg_encodeW {α : Type} (p : WMsg → Option α) (w : WMsg) (h : w.wf = true) :
    asMsg p (encodeW w) = p w := by
  unfold asMsg; rw [decodeW_encodeW w h]

@[simp] theorem subMsg_single {α : Type} (p : WMsg → Option α) (w : WMsg) (h : w.wf = true) :
    subMsg p [.len (encodeW w)] = p w := by
  simp [subMsg, merged, allLen, asMsg_encodeW p w h]

theorem repMsg_vMsgs {α : Type} {p : WMsg → Option α} {f : α → WMsg} {w : α → Bool}
    (hw : ∀ x, w x = true → (f x).wf = true ∧ p (f x) = some x) {xs : List α}
    (h : xs.all w = true) : repMsg p (vMsgs f xs) = some xs := by
  unfold repMsg vMsgs
  induction xs with
  | nil => rfl
  | cons x xs ih =>
    simp only [List.all_cons, Bool.and_eq_true] at h
    have ih := ih h.2
    simp only [List.map_cons, allLen] at ih ⊢
    split at ih
    · next bss hb => simp_all [optMapM, asMsg_encodeW]
    · cases ih

theorem decVarints_flatMap (ns : List Nat) (h : ∀ n ∈ ns, n < 2 ^ 64) :
    ∀ fuel, (ns.flatMap encVarint).length ≤ fuel →
      decVarints fuel (ns.flatMap encVarint) = some ns := by
  induction ns with
  | nil => intro fuel _; cases fuel <;> rfl
  | cons n ns ih =>
    intro fuel hf
    have hn : n < 2 ^ 64 := h n (by simp)
    have ih' := ih (fun k hk => h k (by simp [hk]))
    rw [List.flatMap_cons] at hf ⊢
    cases he : encVarint n with
    | nil => exact absurd he (encVarint_ne_nil n)
    | cons b tl =>
      rw [he] at hf
      cases fuel with
      | zero => simp at hf
      | succ fuel =>
        have hd : decVarint (b :: tl ++ ns.flatMap encVarint) = some (n, ns.flatMap encVarint) := by
          rw [← he]; exact decVarint_encVarint n hn _
        have hl : (ns.flatMap encVarint).length ≤ fuel := by
          simp only [List.cons_append, List.length_cons, List.length_append] at hf; omega
        simp only [List.cons_append] at hd ⊢
        simp only [decVarints, hd, ih' fuel hl]

theorem packedOf_vPacked (ns : List Nat) (h : ∀ n ∈ ns, n < 2 ^ 64) :
    packedOf (vPacked ns) = some ns := by
  unfold vPacked
  by_cases h0 : ns = []
  · simp [h0, packedOf]
  · simp only [h0, if_false, packedOf, decVarints_flatMap ns h _ (Nat.le_refl _), List.append_nil]

@[simp] theorem enumsOf_vPacked (ns : List Nat) (h : ns.all enumOK = true) :
    enumsOf (vPacked ns) = some ns := by
  have h' : ∀ n ∈ ns, n < 2 ^ 31 := by
    simpa [enumOK] using h
  unfold enumsOf
  rw [packedOf_vPacked ns (fun n hn => Nat.lt_trans (h' n hn) (by decide))]
  have : ns.all (fun n => decide (n < 2 ^ 31)) = true := by
    simpa using h'
  simp only [this, if_true]

/-- no member was written -/
theorem oneofRun_eq_none {m : WMsg} {ks : List Nat} (h : ∀ k ∈ ks, getAll m k = []) :
    oneofRun m ks = none := by
  have : m.filter (fun f => ks.contains f.1) = [] :=
    List.filter_eq_nil_iff.2 fun f hf hc =>
      getAll_eq_nil.1 (h f.1 (by simpa using hc)) f hf rfl
  unfold oneofRun; rw [this]; rfl

/-- member `k` was written once and no other member -/
theorem oneofRun_eq_single {m : WMsg} {ks : List Nat} {k : Nat} {v : WVal} (hk : k ∈ ks)
    (h : getAll m k = [v]) (h' : ∀ j ∈ ks, j = k ∨ getAll m j = []) :
    oneofRun m ks = some (k, [v]) := by
  have hf : m.filter (fun f => ks.contains f.1) = m.filter (·.1 == k) :=
    List.filter_congr fun f hf => by
      by_cases hfk : f.1 = k
      · simpa [hfk] using hk
      · have : f.1 ∉ ks := fun hm =>
          (h' f.1 hm).elim hfk fun hn => getAll_eq_nil.1 hn f hf rfl
        simp [hfk, this]
  obtain ⟨⟨k', v'⟩, hkv, rfl⟩ := List.map_eq_singleton_iff.1 h
  have hk' : k' = k := by
    simpa using (List.mem_filter.1 (hkv ▸ List.mem_cons_self : (k', v') ∈ m.filter (·.1 == k))).2
  unfold oneofRun
  rw [hf, hkv, hk']
  simp

/-! The round trips below use no particular number: only that, per message, the numbers written
are legal and ascending (hence distinct), which is what `fnoTableOK` says of the schema. -/

theorem fnoTable_ok : fnoTableOK = true := by decide +kernel

def Below (k : Nat) : List Nat → Prop
  | [] => True
  | j :: js => k < j ∧ Below k js

/-- what `fnoTableOK` says of the keys of one message: each is a legal field number and below
all later ones. By recursion on the list, so that on an explicit list
`dsimp only [List.map, KeysOK, Below]` unfolds it to the conjunction of its instances. -/
def KeysOK : List Nat → Prop
  | [] => True
  | k :: ks => (0 < k ∧ k < 2 ^ 29 ∧ Below k ks) ∧ KeysOK ks

theorem Below.mono {k j : Nat} (h : k < j) : ∀ {ks : List Nat}, Below j ks → Below k ks
  | [], _ => trivial
  | _ :: _, hj => ⟨Nat.lt_trans h hj.1, Below.mono h hj.2⟩

theorem Below.lt {k : Nat} : ∀ {ks : List Nat}, Below k ks → ∀ j ∈ ks, k < j
  | _ :: _, h, j, hj => (List.mem_cons.1 hj).elim (· ▸ h.1) (h.2.lt j)

theorem below_of_ascending {k : Nat} : ∀ {ks : List Nat}, ascending (k :: ks) = true → Below k ks
  | [], _ => trivial
  | j :: js, h => by
    simp only [ascending, Bool.and_eq_true, decide_eq_true_eq] at h
    exact ⟨h.1, (below_of_ascending h.2).mono h.1⟩

theorem keysOK_of_ascending : ∀ {ks : List Nat}, (∀ k ∈ ks, 0 < k ∧ k < 2 ^ 29) →
    ascending ks = true → KeysOK ks
  | [], _, _ => trivial
  | [k], hr, _ => ⟨⟨(hr k (by simp)).1, (hr k (by simp)).2, trivial⟩, trivial⟩
  | k :: j :: js, hr, ha =>
    ⟨⟨(hr k (by simp)).1, (hr k (by simp)).2, below_of_ascending ha⟩,
      keysOK_of_ascending (fun i hi => hr i (List.mem_cons_of_mem _ hi))
        (by simp only [ascending, Bool.and_eq_true] at ha; exact ha.2)⟩

/-- the keys of the `i`-th message of `writtenOrder` (picked by position: `fno_ok i rfl`
compares no strings) -/
theorem fno_ok {msg : String} {fs : List String} (i : Nat)
    (h : writtenOrder[i]? = some (msg, fs)) : KeysOK (fs.map (fno msg)) := by
  have := List.all_eq_true.1 fnoTable_ok _ (List.mem_of_getElem? h)
  simp only [Bool.and_eq_true, List.all_eq_true, decide_eq_true_eq] at this
  exact keysOK_of_ascending this.1 this.2

/-- for `simp`: the second member of a oneof is not the first (`if k = first then .. else ..`
in the readers) -/
theorem eq_false_of_gt {a b : Nat} (h : b < a) : (a = b) = False := eq_false (Nat.ne_of_gt h)

/-! Reading the fields of a message one by one out of the unfolded `fld k₁ v₁ ++ fld k₂ v₂ ++ ..`
is quadratic in the number of fields (every read skips every other field). The general
statement is proved once, by induction; a message instantiates it with its keys and its
list of values. -/

/-- `acc ++ fld k₁ v₁ ++ fld k₂ v₂ ++ ..`, associated as the writers write it, so that
`w<X> x = fieldsFrom [] ks vs` holds by `rfl` -/
def fieldsFrom (acc : WMsg) : List Nat → List (List WVal) → WMsg
  | k :: ks, v :: vs => fieldsFrom (acc ++ fld k v) ks vs
  | _, _ => acc

/-- under key `ks[i]` one reads `vs[i]`; by recursion, so that `dsimp only [List.map, Reads]`
unfolds it on explicit lists -/
def Reads (m : WMsg) : List Nat → List (List WVal) → Prop
  | k :: ks, v :: vs => getAll m k = v ∧ Reads m ks vs
  | _, _ => True

theorem getAll_fieldsFrom {k : Nat} : ∀ {ks : List Nat} (vs : List (List WVal)) (acc : WMsg),
    (∀ j ∈ ks, j ≠ k) → getAll (fieldsFrom acc ks vs) k = getAll acc k
  | [], _, _, _ => by simp [fieldsFrom]
  | _ :: _, [], _, _ => by simp [fieldsFrom]
  | j :: js, v :: vs, acc, h => by
    rw [fieldsFrom, getAll_fieldsFrom vs _ fun i hi => h i (List.mem_cons_of_mem _ hi),
      getAll_append, getAll_fld_ne (h j List.mem_cons_self), List.append_nil]

theorem reads_fieldsFrom : ∀ {ks : List Nat} (vs : List (List WVal)) (acc : WMsg), KeysOK ks →
    (∀ k ∈ ks, getAll acc k = []) → Reads (fieldsFrom acc ks vs) ks vs
  | [], _, _, _, _ => by simp [Reads]
  | _ :: _, [], _, _, _ => by simp [Reads]
  | k :: ks, v :: vs, acc, hk, ha => by
    have hlt := hk.1.2.2.lt
    refine ⟨?_, reads_fieldsFrom vs _ hk.2 fun j hj => ?_⟩
    · rw [fieldsFrom, getAll_fieldsFrom vs _ fun j hj => Nat.ne_of_gt (hlt j hj), getAll_append,
        ha k List.mem_cons_self, getAll_fld_self, List.nil_append]
    · rw [getAll_append, ha j (List.mem_cons_of_mem _ hj), getAll_fld_ne (Nat.ne_of_lt (hlt j hj))]; rfl

theorem wf_fieldsFrom : ∀ {ks : List Nat} (vs : List (List WVal)) (acc : WMsg), KeysOK ks →
    acc.wf = true → vs.all (·.all WVal.wf) = true → (fieldsFrom acc ks vs).wf = true
  | [], _, _, _, ha, _ => by simpa [fieldsFrom] using ha
  | _ :: _, [], _, _, ha, _ => by simpa [fieldsFrom] using ha
  | k :: ks, v :: vs, acc, hk, ha, hv => by
    simp only [List.all_cons, Bool.and_eq_true] at hv
    exact wf_fieldsFrom vs _ hk.2
      (by rw [wf_append, ha, wf_fld k v hk.1.1 hk.1.2.1, hv.1]; rfl) hv.2

theorem written {ks : List Nat} (hk : KeysOK ks) (vs : List (List WVal)) (m : WMsg)
    (e : m = fieldsFrom [] ks vs) :
    (vs.all (·.all WVal.wf) = true → m.wf = true) ∧ Reads m ks vs :=
  e ▸ ⟨wf_fieldsFrom vs [] hk rfl, reads_fieldsFrom vs [] hk fun _ _ => rfl⟩

end Gtirb.Pb
