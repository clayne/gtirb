import GtirbProofs.Lemmas.ForestInvProofs
/-! The symbol index invariant of property C10.

`IndexInv` only reads `kids · .syms`, `name`, `payload`, `nameIdx`,
`refIdx`. The operations additionally read `kind` (the index hooks act on
symbols only) and `par` (to find the old owner). Through the folds we carry
`IdxSt k g` = `IndexInv g` + a small side condition `IdxSide g` (the part of
`ForestInv` that the index hooks rely on: members of `syms` are symbols, members
of `secs`/`proxies` are not, `syms` lists are duplicate-free) + `g.kind = k`.
`IdxSt` does not mention `par` or `cache`, and is preserved by every primitive
other than `alloc`, `setName`, `setPayload` unconditionally or under the typing
contract; those three need `ForestInv` of the pre-state. -/
namespace Gtirb.Forest

/-! ### only the UUID table changed -/

def IdxOC (g g' : G) : Prop := ∃ c, g' = { g with cache := c }

theorem idx_oc_refl (g : G) : IdxOC g g := ⟨g.cache, rfl⟩

theorem CacheOnly.idxOC {g g' : G} (h : CacheOnly g g') : IdxOC g g' := ⟨_, h.onlyCache⟩

theorem idx_oc_cacheAdd (g : G) (i v : Nat) : IdxOC g (cacheAdd g i v) := ⟨_, onlyCache_cacheAdd g i v⟩

theorem idx_oc_cacheRemove {g g' : G} {i v : Nat} (h : cacheRemove g i v = .ok g') : IdxOC g g' :=
  ⟨_, (orKeyError_cacheRemove g i v).of_ok h⟩

structure IdxSide (g : G) : Prop where
  kind_ok : ∀ c p s, (s = .secs ∨ s = .syms ∨ s = .proxies) → c ∈ g.kids p s →
    (g.kind c = .symbol ↔ s = .syms)
  syms_nodup : ∀ p, (g.kids p .syms).Nodup

def IdxSt (k : Nat → Kind) (g : G) : Prop := IndexInv g ∧ IdxSide g ∧ g.kind = k

theorem idx_slotOf_syms {k : Kind} : slotOf k = some .syms ↔ k = .symbol := by
  cases k <;> simp [slotOf]

theorem idx_side_of_forest {g : G} (hf : ForestInv g) : IdxSide g where
  kind_ok := by
    intro c p s _ hc
    have h := hf.slot_of_mem hc
    constructor
    · intro hk; rw [hk] at h; simp [slotOf] at h; exact h.symm
    · rintro rfl; exact idx_slotOf_syms.1 h
  syms_nodup := fun p => hf.nodup p .syms

theorem idx_st_oc {k : Nat → Kind} {g g' : G} (hoc : IdxOC g g') (h : IdxSt k g) : IdxSt k g' := by
  obtain ⟨c, rfl⟩ := hoc
  obtain ⟨hi, hs, hk⟩ := h
  exact ⟨⟨hi.name_iff, hi.ref_iff, hi.name_nodup, hi.ref_nodup⟩, ⟨hs.kind_ok, hs.syms_nodup⟩, hk⟩

/-! ### one entry of a family of lists replaced -/

theorem idx_mem_insertAt {κ : Type} [DecidableEq κ] {I : Nat → κ → List Nat} {m v m' y : Nat} {k0 k : κ} :
    y ∈ (if m' = m ∧ k = k0 then setInsertNat (I m k) v else I m' k) ↔
      (y ∈ I m' k ∨ (m' = m ∧ k = k0 ∧ y = v)) := by
  split
  · rename_i h; obtain ⟨rfl, rfl⟩ := h
    rw [mem_setInsertNat]; simp only [true_and]
  · rename_i h; exact ⟨.inl, fun h' => h'.elim id fun h'' => absurd ⟨h''.1, h''.2.1⟩ h⟩

theorem idx_mem_eraseAt {κ : Type} [DecidableEq κ] {I : Nat → κ → List Nat} {m v m' y : Nat} {k0 k : κ} (hnd : (I m' k).Nodup) :
    y ∈ (if m' = m ∧ k = k0 then (I m k).erase v else I m' k) ↔
      (y ∈ I m' k ∧ ¬ (m' = m ∧ k = k0 ∧ y = v)) := by
  split
  · rename_i h; obtain ⟨rfl, rfl⟩ := h
    rw [hnd.mem_erase_iff]; simp only [true_and]; exact and_comm
  · rename_i h; exact ⟨fun h' => ⟨h', fun h'' => h ⟨h''.1, h''.2.1⟩⟩, And.left⟩

theorem idx_nodup_insertAt {κ : Type} [DecidableEq κ] {I : Nat → κ → List Nat} {m v m' : Nat} {k0 k : κ} (hnd : (I m' k).Nodup) :
    (if m' = m ∧ k = k0 then setInsertNat (I m k) v else I m' k).Nodup := by
  split
  · rename_i h; obtain ⟨rfl, rfl⟩ := h; exact nodup_setInsertNat _ hnd
  · exact hnd

theorem idx_nodup_eraseAt {κ : Type} [DecidableEq κ] {I : Nat → κ → List Nat} {m v m' : Nat} {k0 k : κ} (hnd : (I m' k).Nodup) :
    (if m' = m ∧ k = k0 then (I m k).erase v else I m' k).Nodup := by
  split
  · rename_i h; obtain ⟨rfl, rfl⟩ := h; exact hnd.erase _
  · exact hnd

/-! ### the index hooks: membership -/

theorem idx_symIndexAdd_nameIdx (g : G) (m v m' k y : Nat) :
    y ∈ (symIndexAdd g m v).nameIdx m' k ↔
      (y ∈ g.nameIdx m' k ∨ (g.kind v = .symbol ∧ m' = m ∧ k = g.name v ∧ y = v)) := by
  by_cases hk : g.kind v = .symbol
  · rw [symIndexAdd_symbol hk]; simp only [idx_mem_insertAt, hk, true_and]
  · rw [symIndexAdd_other hk]; exact ⟨.inl, fun h => h.elim id fun h' => absurd h'.1 hk⟩

theorem idx_symIndexAdd_refIdx (g : G) (m v m' b y : Nat) :
    y ∈ (symIndexAdd g m v).refIdx m' b ↔
      (y ∈ g.refIdx m' b ∨ (g.kind v = .symbol ∧ m' = m ∧ g.payload v = .block b ∧ y = v)) := by
  by_cases hk : g.kind v = .symbol
  · rw [symIndexAdd_symbol hk]
    cases hb : g.payload v with
    | block b' => simp only [idx_mem_insertAt, hk, true_and, Payload.block.injEq, @eq_comm _ b' b]
    | _ => simp only [reduceCtorEq, false_and, and_false, or_false]
  · rw [symIndexAdd_other hk]; exact ⟨.inl, fun h => h.elim id fun h' => absurd h'.1 hk⟩

theorem idx_symIndexDiscard_nameIdx (g : G) (m v m' k y : Nat) (hnd : (g.nameIdx m' k).Nodup) :
    y ∈ (symIndexDiscard g m v).nameIdx m' k ↔
      (y ∈ g.nameIdx m' k ∧ ¬ (g.kind v = .symbol ∧ m' = m ∧ k = g.name v ∧ y = v)) := by
  by_cases hk : g.kind v = .symbol
  · rw [symIndexDiscard_symbol hk]; simp only [idx_mem_eraseAt hnd, hk, true_and]
  · rw [symIndexDiscard_other hk]; exact ⟨fun h => ⟨h, fun h' => hk h'.1⟩, And.left⟩

theorem idx_symIndexDiscard_refIdx (g : G) (m v m' b y : Nat) (hnd : (g.refIdx m' b).Nodup) :
    y ∈ (symIndexDiscard g m v).refIdx m' b ↔
      (y ∈ g.refIdx m' b ∧ ¬ (g.kind v = .symbol ∧ m' = m ∧ g.payload v = .block b ∧ y = v)) := by
  by_cases hk : g.kind v = .symbol
  · rw [symIndexDiscard_symbol hk]
    cases hb : g.payload v with
    | block b' => simp only [idx_mem_eraseAt hnd, hk, true_and, Payload.block.injEq, @eq_comm _ b' b]
    | _ => simp only [reduceCtorEq, false_and, and_false, not_false_eq_true, and_true]
  · rw [symIndexDiscard_other hk]; exact ⟨fun h => ⟨h, fun h' => hk h'.1⟩, And.left⟩

theorem idx_symIndexAdd_nameIdx_nodup (g : G) (m v m' k : Nat) (hnd : (g.nameIdx m' k).Nodup) :
    ((symIndexAdd g m v).nameIdx m' k).Nodup := by
  by_cases hk : g.kind v = .symbol
  · rw [symIndexAdd_symbol hk]; exact idx_nodup_insertAt hnd
  · rw [symIndexAdd_other hk]; exact hnd

theorem idx_symIndexAdd_refIdx_nodup (g : G) (m v m' b : Nat) (hnd : (g.refIdx m' b).Nodup) :
    ((symIndexAdd g m v).refIdx m' b).Nodup := by
  by_cases hk : g.kind v = .symbol
  · rw [symIndexAdd_symbol hk]
    cases g.payload v with
    | block b' => exact idx_nodup_insertAt hnd
    | _ => exact hnd
  · rw [symIndexAdd_other hk]; exact hnd

theorem idx_symIndexDiscard_nameIdx_nodup (g : G) (m v m' k : Nat) (hnd : (g.nameIdx m' k).Nodup) :
    ((symIndexDiscard g m v).nameIdx m' k).Nodup := by
  by_cases hk : g.kind v = .symbol
  · rw [symIndexDiscard_symbol hk]; exact idx_nodup_eraseAt hnd
  · rw [symIndexDiscard_other hk]; exact hnd

theorem idx_symIndexDiscard_refIdx_nodup (g : G) (m v m' b : Nat) (hnd : (g.refIdx m' b).Nodup) :
    ((symIndexDiscard g m v).refIdx m' b).Nodup := by
  by_cases hk : g.kind v = .symbol
  · rw [symIndexDiscard_symbol hk]
    cases g.payload v with
    | block b' => exact idx_nodup_eraseAt hnd
    | _ => exact hnd
  · rw [symIndexDiscard_other hk]; exact hnd

@[simp] theorem idx_symIndexAdd_kind (g : G) (m v : Nat) : (symIndexAdd g m v).kind = g.kind :=
  (onlyIdx_symIndexAdd g m v).kind
@[simp] theorem idx_symIndexAdd_kids (g : G) (m v : Nat) : (symIndexAdd g m v).kids = g.kids :=
  (onlyIdx_symIndexAdd g m v).kids
@[simp] theorem idx_symIndexAdd_name (g : G) (m v : Nat) : (symIndexAdd g m v).name = g.name :=
  (onlyIdx_symIndexAdd g m v).name
@[simp] theorem idx_symIndexAdd_payload (g : G) (m v : Nat) : (symIndexAdd g m v).payload = g.payload :=
  (onlyIdx_symIndexAdd g m v).payload
@[simp] theorem idx_symIndexDiscard_kind (g : G) (m v : Nat) : (symIndexDiscard g m v).kind = g.kind :=
  (onlyIdx_symIndexDiscard g m v).kind
@[simp] theorem idx_symIndexDiscard_kids (g : G) (m v : Nat) : (symIndexDiscard g m v).kids = g.kids :=
  (onlyIdx_symIndexDiscard g m v).kids
@[simp] theorem idx_symIndexDiscard_name (g : G) (m v : Nat) : (symIndexDiscard g m v).name = g.name :=
  (onlyIdx_symIndexDiscard g m v).name
@[simp] theorem idx_symIndexDiscard_payload (g : G) (m v : Nat) : (symIndexDiscard g m v).payload = g.payload :=
  (onlyIdx_symIndexDiscard g m v).payload
@[simp] theorem idx_symIndexDiscard_par (g : G) (m v : Nat) : (symIndexDiscard g m v).par = g.par :=
  (onlyIdx_symIndexDiscard g m v).par

/-! ### primitives that do not touch the index slots -/

theorem idx_st_setPar {k : Nat → Kind} {g : G} (h : IdxSt k g) (v : Nat) (x : Option Nat) :
    IdxSt k (setPar g v x) := by
  obtain ⟨hi, hs, hk⟩ := h
  exact ⟨⟨hi.name_iff, hi.ref_iff, hi.name_nodup, hi.ref_nodup⟩, ⟨hs.kind_ok, hs.syms_nodup⟩, hk⟩

theorem idx_st_kidsSet_ne_syms {k : Nat → Kind} {g : G} (h : IdxSt k g) (p : Nat) {s : Slot}
    (hs' : s ≠ .syms) (l : List Nat) (hl : (s = .secs ∨ s = .proxies) → ∀ c ∈ l, g.kind c ≠ .symbol) :
    IdxSt k (kidsSet g p s l) := by
  obtain ⟨hi, hs, hk⟩ := h
  have hsy : ∀ m, (kidsSet g p s l).kids m .syms = g.kids m .syms := fun m =>
    if_neg fun hh => hs' hh.2.symm
  refine ⟨⟨?_, ?_, hi.name_nodup, hi.ref_nodup⟩, ⟨?_, ?_⟩, hk⟩
  · intro m nm y; rw [hsy]; exact hi.name_iff m nm y
  · intro m b y; rw [hsy]; exact hi.ref_iff m b y
  · intro c m s' h' hc
    rw [kidsSet_kids] at hc
    split at hc
    · rename_i hh
      obtain ⟨rfl, rfl⟩ := hh
      have hsp : s' = .secs ∨ s' = .proxies := h'.elim .inl fun h2 => h2.elim (absurd · hs') .inr
      exact ⟨fun e => absurd e (hl hsp c hc), fun e => absurd e hs'⟩
    · exact hs.kind_ok c m s' h' hc
  · intro m; rw [hsy]; exact hs.syms_nodup m

theorem idx_st_kidsSet_other {k : Nat → Kind} {g : G} (h : IdxSt k g) (p : Nat) {s : Slot}
    (hs' : s = .mods ∨ s = .bis ∨ s = .blocks) (l : List Nat) : IdxSt k (kidsSet g p s l) :=
  idx_st_kidsSet_ne_syms h p (by rcases hs' with rfl | rfl | rfl <;> decide) l
    (by rcases hs' with rfl | rfl | rfl <;> intro hh <;> rcases hh with hh | hh <;> cases hh)

/-! ### `setDiscard` -/

theorem idx_oc_kidsErase {g g' : G} (h : IdxOC g g') (p : Nat) (s : Slot) (v : Nat) :
    IdxOC (kidsErase g p s v) (kidsErase g' p s v) := by
  obtain ⟨c, rfl⟩ := h; exact ⟨c, rfl⟩

theorem idx_oc_kidsInsert {g g' : G} (h : IdxOC g g') (p : Nat) (s : Slot) (v : Nat) :
    IdxOC (kidsInsert g p s v) (kidsInsert g' p s v) := by
  obtain ⟨c, rfl⟩ := h; exact ⟨c, rfl⟩

theorem idx_oc_kidsSet {g g' : G} (h : IdxOC g g') (p : Nat) (s : Slot) (l : List Nat) :
    IdxOC (kidsSet g p s l) (kidsSet g' p s l) := by
  obtain ⟨c, rfl⟩ := h; exact ⟨c, rfl⟩

theorem idx_oc_kids {g g' : G} (h : IdxOC g g') : g'.kids = g.kids := by
  obtain ⟨c, rfl⟩ := h; rfl

theorem idx_oc_par {g g' : G} (h : IdxOC g g') : g'.par = g.par := by
  obtain ⟨c, rfl⟩ := h; rfl

/-- the state after `setDiscard` (when `v` is a member), up to the UUID table -/
def idxDiscardCore (g : G) (p : Nat) (s : Slot) (v : Nat) : G :=
  kidsErase (if s = .secs ∨ s = .syms ∨ s = .proxies then symIndexDiscard (setPar g v none) p v
             else setPar g v none) p s v

theorem idx_setDiscard_spec {g g' : G} {p : Nat} {s : Slot} {v : Nat}
    (h : setDiscard g p s v = .ok g') :
    (v ∉ g.kids p s ∧ g' = g) ∨ (v ∈ g.kids p s ∧ IdxOC (idxDiscardCore g p s v) g') := by
  unfold setDiscard at h
  split at h
  · rename_i hv
    right; refine ⟨hv, ?_⟩
    dsimp only at h
    split at h
    · split at h
      · rename_i g3 h3
        injection h with h; subst h
        exact idx_oc_kidsErase (idx_oc_cacheRemove h3) _ _ _
      · cases h
    · injection h with h; subst h; exact idx_oc_refl _
  · rename_i hv
    injection h with h; subst h; exact Or.inl ⟨hv, rfl⟩

theorem idx_st_discardCore {k : Nat → Kind} {g : G} {p : Nat} {s : Slot} {v : Nat}
    (h : IdxSt k g) (hv : v ∈ g.kids p s) : IdxSt k (idxDiscardCore g p s v) := by
  unfold idxDiscardCore
  by_cases hsy : s = .syms
  · -- a symbol leaves `syms` and the two indexes
    subst hsy
    obtain ⟨hi, hs, hk⟩ := h
    have hkv : g.kind v = .symbol := (hs.kind_ok v p .syms (.inr (.inl rfl)) hv).2 rfl
    rw [if_pos (.inr (.inl rfl))]
    have hkids : ∀ m y, y ∈ (kidsErase (symIndexDiscard (setPar g v none) p v) p .syms v).kids m .syms ↔
        (y ∈ g.kids m .syms ∧ ¬ (m = p ∧ y = v)) := by
      intro m y
      rw [kidsErase_kids, idx_symIndexDiscard_kids]
      exact (idx_mem_eraseAt (I := fun m s => g.kids m s) (k0 := Slot.syms) (hs.syms_nodup m)).trans (by simp)
    refine ⟨⟨?_, ?_, ?_, ?_⟩, ⟨?_, ?_⟩, by rw [kidsErase_kind, idx_symIndexDiscard_kind]; exact hk⟩
    · intro m nm y
      rw [hkids]
      show y ∈ (symIndexDiscard (setPar g v none) p v).nameIdx m nm ↔ _ ∧ (symIndexDiscard (setPar g v none) p v).name y = nm
      rw [idx_symIndexDiscard_nameIdx (setPar g v none) _ _ _ _ _ (hi.name_nodup m nm), idx_symIndexDiscard_name]
      have h1 := hi.name_iff m nm y
      have : (setPar g v none).kind v = .symbol := hkv
      show (y ∈ g.nameIdx m nm ∧ ¬ (_ ∧ m = p ∧ nm = g.name v ∧ y = v)) ↔ _ ∧ g.name y = nm
      clear hi hs hk hkids
      grind
    · intro m b y
      rw [hkids]
      show y ∈ (symIndexDiscard (setPar g v none) p v).refIdx m b ↔
        _ ∧ (symIndexDiscard (setPar g v none) p v).payload y = .block b
      rw [idx_symIndexDiscard_refIdx (setPar g v none) _ _ _ _ _ (hi.ref_nodup m b), idx_symIndexDiscard_payload]
      have h1 := hi.ref_iff m b y
      have : (setPar g v none).kind v = .symbol := hkv
      show (y ∈ g.refIdx m b ∧ ¬ (_ ∧ m = p ∧ g.payload v = .block b ∧ y = v)) ↔ _ ∧ g.payload y = .block b
      clear hi hs hk hkids
      grind
    · exact fun m nm => idx_symIndexDiscard_nameIdx_nodup (setPar g v none) _ _ _ _ (hi.name_nodup m nm)
    · exact fun m b => idx_symIndexDiscard_refIdx_nodup (setPar g v none) _ _ _ _ (hi.ref_nodup m b)
    · intro c m s' hs' hc
      rw [kidsErase_kids, idx_symIndexDiscard_kids] at hc
      show (symIndexDiscard (setPar g v none) p v).kind c = .symbol ↔ _
      rw [idx_symIndexDiscard_kind]
      refine hs.kind_ok c m s' hs' ?_
      split at hc
      · rename_i hh; obtain ⟨rfl, rfl⟩ := hh; exact List.mem_of_mem_erase hc
      · exact hc
    · intro m
      rw [kidsErase_kids, idx_symIndexDiscard_kids]
      exact idx_nodup_eraseAt (I := fun m s => g.kids m s) (k0 := Slot.syms) (hs.syms_nodup m)
  · -- no symbol is involved: the hook does nothing
    have hkv : (s = .secs ∨ s = .proxies) → ∀ c ∈ g.kids p s, g.kind c ≠ .symbol := fun hsp c hc e =>
      hsy ((h.2.1.kind_ok c p s (hsp.elim .inl fun h2 => .inr (.inr h2)) hc).1 e)
    have hX : (if s = .secs ∨ s = .syms ∨ s = .proxies then symIndexDiscard (setPar g v none) p v
        else setPar g v none) = setPar g v none := by
      split
      · rename_i hc
        exact symIndexDiscard_other (g := setPar g v none) (hkv (hc.elim .inl fun h2 => h2.elim (absurd · hsy) .inr) v hv) p
      · rfl
    rw [hX, kidsErase_eq_kidsSet]
    exact idx_st_kidsSet_ne_syms (idx_st_setPar h v none) p hsy _
      fun hsp c hc => hkv hsp c (List.mem_of_mem_erase hc)

theorem idx_st_setDiscard {k : Nat → Kind} {g g' : G} {p : Nat} {s : Slot} {v : Nat}
    (h : IdxSt k g) (hd : setDiscard g p s v = .ok g') : IdxSt k g' := by
  rcases idx_setDiscard_spec hd with ⟨_, rfl⟩ | ⟨hv, hoc⟩
  · exact h
  · exact idx_st_oc hoc (idx_st_discardCore h hv)

/-! ### `setAdd` -/

/-- the state after the second half of `setAdd`, up to the UUID table -/
def idxAddCore (g : G) (p : Nat) (s : Slot) (v : Nat) : G :=
  kidsInsert (if s = .secs ∨ s = .syms ∨ s = .proxies then symIndexAdd (setPar g v (some p)) p v
              else setPar g v (some p)) p s v

theorem idx_setAdd_spec {g g' : G} {p : Nat} {s : Slot} {v : Nat} (h : setAdd g p s v = .ok g') :
    ∃ g1, (match g.par v with
           | some q => setDiscard g q s v
           | none => .ok g) = .ok g1 ∧ IdxOC (idxAddCore g1 p s v) g' := by
  unfold setAdd at h
  split at h
  · cases h
  · rename_i g1 h1
    refine ⟨g1, h1, ?_⟩
    dsimp only at h
    injection h with h; subst h
    refine idx_oc_kidsInsert ?_ _ _ _
    have hgen : ∀ g3 : G, IdxOC g3 (match irOf g3 p with
        | some i => cacheAdd g3 i v
        | none => g3) := by
      intro g3; split
      · exact idx_oc_cacheAdd _ _ _
      · exact idx_oc_refl _
    exact hgen _

theorem idx_st_addCore {k : Nat → Kind} {g : G} {p : Nat} {s : Slot} {v : Nat}
    (h : IdxSt k g) (hv : slotOf (k v) = some s) : IdxSt k (idxAddCore g p s v) := by
  unfold idxAddCore
  obtain ⟨hi, hs, hk⟩ := h
  subst hk
  have hkv : g.kind v = .symbol ↔ s = .syms := by
    rw [← idx_slotOf_syms, hv]; exact ⟨fun h => Option.some.inj h, fun h => h ▸ rfl⟩
  by_cases hsy : s = .syms
  · -- a symbol enters `syms` and the two indexes
    subst hsy
    have hkv := hkv.2 rfl
    rw [if_pos (.inr (.inl rfl))]
    have hkids : ∀ m y, y ∈ (kidsInsert (symIndexAdd (setPar g v (some p)) p v) p .syms v).kids m .syms ↔
        (y ∈ g.kids m .syms ∨ (m = p ∧ y = v)) := by
      intro m y
      rw [kidsInsert_kids, idx_symIndexAdd_kids]
      exact (idx_mem_insertAt (I := fun m s => g.kids m s) (k0 := Slot.syms)).trans (by simp)
    refine ⟨⟨?_, ?_, ?_, ?_⟩, ⟨?_, ?_⟩, by rw [kidsInsert_kind, idx_symIndexAdd_kind]; rfl⟩
    · intro m nm y
      rw [hkids]
      show y ∈ (symIndexAdd (setPar g v (some p)) p v).nameIdx m nm ↔
        _ ∧ (symIndexAdd (setPar g v (some p)) p v).name y = nm
      rw [idx_symIndexAdd_nameIdx (setPar g v (some p)), idx_symIndexAdd_name]
      have h1 := hi.name_iff m nm y
      have : (setPar g v (some p)).kind v = .symbol := hkv
      show (y ∈ g.nameIdx m nm ∨ (_ ∧ m = p ∧ nm = g.name v ∧ y = v)) ↔ _ ∧ g.name y = nm
      clear hi hs hkids
      grind
    · intro m b y
      rw [hkids]
      show y ∈ (symIndexAdd (setPar g v (some p)) p v).refIdx m b ↔
        _ ∧ (symIndexAdd (setPar g v (some p)) p v).payload y = .block b
      rw [idx_symIndexAdd_refIdx (setPar g v (some p)), idx_symIndexAdd_payload]
      have h1 := hi.ref_iff m b y
      have : (setPar g v (some p)).kind v = .symbol := hkv
      show (y ∈ g.refIdx m b ∨ (_ ∧ m = p ∧ g.payload v = .block b ∧ y = v)) ↔ _ ∧ g.payload y = .block b
      clear hi hs hkids
      grind
    · exact fun m nm => idx_symIndexAdd_nameIdx_nodup (setPar g v (some p)) _ _ _ _ (hi.name_nodup m nm)
    · exact fun m b => idx_symIndexAdd_refIdx_nodup (setPar g v (some p)) _ _ _ _ (hi.ref_nodup m b)
    · intro c m s' hs' hc
      rw [kidsInsert_kids, idx_symIndexAdd_kids] at hc
      show (symIndexAdd (setPar g v (some p)) p v).kind c = .symbol ↔ _
      rw [idx_symIndexAdd_kind]
      split at hc
      · rename_i hh
        obtain ⟨rfl, rfl⟩ := hh
        rcases (mem_setInsertNat _ _ _).1 hc with hc | rfl
        · exact hs.kind_ok c m .syms hs' hc
        · exact ⟨fun _ => rfl, fun _ => hkv⟩
      · exact hs.kind_ok c m s' hs' hc
    · intro m
      rw [kidsInsert_kids, idx_symIndexAdd_kids]
      exact idx_nodup_insertAt (I := fun m s => g.kids m s) (k0 := Slot.syms) (hs.syms_nodup m)
  · -- no symbol is involved: the hook does nothing
    have hnv : g.kind v ≠ .symbol := fun e => hsy (hkv.1 e)
    have hX : (if s = .secs ∨ s = .syms ∨ s = .proxies then symIndexAdd (setPar g v (some p)) p v
        else setPar g v (some p)) = setPar g v (some p) := by
      split
      · exact symIndexAdd_other (g := setPar g v (some p)) hnv p
      · rfl
    rw [hX, kidsInsert_eq_kidsSet]
    refine idx_st_kidsSet_ne_syms (idx_st_setPar ⟨hi, hs, rfl⟩ v (some p)) p hsy _ fun hsp c hc => ?_
    rcases (mem_setInsertNat _ _ _).1 hc with hc | rfl
    · exact fun e => hsy ((hs.kind_ok c p s (hsp.elim .inl fun h2 => .inr (.inr h2)) hc).1 e)
    · exact hnv

theorem idx_st_setAdd {k : Nat → Kind} {g g' : G} {p : Nat} {s : Slot} {v : Nat}
    (h : IdxSt k g) (hv : slotOf (k v) = some s) (ha : setAdd g p s v = .ok g') : IdxSt k g' := by
  obtain ⟨g1, h1, hoc⟩ := idx_setAdd_spec ha
  refine idx_st_oc hoc (idx_st_addCore ?_ hv)
  split at h1
  · exact idx_st_setDiscard h h1
  · injection h1 with h1; subst h1; exact h

theorem idx_st_blkUpdate {k : Nat → Kind} {g g' : G} {p : Nat} {vs : List Nat}
    (h : IdxSt k g) (hb : blkUpdate g p vs = .ok g') : IdxSt k g' := by
  unfold blkUpdate at hb
  dsimp only at hb
  split at hb
  · cases hb
  · rename_i g1 h1
    injection hb with hb; subst hb
    refine List.foldlRecOn (motive := IdxSt k) _ _ ?_
      fun g hg x _ => idx_st_kidsSet_other hg p (Or.inr (Or.inr rfl)) _
    refine foldE_inv (IdxSt k) _ ?_ g g1 h h1
    intro g0 x g0' _ h0 hx
    split at hx
    · cases hx
    · rename_i g2 h2
      injection hx with hx; subst hx
      have h2' : IdxSt k g2 := by
        split at h2
        · exact idx_st_setDiscard h0 h2
        · injection h2 with h2; subst h2; exact h0
      split
      · exact idx_st_oc (idx_oc_cacheAdd _ _ _) (idx_st_setPar h2' _ _)
      · exact idx_st_setPar h2' _ _

/-! ### the module list -/

theorem idx_st_modHookRemove {k : Nat → Kind} {g g' : G} {i v : Nat}
    (h : IdxSt k g) (hr : modHookRemove g i v = .ok g') : IdxSt k g' :=
  idx_st_oc (idx_oc_cacheRemove hr) (idx_st_setPar h _ _)

theorem idx_st_modListRemove {k : Nat → Kind} {g g' : G} {i v : Nat}
    (h : IdxSt k g) (hr : modListRemove g i v = .ok g') : IdxSt k g' := by
  unfold modListRemove at hr
  split at hr
  · split at hr
    · rename_i g1 h1
      injection hr with hr; subst hr
      exact idx_st_kidsSet_other (idx_st_modHookRemove h h1) _ (Or.inl rfl) _
    · cases hr
  · cases hr

theorem idx_st_modHookAdd {k : Nat → Kind} {g g' : G} {i v : Nat}
    (h : IdxSt k g) (hr : modHookAdd g i v = .ok g') : IdxSt k g' := by
  unfold modHookAdd at hr
  split at hr
  · cases hr
  · rename_i g1 h1
    injection hr with hr; subst hr
    refine idx_st_oc (idx_oc_cacheAdd _ _ _) (idx_st_setPar ?_ _ _)
    split at h1
    · exact idx_st_modListRemove h h1
    · injection h1 with h1; subst h1; exact h

theorem idx_st_modInsert {k : Nat → Kind} {g g' : G} {i : Nat} {j : Int} {v : Nat}
    (h : IdxSt k g) (hr : modInsert g i j v = .ok g') : IdxSt k g' := by
  unfold modInsert at hr
  split at hr
  · rename_i g1 h1
    injection hr with hr; subst hr
    exact idx_st_kidsSet_other (idx_st_modHookAdd h h1) _ (Or.inl rfl) _
  · cases hr

theorem idx_st_modDelItem {k : Nat → Kind} {g g' : G} {i : Nat} {j : Int}
    (h : IdxSt k g) (hr : modDelItem g i j = .ok g') : IdxSt k g' := by
  unfold modDelItem at hr
  split at hr
  · cases hr
  · split at hr
    · cases hr
    · split at hr
      · rename_i g1 h1
        injection hr with hr; subst hr
        exact idx_st_kidsSet_other (idx_st_modHookRemove h h1) _ (Or.inl rfl) _
      · cases hr

theorem idx_st_modSetItem {k : Nat → Kind} {g g' : G} {i : Nat} {j : Int} {v : Nat}
    (h : IdxSt k g) (hr : modSetItem g i j v = .ok g') : IdxSt k g' := by
  unfold modSetItem at hr
  split at hr
  · cases hr
  · split at hr
    · cases hr
    · split at hr
      · cases hr
      · split at hr
        · cases hr
        · rename_i g1 h1
          split at hr
          · cases hr
          · rename_i g2 h2
            injection hr with hr; subst hr
            exact idx_st_kidsSet_other (idx_st_modHookAdd (idx_st_modHookRemove h h1) h2) _ (Or.inl rfl) _

theorem primRule_idx {k : Nat → Kind} {ok : Nat → Slot → Nat → Prop} (T : Nat → Prop)
    (hok : ∀ p s v, ok p s v → slotOf (k v) = some s) : PrimRule ok T (IdxSt k) (fun _ => True) where
  discard := fun _ h => .of_success fun _ e => idx_st_setDiscard h e
  add := fun ho _ h => .of_success fun _ e => idx_st_setAdd h (hok _ _ _ ho) e
  blk := fun _ h => .of_success fun _ e => idx_st_blkUpdate h e
  listRemove := fun _ _ h => .of_success fun _ e => idx_st_modListRemove h e
  insert := fun _ _ h => .of_success fun _ e => idx_st_modInsert h e
  delItem := fun _ _ _ h => .of_success fun _ e => idx_st_modDelItem h e
  setItem := fun _ _ _ _ _ _ h => .of_success fun _ e => idx_st_modSetItem h e

theorem idx_st_setParent {k : Nat → Kind} {g g' : G} {c : Nat} {p : Option Nat}
    (h : IdxSt k g) (hr : setParent g c p = .ok g') : IdxSt k g' :=
  ((primRule_idx (ok := fun _ s v => slotOf (k v) = some s) (fun _ => True) fun _ _ _ ho => ho).setParent trivial
    (fun _ _ _ hslot => h.2.2 ▸ hslot) h).of_ok hr

/-! ### `setName`, `setPayload` -/

theorem idx_setName_none {g : G} {v : Nat} (nm : Nat) (hp : g.par v = none) :
    setName g v nm = { g with name := fun x => if x = v then nm else g.name x } := by
  simp only [setName, hp]

theorem idx_setName_some {g : G} {v m0 : Nat} (nm : Nat) (hp : g.par v = some m0) :
    setName g v nm =
      symIndexAdd { symIndexDiscard g m0 v with name := fun x => if x = v then nm else g.name x } m0 v := by
  simp only [setName, hp, idx_symIndexDiscard_par, idx_symIndexDiscard_name]

theorem idx_setPayload_none {g : G} {v : Nat} (pl : Payload) (hp : g.par v = none) :
    setPayload g v pl = { g with payload := fun x => if x = v then pl else g.payload x } := by
  simp only [setPayload, hp]

theorem idx_setPayload_some {g : G} {v m0 : Nat} (pl : Payload) (hp : g.par v = some m0) :
    setPayload g v pl =
      symIndexAdd { symIndexDiscard g m0 v with payload := fun x => if x = v then pl else g.payload x } m0 v := by
  simp only [setPayload, hp, idx_symIndexDiscard_par, idx_symIndexDiscard_payload]

theorem idx_mem_syms_of_forest {g : G} (hf : ForestInv g) (v m : Nat) :
    v ∈ g.kids m .syms ↔ (g.par v = some m ∧ g.kind v = .symbol) := by
  rw [hf.mem_iff, idx_slotOf_syms]

theorem idx_reindex_none {g : G} (hf : ForestInv g) (hi : IndexInv g) {v : Nat} (hp : g.par v = none)
    (nmf : Nat → Nat) (plf : Nat → Payload) (hnm : ∀ x, x ≠ v → nmf x = g.name x)
    (hpl : ∀ x, x ≠ v → plf x = g.payload x) : IndexInv { g with name := nmf, payload := plf } := by
  have h2 := fun m => idx_mem_syms_of_forest hf v m
  simp only [hp, reduceCtorEq, false_and, iff_false] at h2
  refine ⟨?_, ?_, hi.name_nodup, hi.ref_nodup⟩
  · intro m k y
    show y ∈ g.nameIdx m k ↔ (y ∈ g.kids m .syms ∧ nmf y = k)
    have h1 := hi.name_iff m k y
    have h3 := hnm y
    have h2 := h2 m
    clear hf hi hnm hpl
    grind
  · intro m b y
    show y ∈ g.refIdx m b ↔ (y ∈ g.kids m .syms ∧ plf y = .block b)
    have h1 := hi.ref_iff m b y
    have h3 := hpl y
    have h2 := h2 m
    clear hf hi hnm hpl
    grind

/-- the `_IndexedAttribute` setter on a symbol of module `m0`: out of the indexes, new name and
payload, back in -/
theorem idx_reindex_some {g : G} (hf : ForestInv g) (hi : IndexInv g) {v m0 : Nat} (hp : g.par v = some m0)
    (nmf : Nat → Nat) (plf : Nat → Payload) (hnm : ∀ x, x ≠ v → nmf x = g.name x)
    (hpl : ∀ x, x ≠ v → plf x = g.payload x) :
    IndexInv (symIndexAdd { symIndexDiscard g m0 v with name := nmf, payload := plf } m0 v) := by
  have h2 := fun m => idx_mem_syms_of_forest hf v m
  rw [hp] at h2
  refine ⟨?_, ?_, ?_, ?_⟩
  · intro m k y
    rw [idx_symIndexAdd_nameIdx, idx_symIndexAdd_kids, idx_symIndexAdd_name]
    show (y ∈ (symIndexDiscard g m0 v).nameIdx m k ∨
        ((symIndexDiscard g m0 v).kind v = .symbol ∧ m = m0 ∧ k = nmf v ∧ y = v)) ↔
      (y ∈ (symIndexDiscard g m0 v).kids m .syms ∧ nmf y = k)
    rw [idx_symIndexDiscard_nameIdx _ _ _ _ _ _ (hi.name_nodup m k), idx_symIndexDiscard_kind,
      idx_symIndexDiscard_kids]
    have h1 := hi.name_iff m k y
    have h3 := hnm y
    have h2 := h2 m
    clear hf hi hnm hpl
    grind
  · intro m b y
    rw [idx_symIndexAdd_refIdx, idx_symIndexAdd_kids, idx_symIndexAdd_payload]
    show (y ∈ (symIndexDiscard g m0 v).refIdx m b ∨
        ((symIndexDiscard g m0 v).kind v = .symbol ∧ m = m0 ∧ plf v = .block b ∧ y = v)) ↔
      (y ∈ (symIndexDiscard g m0 v).kids m .syms ∧ plf y = .block b)
    rw [idx_symIndexDiscard_refIdx _ _ _ _ _ _ (hi.ref_nodup m b), idx_symIndexDiscard_kind,
      idx_symIndexDiscard_kids]
    have h1 := hi.ref_iff m b y
    have h3 := hpl y
    have h2 := h2 m
    clear hf hi hnm hpl
    grind
  · intro m k
    exact idx_symIndexAdd_nameIdx_nodup _ _ _ _ _
      (idx_symIndexDiscard_nameIdx_nodup g _ _ _ _ (hi.name_nodup m k))
  · intro m b
    exact idx_symIndexAdd_refIdx_nodup _ _ _ _ _
      (idx_symIndexDiscard_refIdx_nodup g _ _ _ _ (hi.ref_nodup m b))

theorem idx_setName {g : G} (hf : ForestInv g) (hi : IndexInv g) (v nm : Nat) :
    IndexInv (setName g v nm) := by
  cases hp : g.par v with
  | none =>
    rw [idx_setName_none nm hp]
    exact idx_reindex_none hf hi hp _ g.payload (fun _ hx => if_neg hx) (fun _ _ => rfl)
  | some m0 =>
    rw [idx_setName_some nm hp]
    exact idx_reindex_some hf hi hp _ (symIndexDiscard g m0 v).payload (fun _ hx => if_neg hx)
      (fun _ _ => by rw [idx_symIndexDiscard_payload])

theorem idx_setPayload {g : G} (hf : ForestInv g) (hi : IndexInv g) (v : Nat) (pl : Payload) :
    IndexInv (setPayload g v pl) := by
  cases hp : g.par v with
  | none =>
    rw [idx_setPayload_none pl hp]
    exact idx_reindex_none hf hi hp g.name _ (fun _ _ => rfl) (fun _ hx => if_neg hx)
  | some m0 =>
    rw [idx_setPayload_some pl hp]
    exact idx_reindex_some hf hi hp (symIndexDiscard g m0 v).name _
      (fun _ _ => by rw [idx_symIndexDiscard_name]) (fun _ hx => if_neg hx)

/-! ### allocation (needs `ForestInv` of the pre-state: the fresh id is linked nowhere) -/

theorem idx_forest_lt {g : G} (hf : ForestInv g) {c p : Nat} {s : Slot} (h : c ∈ g.kids p s) :
    c < g.n ∧ p < g.n :=
  hf.alloc c p (hf.par_of_mem h)

theorem idx_st_alloc {g : G} (hf : ForestInv g) (hi : IndexInv g) (k : Kind) (u : Nat)
    (nmf : Nat → Nat) (plf : Nat → Payload)
    (hnm : ∀ x, x ≠ g.n → nmf x = g.name x) (hpl : ∀ x, x ≠ g.n → plf x = g.payload x) :
    IdxSt (alloc g k u).1.kind { (alloc g k u).1 with name := nmf, payload := plf } := by
  have hkids : ∀ m s y, y ∈ (alloc g k u).1.kids m s ↔ y ∈ g.kids m s := by
    intro m s y
    show y ∈ (if m = g.n then [] else g.kids m s) ↔ _
    split
    · rename_i h; subst h
      simp only [List.not_mem_nil, false_iff]
      intro hy; exact absurd (idx_forest_lt hf hy).2 (Nat.lt_irrefl _)
    · rfl
  have hside := idx_side_of_forest hf
  refine ⟨⟨?_, ?_, hi.name_nodup, hi.ref_nodup⟩, ⟨?_, ?_⟩, rfl⟩
  · intro m nm y
    show y ∈ g.nameIdx m nm ↔ (y ∈ (alloc g k u).1.kids m .syms ∧ nmf y = nm)
    rw [hkids, hi.name_iff]
    exact and_congr_right fun h1 => by rw [hnm y (Nat.ne_of_lt (idx_forest_lt hf h1).1)]
  · intro m b y
    show y ∈ g.refIdx m b ↔ (y ∈ (alloc g k u).1.kids m .syms ∧ plf y = .block b)
    rw [hkids, hi.ref_iff]
    exact and_congr_right fun h1 => by rw [hpl y (Nat.ne_of_lt (idx_forest_lt hf h1).1)]
  · intro c m s hs hc
    have hc' : c ∈ g.kids m s := (hkids m s c).1 hc
    show (if c = g.n then k else g.kind c) = .symbol ↔ _
    rw [if_neg (Nat.ne_of_lt (idx_forest_lt hf hc').1)]
    exact hside.kind_ok c m s hs hc'
  · intro m
    show (if m = g.n then [] else g.kids m .syms).Nodup
    split
    · exact List.nodup_nil
    · exact hside.syms_nodup m

theorem idx_st_alloc_plain {g : G} (hf : ForestInv g) (hi : IndexInv g) (k : Kind) (u : Nat) :
    IdxSt (alloc g k u).1.kind (alloc g k u).1 :=
  idx_st_alloc hf hi k u g.name g.payload (fun _ _ => rfl) (fun _ _ => rfl)

theorem idx_oc_mkIR (g : G) (u : Nat) : IdxOC (alloc g .ir u).1 (mkIR g u) := ⟨_, rfl⟩

theorem idx_step {g g' : G} {op : Op} (hf : ForestInv g) (hi : IndexInv g) (hop : OpOK g op)
    (hs : step g op = .ok g') : IndexInv g' := by
  rcases op.plain_or with hk | ⟨u, rfl⟩ | ⟨k, u, kids, parent, rfl⟩ | ⟨u, nm, pl, parent, rfl⟩ | ⟨i, rfl⟩ |
    ⟨v, nm, rfl⟩ | ⟨v, pl, rfl⟩
  · exact ((step_rule (primRule_idx _ fun p s v ho => (ho hop).slot) hk ⟨hi, idx_side_of_forest hf, rfl⟩).of_ok hs).1
  · cases hs
    exact (idx_st_oc (idx_oc_mkIR g u) (idx_st_alloc_plain hf hi .ir u)).1
  · exact ((step_mk_rule (primRule_idx _ fun p s v ho => (ho hop).slot) (fun _ _ => True) trivial
      (fun _ _ _ _ _ _ _ _ => trivial) (idx_st_alloc_plain hf hi k u)).of_ok hs).1.1
  · rw [step_mkSym_eq] at hs
    have hg2 := idx_st_alloc hf hi .symbol u (fun x => if x = g.n then nm else g.name x)
      (fun x => if x = g.n then pl else g.payload x) (fun x hx => if_neg hx) (fun x hx => if_neg hx)
    split at hs
    · exact (idx_st_setParent hg2 hs).1
    · cases hs; exact hg2.1
  · cases hs
    exact (idx_st_kidsSet_other ⟨hi, idx_side_of_forest hf, rfl⟩ i (.inl rfl) _).1
  · cases hs; exact idx_setName hf hi v nm
  · cases hs; exact idx_setPayload hf hi v pl

end Gtirb.Forest
