import GtirbModel.CodecTyping
import GtirbProofs.Lemmas.ListLemmas
/-! Helper lemmas for C07 (AuxData codec round trip) and C08 (wire format clauses). -/
namespace Gtirb.Codec

theorem leBytes_length (w n : Nat) : (leBytes w n).length = w := by
  induction w generalizing n with
  | zero => rfl
  | succ w ih => simp [leBytes, ih]

theorem leNat_leBytes (w n : Nat) : leNat (leBytes w n) = n % 256 ^ w := by
  induction w generalizing n with
  | zero => simp [leBytes, leNat, Nat.mod_one]
  | succ w ih =>
    simp only [leBytes, leNat, ih]
    have : (UInt8.ofNat (n % 256)).toNat = n % 256 := by
      rw [UInt8.toNat_ofNat']
      omega
    rw [this, Nat.pow_succ, Nat.mul_comm (256 ^ w), Nat.mod_mul]

theorem leNat_leBytes_of_lt (w n : Nat) (h : n < 256 ^ w) : leNat (leBytes w n) = n := by
  rw [leNat_leBytes, Nat.mod_eq_of_lt h]

theorem leNat_u64 {n : Nat} (h : n < 2 ^ 64) : leNat (u64 n) = n :=
  leNat_leBytes_of_lt 8 n (by simpa using h)

theorem splitAt?_append {k : Nat} {a rest : Bytes} (h : a.length = k) :
    splitAt? k (a ++ rest) = some (a, rest) := by
  subst h
  simp [splitAt?]

theorem splitAt?_leBytes (w n : Nat) (rest : Bytes) :
    splitAt? w (leBytes w n ++ rest) = some (leBytes w n, rest) :=
  splitAt?_append (leBytes_length w n)

theorem splitAt?_u64 (n : Nat) (rest : Bytes) : splitAt? 8 (u64 n ++ rest) = some (u64 n, rest) :=
  splitAt?_leBytes 8 n rest

theorem encodeInt_eq_some {s : Bool} {w : Nat} {n : Int} {bs : Bytes} :
    encodeInt s w n = some bs ↔
      intInRange s w n = true ∧ bs = leBytes w (n % (256 ^ w : Int)).toNat := by
  unfold encodeInt
  split <;> simp [*, eq_comm]

theorem pow256_cast (w : Nat) : ((256 : Int) ^ w) = ((256 ^ w : Nat) : Int) := by simp

theorem toNat_emod_natCast {m M : Nat} (h : m < M) : ((m : Int) % (M : Int)).toNat = m := by
  rw [← Int.natCast_emod, Int.toNat_natCast, Nat.mod_eq_of_lt h]

theorem toNat_emod_neg {m M : Nat} (hm : 0 < m) (h : m ≤ M) :
    (-(m : Int) % (M : Int)).toNat = M - m := by
  rw [← Int.add_mul_emod_self_left _ (M : Int) 1, Int.mul_one, Int.emod_eq_of_lt (by omega) (by omega)]
  omega

/-- The modulus need not be even for this direction: `m ≥ 0` is written as `m`, `-m` as `M - m`,
and the sign test `M / 2 ≤ x` tells them apart. -/
theorem int_roundtrip (s : Bool) (w : Nat) (n : Int) (h : intInRange s w n = true) :
    decodeIntBytes s w (leBytes w (n % (256 ^ w : Int)).toNat) = n := by
  simp only [intInRange, decodeIntBytes, leNat_leBytes, pow256_cast] at h ⊢
  generalize 256 ^ w = M at h ⊢
  by_cases hn : 0 ≤ n
  · obtain ⟨m, rfl⟩ : ∃ m : Nat, n = m := ⟨n.toNat, by omega⟩
    have hm : m < M := by cases s <;> simp at h <;> omega
    rw [toNat_emod_natCast hm, Nat.mod_eq_of_lt hm]
    cases s <;> simp at h ⊢ <;> omega
  · obtain ⟨m, rfl, hm0⟩ : ∃ m : Nat, n = -(m : Int) ∧ 0 < m := ⟨n.natAbs, by omega, by omega⟩
    have hm : m ≤ M := by cases s <;> simp at h <;> omega
    rw [toNat_emod_neg hm0 hm, Nat.mod_eq_of_lt (by omega)]
    cases s <;> simp at h ⊢ <;> omega

theorem byteArray_toList_loop (bs : ByteArray) (i : Nat) (r : List UInt8) :
    ByteArray.toList.loop bs i r = r.reverse ++ bs.data.toList.drop i := by
  fun_induction ByteArray.toList.loop bs i r with
  | case1 i r h ih =>
    rw [ih]
    have h' : i < bs.data.toList.length := h
    have h'' : i < bs.data.size := h
    rw [List.drop_eq_getElem_cons h']
    simp [ByteArray.get!, getElem!_pos bs.data i h'']
  | case2 i r h =>
    have h' : bs.data.toList.length ≤ i  := Nat.le_of_not_lt h
    rw [List.drop_eq_nil_of_le h']
    simp

theorem byteArray_toList (bs : ByteArray) : bs.toList = bs.data.toList := by
  simp [ByteArray.toList, byteArray_toList_loop]

theorem string_utf8_roundtrip (s : String) :
    String.fromUTF8? (ByteArray.mk s.toUTF8.toList.toArray) = some s := by
  rw [byteArray_toList, Array.toArray_toList]
  exact String.fromUTF8?_toUTF8 s

theorem floatEq_symm (e m a b : Nat) : floatEq e m a b = floatEq e m b a := by
  simp only [floatEq]
  rw [Bool.eq_iff_iff]
  simp only [Bool.and_eq_true, Bool.or_eq_true, beq_iff_eq]
  constructor <;> (intro h; obtain ⟨⟨h1, h2⟩, h3⟩ := h; refine ⟨⟨h2, h1⟩, ?_⟩; rcases h3 with h3 | h3
                   · exact Or.inl h3.symm
                   · exact Or.inr ⟨h3.2, h3.1⟩)

/-- One direction is enough, and along the equations of `Val.beq` its catch-all case is vacuous. -/
theorem Val.beq_imp : (∀ a b, Val.beq a b = true → Val.beq b a = true) ∧
    ∀ xs ys, Val.beqList xs ys = true → Val.beqList ys xs = true := by
  apply Val.beq.mutual_induct
  case case14 =>
    intros
    rename_i h
    simp [Val.beq, *] at h
  case case17 =>
    intros
    rename_i h
    simp [Val.beqList, *] at h
  all_goals simp +contextual only [Val.beq, Val.beqList, floatEq_symm, beq_iff_eq,
    Bool.and_eq_true, and_self, implies_true]

theorem Val.beq_symm (a b : Val) : Val.beq a b = Val.beq b a :=
  Bool.eq_iff_iff.2 ⟨Val.beq_imp.1 a b, Val.beq_imp.1 b a⟩

theorem Val.beqList_symm : ∀ xs ys : List Val, Val.beqList xs ys = Val.beqList ys xs :=
  fun xs ys => Bool.eq_iff_iff.2 ⟨Val.beq_imp.2 xs ys, Val.beq_imp.2 ys xs⟩

theorem memVal_append (x : Val) (a b : List Val) :
    memVal x (a ++ b) = (memVal x a || memVal x b) := by
  induction a with
  | nil => simp [memVal]
  | cons y a ih => simp [memVal, ih, Bool.or_assoc]

theorem memVal_of_pairwiseDistinct_append (acc : List Val) (x : Val) (rest : List Val)
    (h : pairwiseDistinct (acc ++ x :: rest) = true) : memVal x acc = false := by
  induction acc with
  | nil => simp [memVal]
  | cons a acc ih =>
    simp only [List.cons_append, pairwiseDistinct, Bool.and_eq_true, Bool.not_eq_true',
      memVal_append, memVal, Bool.or_eq_false_iff] at h
    simp only [memVal, Bool.or_eq_false_iff]
    exact ⟨by rw [Val.beq_symm]; exact h.1.2.1, ih h.2⟩

theorem foldl_setInsert (acc xs : List Val) (h : pairwiseDistinct (acc ++ xs) = true) :
    xs.foldl setInsert acc = acc ++ xs := by
  induction xs generalizing acc with
  | nil => simp
  | cons x xs ih =>
    have hm := memVal_of_pairwiseDistinct_append acc x xs h
    simp only [List.foldl_cons, setInsert, hm]
    rw [ih]
    · simp
    · simpa using h

theorem dedup_of_pairwiseDistinct (xs : List Val) (h : pairwiseDistinct xs = true) :
    dedup xs = xs := by
  simpa [dedup] using foldl_setInsert [] xs (by simpa using h)

theorem mapInsert_fresh (ks vs : List Val) (k v : Val) (hl : ks.length = vs.length)
    (hm : memVal k ks = false) : mapInsert ks vs k v = (ks ++ [k], vs ++ [v]) := by
  fun_induction mapInsert ks vs k v
  case case1 vs k v => cases vs <;> simp_all
  all_goals simp_all [memVal]

theorem foldl_mapInsert (aks avs ks vs : List Val) (hla : aks.length = avs.length)
    (hl : ks.length = vs.length) (h : pairwiseDistinct (aks ++ ks) = true) :
    (ks.zip vs).foldl (fun acc kv => mapInsert acc.1 acc.2 kv.1 kv.2) (aks, avs)
      = (aks ++ ks, avs ++ vs) := by
  induction ks generalizing aks avs vs with
  | nil =>
    cases vs with
    | nil => simp
    | cons _ _ => simp at hl
  | cons k ks ih =>
    cases vs with
    | nil => simp at hl
    | cons v vs =>
      have hm := memVal_of_pairwiseDistinct_append aks k ks h
      simp only [List.length_cons, Nat.add_right_cancel_iff] at hl
      simp only [List.zip_cons_cons, List.foldl_cons, mapInsert_fresh aks avs k v hla hm]
      rw [ih (aks ++ [k]) (avs ++ [v]) vs (by simp [hla]) hl (by simpa using h)]
      simp

theorem mapBuild_of_pairwiseDistinct (ks vs : List Val) (hl : ks.length = vs.length)
    (h : pairwiseDistinct ks = true) : mapBuild ks vs = (ks, vs) := by
  simpa [mapBuild] using foldl_mapInsert [] [] ks vs rfl hl (by simpa using h)

/-- `f` writes `x`, and `g` reads `r x` back from what was written, whatever follows it; `r` is
what the decoder makes of a value: `resolve lookup nu` in `resolution` (`Lemmas/Resolution.lean`) -/
def RT' (r : Val → Val) (f : Val → Option Bytes) (g : Bytes → Res (Val × Bytes)) (x : Val) : Prop :=
  ∃ bs, f x = some bs ∧ ∀ rest, g (bs ++ rest) = .ok (r x, rest)

/-- `RT' id` -/
def RT (f : Val → Option Bytes) (g : Bytes → Res (Val × Bytes)) (x : Val) : Prop :=
  ∃ bs, f x = some bs ∧ ∀ rest, g (bs ++ rest) = .ok (x, rest)

theorem many_roundtrip {r : Val → Val} {f : Val → Option Bytes} {g : Bytes → Res (Val × Bytes)}
    {p : Val → Bool}
    (hfg : ∀ x, p x = true → RT' r f g x) (xs : List Val) (h : allMany p xs = true) :
    ∃ bs, encodeMany f xs = some bs ∧
      ∀ rest, decodeMany g xs.length (bs ++ rest) = .ok (xs.map r, rest) := by
  induction xs with
  | nil => exact ⟨[], rfl, fun rest => rfl⟩
  | cons x xs ih =>
    simp only [allMany, Bool.and_eq_true] at h
    obtain ⟨a, ha, hda⟩ := hfg x h.1
    obtain ⟨b, hb, hdb⟩ := ih h.2
    refine ⟨a ++ b, by simp [encodeMany, ha, hb], fun rest => ?_⟩
    simp [decodeMany, List.append_assoc, hda, hdb]

theorem manyPairs_roundtrip {r r' : Val → Val} {f f' : Val → Option Bytes}
    {g g' : Bytes → Res (Val × Bytes)} {p p' : Val → Bool}
    (hfg : ∀ x, p x = true → RT' r f g x) (hfg' : ∀ x, p' x = true → RT' r' f' g' x)
    (ks vs : List Val) (hl : ks.length = vs.length)
    (hk : allMany p ks = true) (hv : allMany p' vs = true) :
    ∃ bs, encodeManyPairs f f' ks vs = some bs ∧
      ∀ rest, decodeManyPairs g g' ks.length (bs ++ rest) = .ok (ks.map r, vs.map r', rest) := by
  induction ks generalizing vs with
  | nil =>
    cases vs with
    | nil => exact ⟨[], rfl, fun rest => rfl⟩
    | cons _ _ => simp at hl
  | cons k ks ih =>
    cases vs with
    | nil => simp at hl
    | cons v vs =>
      simp only [allMany, Bool.and_eq_true] at hk hv
      simp only [List.length_cons, Nat.add_right_cancel_iff] at hl
      obtain ⟨a, ha, hda⟩ := hfg k hk.1
      obtain ⟨b, hb, hdb⟩ := hfg' v hv.1
      obtain ⟨c, hc, hdc⟩ := ih vs hl hk.2 hv.2
      refine ⟨a ++ b ++ c, by simp [encodeManyPairs, ha, hb, hc], fun rest => ?_⟩
      simp [decodeManyPairs, List.append_assoc, hda, hdb, hdc]

theorem encodeElem_eq_some {nu : Nat → Bytes} {e : Val} {u : Bytes} :
    encodeElem nu e = some u ↔
      (e = .uuid u ∨ ∃ id, e = .node id ∧ u = nu id) ∧ u.length = 16 := by
  fun_cases encodeElem nu e
  case case1 hl => simp +contextual [hl, eq_comm]
  case case2 hl =>
    simp
    rintro rfl
    exact hl
  case case3 id _ hl => simp +contextual +zetaDelta [show (nu id).length = 16 from hl, eq_comm]
  case case4 id _ hl =>
    simp
    rintro rfl
    exact hl
  case case5 h1 h2 =>
    simp
    rintro (rfl | ⟨id, rfl, _⟩) <;> simp_all

theorem encode_offset_eq_some {nu : Nat → Bytes} {e : Val} {d : Nat} {bs : Bytes} :
    encode nu (.leaf .offset) (.offset e d) = some bs ↔
      ∃ u, encodeElem nu e = some u ∧ d < 2 ^ 64 ∧ bs = u ++ u64 d := by
  simp only [encode, encodeLeaf]
  cases encodeElem nu e with
  | none => simp
  | some u => by_cases hd : d < 2 ^ 64 <;> simp [hd, eq_comm]

theorem encodeLeaf_int (nu : Nat → Bytes) (l : Leaf) (n : Int) (hl : l.isInt = true) :
    encodeLeaf nu l (.int n) = encodeInt l.signed l.width n := by
  cases l <;> simp [Leaf.isInt] at hl <;> simp [encodeLeaf, Leaf.isInt]

theorem decodeLeaf_int (lookup : Bytes → Option Nat) (l : Leaf) (bs : Bytes) (hl : l.isInt = true) :
    decodeLeaf lookup l bs =
      match splitAt? l.width bs with
      | none => .short
      | some (x, rest) => .ok (.int (decodeIntBytes l.signed l.width x), rest) := by
  cases l <;> simp [Leaf.isInt] at hl <;> rfl

theorem Leaf.width_pos_of_isInt (l : Leaf) (hl : l.isInt = true) : 0 < l.width := by
  cases l <;> simp [Leaf.isInt] at hl <;> simp [Leaf.width]

theorem leafInt_roundtrip (lookup : Bytes → Option Nat) (nu : Nat → Bytes) (l : Leaf) (n : Int)
    (hl : l.isInt = true) (hr : intInRange l.signed l.width n = true) :
    RT (encodeLeaf nu l) (decodeLeaf lookup l) (.int n) := by
  refine ⟨leBytes l.width (n % (256 ^ l.width : Int)).toNat, ?_, fun rest => ?_⟩
  · simp [encodeLeaf_int nu l n hl, encodeInt, hr]
  · rw [decodeLeaf_int lookup l _ hl, splitAt?_leBytes]
    simp only
    rw [int_roundtrip _ _ _ hr]

/-- the cons step of `encodeMany` and `encodeTuple` -/
theorem append_eq_some {a b : Option Bytes} {out : Bytes} :
    (match a, b with
      | some x, some y => some (x ++ y)
      | _, _ => none) = some out ↔ ∃ x y, a = some x ∧ b = some y ∧ out = x ++ y := by
  cases a <;> cases b <;> simp [eq_comm]

theorem utf8_length_eq (s : String) : s.toUTF8.toList.length = s.utf8ByteSize := by
  rw [byteArray_toList, Array.length_toList]
  rfl

theorem encodeNth_eq (nu : Nat → Bytes) (ts : List Ty) (i : Nat) (v : Val) :
    encodeNth nu ts i v = match ts[i]? with
      | some t => encode nu t v
      | none => none := by
  induction ts generalizing i with
  | nil => simp [encodeNth]
  | cons t ts ih =>
    cases i with
    | zero => simp [encodeNth]
    | succ i => simp [encodeNth, ih]

/-- the last step of `encode` at `sequence`, `set`, `mapping`, `variant` -/
theorem counted_eq_some {b : Option Bytes} {n : Nat} {out : Bytes} :
    (match b with
      | some bs => if n < 2 ^ 64 then some (u64 n ++ bs) else none
      | none => none) = some out ↔ ∃ body, b = some body ∧ n < 2 ^ 64 ∧ out = u64 n ++ body := by
  cases b with
  | none => simp
  | some bs => by_cases hn : n < 2 ^ 64 <;> simp [hn, eq_comm]

theorem encode_seq_iff {nu : Nat → Bytes} {t : Ty} {xs : List Val} {bs : Bytes} :
    encode nu (.seq t) (.seq xs) = some bs ↔
      ∃ body, encodeMany (encode nu t) xs = some body ∧ xs.length < 2 ^ 64 ∧
        bs = u64 xs.length ++ body := by
  simp only [encode]
  exact counted_eq_some

theorem encode_set_iff {nu : Nat → Bytes} {t : Ty} {xs : List Val} {bs : Bytes} :
    encode nu (.set t) (.set xs) = some bs ↔
      ∃ body, encodeMany (encode nu t) xs = some body ∧ xs.length < 2 ^ 64 ∧
        bs = u64 xs.length ++ body := by
  simp only [encode]
  exact counted_eq_some

theorem encode_map_iff {nu : Nat → Bytes} {kt vt : Ty} {ks vs : List Val} {bs : Bytes} :
    encode nu (.map kt vt) (.map ks vs) = some bs ↔
      ∃ body, encodeManyPairs (encode nu kt) (encode nu vt) ks vs = some body ∧
        ks.length < 2 ^ 64 ∧ bs = u64 ks.length ++ body := by
  simp only [encode]
  exact counted_eq_some

theorem encode_variant_iff {nu : Nat → Bytes} {ts : List Ty} {i : Nat} {v : Val} {bs : Bytes} :
    encode nu (.variant ts) (.variant i v) = some bs ↔
      ∃ body, encodeNth nu ts i v = some body ∧ i < 2 ^ 64 ∧ bs = u64 i ++ body := by
  simp only [encode]
  exact counted_eq_some

theorem tyOfName_eq_some {s : String} {ty : Ty} :
    tyOfName s = some ty ↔ ∃ tr, TypeName.parseType s.toList = some tr ∧ tyOfTree tr = some ty := by
  unfold tyOfName
  cases TypeName.parseType s.toList <;> simp

/-! `Ty` has no decidable equality. `Ty.eqb` is a Boolean one, so that `tyOfName "literal" = some ty`
can be settled by evaluating tokenizer, parser and head table on the literal. -/

mutual
def Ty.eqb : Ty → Ty → Bool
  | .leaf a, .leaf b => a == b
  | .seq a, .seq b => Ty.eqb a b
  | .set a, .set b => Ty.eqb a b
  | .map a b, .map c d => Ty.eqb a c && Ty.eqb b d
  | .tuple as, .tuple bs => Ty.eqbList as bs
  | .variant as, .variant bs => Ty.eqbList as bs
  | .unknown n as, .unknown m bs => n == m && Ty.eqbList as bs
  | .badArity n as, .badArity m bs => n == m && Ty.eqbList as bs
  | _, _ => false
def Ty.eqbList : List Ty → List Ty → Bool
  | [], [] => true
  | a :: as, b :: bs => Ty.eqb a b && Ty.eqbList as bs
  | _, _ => false
end

theorem Ty.eq_of_eqb : (∀ a b, Ty.eqb a b = true → a = b) ∧
    ∀ as bs, Ty.eqbList as bs = true → as = bs := by
  have and {x y : Bool} (h : (x && y) = true) : x = true ∧ y = true := Bool.and_eq_true_iff.1 h
  apply Ty.eqb.mutual_induct
  case case1 => exact fun a b h => congrArg Ty.leaf (eq_of_beq h)
  case case2 => exact fun a b ih h => congrArg Ty.seq (ih h)
  case case3 => exact fun a b ih h => congrArg Ty.set (ih h)
  case case4 => exact fun a b c d ih ih' h => congr (congrArg Ty.map (ih (and h).1)) (ih' (and h).2)
  case case5 => exact fun as bs ih h => congrArg Ty.tuple (ih h)
  case case6 => exact fun as bs ih h => congrArg Ty.variant (ih h)
  case case7 =>
    exact fun n as m bs ih h => congr (congrArg Ty.unknown (eq_of_beq (and h).1)) (ih (and h).2)
  case case8 =>
    exact fun n as m bs ih h => congr (congrArg Ty.badArity (eq_of_beq (and h).1)) (ih (and h).2)
  case case9 =>
    intros
    rename_i h
    simp [Ty.eqb, *] at h
  case case10 => exact fun _ => rfl
  case case11 =>
    exact fun a as b bs ih ih' h => congr (congrArg List.cons (ih (and h).1)) (ih' (and h).2)
  case case12 =>
    intros
    rename_i h
    simp [Ty.eqbList, *] at h

theorem tyOfName_eq {s : String} {ty : Ty} (h : (tyOfName s).any (Ty.eqb · ty) = true) :
    tyOfName s = some ty := by
  cases ht : tyOfName s with
  | none => simp [ht] at h
  | some t =>
    rw [ht] at h
    rw [Ty.eq_of_eqb.1 t ty h]

end Gtirb.Codec
