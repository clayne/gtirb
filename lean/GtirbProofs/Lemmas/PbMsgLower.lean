import GtirbProofs.Lemmas.PbMsgLemmas
/-! Layer 2, the message tree up to Section: what `w<X>` writes is well-formed on the wire and
`parse<X>W` reads it back.

Every `w<X>_ok` of a schema message has the same steps: the conjuncts of the range hypothesis
`h`; `written` for the message's keys (`fno_ok i rfl`, `i` the message's position in
`writtenOrder`) and its list of values, which gives well-formedness `hw` and the reads `hg`; then
`simp` with the value lemmas of `PbMsgLemmas`. (The two map entries, with the literal keys 1 and
2, are by `simp` with `getAll_fld` / `wf_fld`.)

A writer with a `match` (a oneof, an optional sub-message) is split by cases first; a member
that is not written has the value list `[]`, and `m = fieldsFrom [] ks vs` is then by `simp`
(`acc ++ fld k []` is `acc` only up to `List.append_nil`, not by `rfl`). Where the reader tests
`if k = <first member>`, the second member's case gets `k ≠` from the unfolded `KeysOK`
(`eq_false_of_gt`). -/
namespace Gtirb.Pb
open Gtirb Gtirb.Msg

theorem wCodeBlock_ok (c : MCodeBlock) (h : wfWCodeBlock c = true) :
    (wCodeBlock c).wf = true ∧ parseCodeBlockW (wCodeBlock c) = some c := by
  simp only [wfWCodeBlock, Bool.and_eq_true] at h
  obtain ⟨hw, hg⟩ := written (fno_ok 0 rfl)
    [vBytes c.uuid, vUInt c.size, vUInt c.decodeMode] (wCodeBlock c) rfl
  dsimp only [List.map, Reads] at hg
  exact ⟨hw (by simp [u64OK_of_enumOK, h]), by simp [parseCodeBlockW, hg, h]⟩

theorem parseCodeBlockW_wCodeBlock (c : MCodeBlock) (h : wfWCodeBlock c = true) :
    parseCodeBlockW (wCodeBlock c) = some c :=
  (wCodeBlock_ok c h).2

theorem wDataBlock_ok (d : MDataBlock) (h : wfWDataBlock d = true) :
    (wDataBlock d).wf = true ∧ parseDataBlockW (wDataBlock d) = some d := by
  simp only [wfWDataBlock, Bool.and_eq_true] at h
  obtain ⟨hw, hg⟩ := written (fno_ok 1 rfl)
    [vBytes d.uuid, vUInt d.size] (wDataBlock d) rfl
  dsimp only [List.map, Reads] at hg
  exact ⟨hw (by simp [h]), by simp [parseDataBlockW, hg]⟩

theorem parseDataBlockW_wDataBlock (d : MDataBlock) (_h : wfWDataBlock d = true) :
    parseDataBlockW (wDataBlock d) = some d :=
  (wDataBlock_ok d _h).2

theorem wBlock_ok (b : MBlock) (h : wfWBlock b = true) :
    (wBlock b).wf = true ∧ parseBlockW (wBlock b) = some b := by
  have hk := fno_ok 2 rfl
  obtain ⟨off, _ | c | d⟩ := b <;> simp only [wfWBlock, Bool.and_eq_true] at h
  · obtain ⟨hw, hg⟩ := written hk [vUInt off, [], []] (wBlock ⟨off, none⟩) (by simp [wBlock, fieldsFrom, fld])
    dsimp only [List.map, Reads] at hg
    exact ⟨hw (by simp [h]), by simp [parseBlockW, hg, oneofRun_eq_none]⟩
  · obtain ⟨hw, hg⟩ := written hk [vUInt off, [.len (encodeW (wCodeBlock c))], []]
      (wBlock ⟨off, some (.code c)⟩) (by simp [wBlock, fieldsFrom, fld])
    dsimp only [List.map, Reads] at hg
    exact ⟨hw (by simp [h]), by
      simp [parseBlockW, hg, oneofRun_eq_single (k := fno "Block" "code"), wCodeBlock_ok, h]⟩
  · obtain ⟨hw, hg⟩ := written hk [vUInt off, [], [.len (encodeW (wDataBlock d))]]
      (wBlock ⟨off, some (.data d)⟩) (by simp [wBlock, fieldsFrom, fld])
    dsimp only [List.map, KeysOK, Below, Reads] at hk hg
    exact ⟨hw (by simp [h]), by
      simp [parseBlockW, hg, oneofRun_eq_single (k := fno "Block" "data"), wDataBlock_ok, h,
        eq_false_of_gt, hk]⟩

theorem parseBlockW_wBlock (b : MBlock) (h : wfWBlock b = true) :
    parseBlockW (wBlock b) = some b :=
  (wBlock_ok b h).2

theorem wSymAddrConst_wf (o : Int) (s : Bytes) (h : lenOK s = true) :
    (wSymAddrConst o s).wf = true :=
  (written (fno_ok 3 rfl) [vInt o, vBytes s] (wSymAddrConst o s) rfl).1 (by simp [h])

theorem parseSymAddrConstW_wSymAddrConst (o : Int) (s : Bytes) (h : i64OK o = true) :
    parseSymAddrConstW (wSymAddrConst o s) = some (.addrConst o s) := by
  have hg := (written (fno_ok 3 rfl) [vInt o, vBytes s] (wSymAddrConst o s) rfl).2
  dsimp only [List.map, Reads] at hg
  simp [parseSymAddrConstW, hg, h]

theorem wSymAddrConst_ok (o : Int) (s : Bytes) (ho : i64OK o = true) (hs : lenOK s = true) :
    (wSymAddrConst o s).wf = true ∧
      parseSymAddrConstW (wSymAddrConst o s) = some (.addrConst o s) :=
  ⟨wSymAddrConst_wf o s hs, parseSymAddrConstW_wSymAddrConst o s ho⟩

theorem wSymAddrAddr_wf (sc o : Int) (s1 s2 : Bytes) (h1 : lenOK s1 = true) (h2 : lenOK s2 = true) :
    (wSymAddrAddr sc o s1 s2).wf = true :=
  (written (fno_ok 4 rfl) [vInt sc, vInt o, vBytes s1, vBytes s2] (wSymAddrAddr sc o s1 s2) rfl).1
    (by simp [h1, h2])

theorem parseSymAddrAddrW_wSymAddrAddr (sc o : Int) (s1 s2 : Bytes) (hsc : i64OK sc = true)
    (ho : i64OK o = true) :
    parseSymAddrAddrW (wSymAddrAddr sc o s1 s2) = some (.addrAddr sc o s1 s2) := by
  have hg := (written (fno_ok 4 rfl) [vInt sc, vInt o, vBytes s1, vBytes s2]
    (wSymAddrAddr sc o s1 s2) rfl).2
  dsimp only [List.map, Reads] at hg
  simp [parseSymAddrAddrW, hg, hsc, ho]

theorem wSymAddrAddr_ok (sc o : Int) (s1 s2 : Bytes) (hsc : i64OK sc = true) (ho : i64OK o = true)
    (h1 : lenOK s1 = true) (h2 : lenOK s2 = true) :
    (wSymAddrAddr sc o s1 s2).wf = true ∧
      parseSymAddrAddrW (wSymAddrAddr sc o s1 s2) = some (.addrAddr sc o s1 s2) :=
  ⟨wSymAddrAddr_wf sc o s1 s2 h1 h2, parseSymAddrAddrW_wSymAddrAddr sc o s1 s2 hsc ho⟩

theorem wSymExpr_ok (e : MSymExpr) (h : wfWSymExpr e = true) :
    (wSymExpr e).wf = true ∧ parseSymExprW (wSymExpr e) = some e := by
  have hk := fno_ok 5 rfl
  obtain ⟨_ | ⟨o, s⟩ | ⟨sc, o, s1, s2⟩, flags⟩ := e <;>
    simp only [wfWSymExpr, wfWSymExprValue, wSymExprValue, Bool.and_eq_true] at h
  · obtain ⟨hw, hg⟩ := written hk [[], [], vPacked flags] (wSymExpr ⟨none, flags⟩)
      (by simp [wSymExpr, fieldsFrom, fld])
    dsimp only [List.map, Reads] at hg
    exact ⟨hw (by simp [h]), by simp [parseSymExprW, hg, oneofRun_eq_none, h]⟩
  · obtain ⟨hw, hg⟩ := written hk [[.len (encodeW (wSymAddrConst o s))], [], vPacked flags]
      (wSymExpr ⟨some (.addrConst o s), flags⟩) (by simp [wSymExpr, fieldsFrom, fld])
    dsimp only [List.map, Reads] at hg
    exact ⟨hw (by simp [h]), by
      simp [parseSymExprW, hg, oneofRun_eq_single (k := fno "SymbolicExpression" "addr_const"),
        wSymAddrConst_ok, h]⟩
  · obtain ⟨hw, hg⟩ := written hk [[], [.len (encodeW (wSymAddrAddr sc o s1 s2))], vPacked flags]
      (wSymExpr ⟨some (.addrAddr sc o s1 s2), flags⟩) (by simp [wSymExpr, fieldsFrom, fld])
    dsimp only [List.map, KeysOK, Below, Reads] at hk hg
    exact ⟨hw (by simp [h]), by
      simp [parseSymExprW, hg, oneofRun_eq_single (k := fno "SymbolicExpression" "addr_addr"),
        wSymAddrAddr_ok, h, eq_false_of_gt, hk]⟩

theorem parseSymExprW_wSymExpr (e : MSymExpr) (h : wfWSymExpr e = true) :
    parseSymExprW (wSymExpr e) = some e :=
  (wSymExpr_ok e h).2

theorem wExprEntry_ok (kv : Nat × MSymExpr) (h : wfWExprEntry kv = true) :
    (wExprEntry kv).wf = true ∧ parseExprEntryW (wExprEntry kv) = some kv := by
  simp only [wfWExprEntry, Bool.and_eq_true] at h
  simp [parseExprEntryW, wExprEntry, wEntry, wf_fld, getAll_fld, wSymExpr_ok, h]

theorem parseExprEntryW_wExprEntry (kv : Nat × MSymExpr) (h : wfWExprEntry kv = true) :
    parseExprEntryW (wExprEntry kv) = some kv :=
  (wExprEntry_ok kv h).2

theorem wByteInterval_ok (x : MByteInterval) (h : wfWByteInterval x = true) :
    (wByteInterval x).wf = true ∧ parseByteIntervalW (wByteInterval x) = some x := by
  simp only [wfWByteInterval, List.all_and, Bool.and_eq_true] at h
  obtain ⟨hw, hg⟩ := written (fno_ok 6 rfl)
    [vBytes x.uuid, vMsgs wBlock x.blocks, vMsgs wExprEntry x.symbolicExpressions,
      vBool x.hasAddress, vUInt x.address, vUInt x.size, vBytes x.contents] (wByteInterval x) rfl
  dsimp only [List.map, Reads] at hg
  exact ⟨hw (by simp [h]), by
    simp [parseByteIntervalW, hg, h, repMsg_vMsgs wBlock_ok, repMsg_vMsgs wExprEntry_ok]⟩

theorem parseByteIntervalW_wByteInterval (x : MByteInterval) (h : wfWByteInterval x = true) :
    parseByteIntervalW (wByteInterval x) = some x :=
  (wByteInterval_ok x h).2

theorem wSection_ok (s : MSection) (h : wfWSection s = true) :
    (wSection s).wf = true ∧ parseSectionW (wSection s) = some s := by
  simp only [wfWSection, List.all_and, Bool.and_eq_true] at h
  obtain ⟨hw, hg⟩ := written (fno_ok 7 rfl)
    [vBytes s.uuid, vStr s.name, vMsgs wByteInterval s.byteIntervals, vPacked s.sectionFlags]
    (wSection s) rfl
  dsimp only [List.map, Reads] at hg
  exact ⟨hw (by simp [h]), by simp [parseSectionW, hg, h, repMsg_vMsgs wByteInterval_ok]⟩

theorem parseSectionW_wSection (s : MSection) (h : wfWSection s = true) :
    parseSectionW (wSection s) = some s :=
  (wSection_ok s h).2

end Gtirb.Pb
