import GtirbProofs.Lemmas.ForestDefs
/-! Back-pointer chains of model C: `irOf` follows `par` upwards, so it is determined by the ancestor chain
(`cache_irOf_agree`). Only the typing of the back-pointers is needed (`CacheParInv`, the part of `ForestInv` that
does not mention the owning collections). -/
namespace Gtirb.Forest

def cache_rank : Kind → Nat
  | .ir => 0 | .module => 1 | .section => 2 | .symbol => 2 | .proxy => 2 | .interval => 3
  | .code => 4 | .data => 4

structure CacheParInv (g : G) : Prop where
  kind_ok : ∀ c p, g.par c = some p → parentKind (g.kind c) = some (g.kind p)
  alloc : ∀ c p, g.par c = some p → c < g.n ∧ p < g.n

theorem ForestInv.cache_parInv {g : G} (h : ForestInv g) : CacheParInv g := ⟨h.kind_ok, h.alloc⟩

theorem CacheParInv.child_lt_ne_ir {g : G} (h : CacheParInv g) {v a : Nat} (hp : g.par v = some a) :
    v < g.n ∧ g.kind v ≠ .ir :=
  ⟨(h.alloc v a hp).1, fun e => by have := h.kind_ok v a hp; rw [e] at this; cases this⟩

theorem cache_rank_parentKind {k k' : Kind} (h : parentKind k = some k') :
    cache_rank k = cache_rank k' + 1 := by
  cases k <;> cases h <;> rfl

theorem cache_ne_of_parentKind {g : G} {x t : Nat} (h : parentKind (g.kind x) = some (g.kind t)) : x ≠ t := by
  intro e; subst e; have := cache_rank_parentKind h; omega

theorem cache_rank_par {g : G} (h : CacheParInv g) {x a : Nat} (hp : g.par x = some a) :
    cache_rank (g.kind x) = cache_rank (g.kind a) + 1 :=
  cache_rank_parentKind (h.kind_ok x a hp)

/-- the rank of the kinds bounds the length of every chain -/
theorem cache_par_induction {g : G} (h : CacheParInv g) {P : Nat → Prop}
    (root : ∀ x, g.par x = none → P x) (step : ∀ x a, g.par x = some a → P a → P x) (x : Nat) : P x := by
  suffices ∀ k x, cache_rank (g.kind x) < k → P x from this _ x (Nat.lt_succ_self _)
  intro k
  induction k with
  | zero => intro x hr; omega
  | succ k ih =>
    intro x hr
    cases hp : g.par x with
    | none => exact root x hp
    | some a => have := cache_rank_par h hp; exact step x a hp (ih a (by omega))

theorem cache_irOf_step {g : G} {x a : Nat} (hp : g.par x = some a)
    (hk : parentKind (g.kind x) = some (g.kind a)) : irOf g x = irOf g a := by
  unfold irOf
  cases hx : g.kind x <;> simp only [hx, parentKind, Option.some.injEq, reduceCtorEq] at hk <;>
    simp only [← hk, hp, Option.bind_some]

theorem cache_irOf_par {g : G} (h : CacheParInv g) {x a : Nat} (hp : g.par x = some a) :
    irOf g x = irOf g a :=
  cache_irOf_step hp (h.kind_ok x a hp)

theorem cache_irOf_root {g : G} {x : Nat} (hp : g.par x = none) :
    irOf g x = if g.kind x = .ir then some x else none := by
  unfold irOf
  cases hx : g.kind x <;> simp_all

theorem cache_irOf_detached {g : G} {x : Nat} (hp : g.par x = none) (hk : g.kind x ≠ .ir) : irOf g x = none := by
  rw [cache_irOf_root hp, if_neg hk]

theorem cache_irOf_congr {g g' : G} (hk : g'.kind = g.kind) (hp : g'.par = g.par) (x : Nat) :
    irOf g' x = irOf g x := by
  unfold irOf; rw [hk, hp]

/-- `x` is `v` or a descendant of `v` (through back-pointers) -/
inductive CacheDesc (g : G) (v : Nat) : Nat → Prop
  | refl : CacheDesc g v v
  | step {x a : Nat} : g.par x = some a → CacheDesc g v a → CacheDesc g v x

theorem cache_desc_rank {g : G} (h : CacheParInv g) {v x : Nat} (hd : CacheDesc g v x) :
    x = v ∨ cache_rank (g.kind v) < cache_rank (g.kind x) := by
  induction hd with
  | refl => exact .inl rfl
  | step hp _ ih =>
    have := cache_rank_par h hp
    rcases ih with rfl | ih <;> right <;> omega

theorem cache_desc_irOf {g : G} (h : CacheParInv g) {v x : Nat} (hd : CacheDesc g v x) :
    irOf g x = irOf g v := by
  induction hd with
  | refl => rfl
  | step hp _ ih => rw [cache_irOf_par h hp, ih]

theorem cache_desc_lt {g : G} (h : CacheParInv g) {v x : Nat} (hd : CacheDesc g v x) (hv : v < g.n) :
    x < g.n := by
  cases hd with
  | refl => exact hv
  | step hp _ => exact (h.alloc _ _ hp).1

theorem cache_desc_anc_lt {g : G} (h : CacheParInv g) {v x : Nat} (hd : CacheDesc g v x) (hx : x < g.n) :
    v < g.n := by
  induction hd with
  | refl => exact hx
  | step hp _ ih => exact ih (h.alloc _ _ hp).2

theorem cache_desc_trans {g : G} {a b c : Nat} (h1 : CacheDesc g a b) (h2 : CacheDesc g b c) :
    CacheDesc g a c := by
  induction h2 with
  | refl => exact h1
  | step hp _ ih => exact .step hp ih

theorem cache_desc_chain {g : G} {a b x : Nat} (ha : CacheDesc g a x) (hb : CacheDesc g b x) :
    CacheDesc g a b ∨ CacheDesc g b a := by
  induction ha with
  | refl => exact .inr hb
  | step hp hd ih =>
    cases hb with
    | refl => exact .inl (.step hp hd)
    | step hp' hd' =>
      rw [hp] at hp'; cases hp'
      exact ih hd'

theorem cache_desc_eq_of_rank_le {g : G} (h : CacheParInv g) {v x : Nat} (hd : CacheDesc g v x)
    (hr : cache_rank (g.kind x) ≤ cache_rank (g.kind v)) : x = v :=
  (cache_desc_rank h hd).resolve_right (by omega)

theorem cache_desc_same_rank {g : G} (h : CacheParInv g) {a b x : Nat} (ha : CacheDesc g a x)
    (hb : CacheDesc g b x) (hr : cache_rank (g.kind a) = cache_rank (g.kind b)) : a = b :=
  (cache_desc_chain ha hb).elim (fun h1 => (cache_desc_eq_of_rank_le h h1 (by omega)).symm)
    (fun h1 => cache_desc_eq_of_rank_le h h1 (by omega))

theorem cache_irOf_some {g : G} (h : CacheParInv g) {x i : Nat} (hx : x < g.n) (hi : irOf g x = some i) :
    i < g.n ∧ g.kind i = .ir := by
  induction x using cache_par_induction h with
  | root x hp =>
    rw [cache_irOf_root hp] at hi
    split at hi
    · cases hi; exact ⟨hx, by assumption⟩
    · cases hi
  | step x a hp ih =>
    rw [cache_irOf_par h hp] at hi
    exact ih (h.alloc _ _ hp).2 hi

/-- the table invariant already says that the UUIDs attached to one IR are pairwise distinct: two attached
nodes with one UUID would both be the entry under that key -/
theorem CacheInv.distinct {g : G} (hc : CacheInv g) (hp : CacheParInv g) : Distinct g := by
  intro a b i ha hb hia hib hab
  have hi := cache_irOf_some hp ha hia
  have h1 := (hc i (g.uuid a) a).2 ⟨hi.1, hi.2, ha, hia, rfl⟩
  have h2 := (hc i (g.uuid a) b).2 ⟨hi.1, hi.2, hb, hib, hab.symm⟩
  exact Option.some.inj (h1.symm.trans h2)

theorem cache_irOf_agree {g g' : G} (h : CacheParInv g) {x : Nat}
    (hag : ∀ y, CacheDesc g y x → g'.par y = g.par y ∧ g'.kind y = g.kind y) : irOf g' x = irOf g x := by
  induction x using cache_par_induction h with
  | root x hp =>
    have hx := hag x .refl
    rw [cache_irOf_root hp, cache_irOf_root (hx.1.trans hp), hx.2]
  | step x a hp ih =>
    have hx := hag x .refl
    have ha := hag a (.step hp .refl)
    rw [cache_irOf_par h hp, cache_irOf_step (hx.1.trans hp) (by rw [hx.2, ha.2]; exact h.kind_ok x a hp)]
    exact ih (fun y hy => hag y (.step hp hy))

theorem cache_not_desc_parent {g : G} (hp : CacheParInv g) {v p : Nat}
    (hkp : parentKind (g.kind v) = some (g.kind p)) : ¬ CacheDesc g v p := fun h => by
  have := cache_rank_parentKind hkp
  have := cache_desc_eq_of_rank_le hp h (by omega)
  subst this; omega

theorem cache_desc_frame {g g' : G} (h : CacheParInv g) {v : Nat}
    (hpar : ∀ x, x ≠ v → g'.par x = g.par x) {x : Nat} (hd : CacheDesc g v x) : CacheDesc g' v x := by
  induction hd with
  | refl => exact .refl
  | @step x a hp hd ih =>
    exact .step (by rw [hpar x fun e => cache_not_desc_parent h (h.kind_ok x a hp) (e ▸ hd)]; exact hp) ih

theorem cache_irOf_frame {g g' : G} (h : CacheParInv g) {v : Nat}
    (hk : g'.kind = g.kind) (hpar : ∀ x, x ≠ v → g'.par x = g.par x) {x : Nat}
    (hnd : ¬ CacheDesc g v x) : irOf g' x = irOf g x :=
  cache_irOf_agree h fun y hy => ⟨hpar y fun e => hnd (e ▸ hy), congrFun hk y⟩

end Gtirb.Forest
