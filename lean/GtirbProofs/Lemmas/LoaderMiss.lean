import GtirbProofs.Lemmas.LoaderDecoders
import GtirbProofs.Lemmas.ListLemmas
/-! A load in which no lookup of `Node._from_protobuf` hits, on the graph alone: on freshly allocated, detached
nodes the forest operations do not raise and only append; `MissIR` is the condition on the skeleton under which
every lookup misses. -/
namespace Gtirb.Loader
open Gtirb.Forest

/-- the symbol indexes are left open -/
structure Attached (g g' : G) (p : Nat) (s : Slot) (xs : List Nat) : Prop where
  n : g'.n = g.n
  kind : g'.kind = g.kind
  uuid : g'.uuid = g.uuid
  name : g'.name = g.name
  payload : g'.payload = g.payload
  cache : g'.cache = g.cache
  par : ∀ x, g'.par x = if x ∈ xs then some p else g.par x
  kids : ∀ q s', g'.kids q s' = if q = p ∧ s' = s then g.kids p s ++ xs else g.kids q s'

theorem setAdd_fresh {g : G} {p v : Nat} {s : Slot} (hv : g.par v = none) (hp : g.par p = none)
    (hk : g.kind p ≠ .ir) (hne : p ≠ v) (hnm : v ∉ g.kids p s) :
    ∃ g', setAdd g p s v = .ok g' ∧ Attached g g' p s [v] := by
  have key : ∀ g3 : G, OnlyIdx (setPar g v (some p)) g3 →
      ∃ g', (Except.ok (kidsInsert (match irOf g3 p with
        | some i => cacheAdd g3 i v
        | none => g3) p s v) : Except Exc G) = .ok g' ∧ Attached g g' p s [v] := by
    intro g3 h3
    have hir : irOf g3 p = none := by
      rw [cache_irOf_congr h3.kind h3.par]
      exact cache_irOf_detached (by simp [hne, hp]) hk
    rw [hir]
    refine ⟨_, rfl, ?_⟩
    refine ⟨by simp [h3.n], by simp [h3.kind], by simp [h3.uuid], by simp [h3.name], by simp [h3.payload],
      by simp [h3.cache], ?_, ?_⟩
    · intro x; simp [h3.par]
    · intro q s'
      simp only [kidsInsert_kids, h3.kids, setPar_kids]
      have : setInsertNat (g.kids p s) v = g.kids p s ++ [v] := by
        unfold setInsertNat; rw [if_neg hnm]
      rw [this]
  unfold setAdd
  rw [hv]
  simp only []
  have h3 : OnlyIdx (setPar g v (some p)) (if s = Slot.secs ∨ s = Slot.syms ∨ s = Slot.proxies
      then symIndexAdd (setPar g v (some p)) p v else setPar g v (some p)) := by
    split
    · exact onlyIdx_symIndexAdd _ _ _
    · exact OnlyIdx.refl _
  exact key _ h3

theorem foldl_kidsInsert_fresh (p : Nat) (s : Slot) : ∀ (xs : List Nat) (g : G), xs.Nodup →
    (∀ x, x ∈ xs → x ∉ g.kids p s) →
    (xs.foldl (fun g v => kidsInsert g p s v) g) = kidsSet g p s (g.kids p s ++ xs)
  | [], g, _, _ => by
    show g = _
    cases g
    simp only [kidsSet, List.append_nil]
    congr
    funext q s'
    split
    · next h => rw [h.1, h.2]
    · rfl
  | x :: xs, g, hnd, hx => by
    rw [List.nodup_cons] at hnd
    rw [List.foldl_cons, foldl_kidsInsert_fresh p s xs _ hnd.2]
    · have hxi : setInsertNat (g.kids p s) x = g.kids p s ++ [x] := by
        unfold setInsertNat; rw [if_neg (hx x List.mem_cons_self)]
      cases g
      simp only [kidsSet, kidsInsert]
      congr
      funext q s'
      by_cases h : q = p ∧ s' = s
      · simp only [h, and_self, if_true]
        simp only [] at hxi
        rw [hxi]; simp
      · simp [h]
    · intro y hy
      simp only [kidsInsert_kids, and_self, if_true]
      rw [mem_setInsertNat]
      rintro (h | h)
      · exact hx y (List.mem_cons_of_mem _ hy) h
      · exact hnd.1 (h ▸ hy)

theorem blkLoop_fresh (p : Nat) : ∀ (L : List Nat) (g1 : G), L.Nodup → (∀ v, v ∈ L → g1.par v = none) →
    ∃ g2, foldE (cache_blkStep none p) L g1 = .ok g2 ∧ g2.n = g1.n ∧ g2.kind = g1.kind ∧ g2.uuid = g1.uuid ∧
      g2.name = g1.name ∧ g2.payload = g1.payload ∧ g2.cache = g1.cache ∧ g2.kids = g1.kids ∧
      ∀ x, g2.par x = if x ∈ L then some p else g1.par x
  | [], g1, _, _ => ⟨g1, rfl, rfl, rfl, rfl, rfl, rfl, rfl, rfl, fun x => by simp⟩
  | a :: L, g1, hnd, hL => by
    rw [List.nodup_cons] at hnd
    have hstep : cache_blkStep none p g1 a = .ok (setPar g1 a (some p)) := by
      unfold cache_blkStep
      rw [hL a List.mem_cons_self]
      rfl
    obtain ⟨g2, e, h1, h2, h3, h4, h5, h6, h7, h8⟩ := blkLoop_fresh p L (setPar g1 a (some p)) hnd.2 (fun v hv => by
      have hva : v ≠ a := fun e => hnd.1 (e ▸ hv)
      simp only [setPar_par, if_neg hva]
      exact hL v (List.mem_cons_of_mem _ hv))
    refine ⟨g2, ?_, h1, h2, h3, h4, h5, h6, h7, ?_⟩
    · simp only [foldE]; rw [hstep]; exact e
    · intro x
      rw [h8]
      simp only [setPar_par, List.mem_cons]
      by_cases hx : x ∈ L
      · simp [hx]
      · by_cases hxa : x = a
        · simp [hxa]
        · simp [hx, hxa]

theorem blkUpdate_fresh {g : G} {p : Nat} {vs : List Nat} (hp : g.par p = none) (hk : g.kind p ≠ .ir)
    (hvs : ∀ v, v ∈ vs → g.par v = none) (hnd : vs.Nodup) (hkids : g.kids p .blocks = []) :
    ∃ g', blkUpdate g p vs = .ok g' ∧ Attached g g' p .blocks vs := by
  have hir : irOf g p = none := cache_irOf_detached hp hk
  have hnew : cache_blkNew g p vs = vs := by
    unfold cache_blkNew
    rw [List.eraseDups_of_nodup hnd, hkids]; simp
  obtain ⟨g2, e, h1, h2, h3, h4, h5, h6, h7, h8⟩ := blkLoop_fresh p vs g hnd hvs
  rw [cache_blkUpdate_eq, hnew, hir, e]
  refine ⟨_, rfl, ?_⟩
  rw [foldl_kidsInsert_fresh p .blocks vs g2 hnd (by rw [h7, hkids]; simp)]
  refine ⟨h1, h2, h3, h4, h5, h6, h8, ?_⟩
  intro q s'
  simp only [kidsSet_kids, h7]

theorem modAppend_fresh {g : G} {i v : Nat} (hv : g.par v = none) :
    modAppend g i v = .ok (kidsSet (cacheAdd (setPar g v (some i)) i v) i .mods (g.kids i .mods ++ [v])) := by
  unfold modAppend modInsert modHookAdd
  rw [hv]
  simp only []
  rw [(onlyCache_cacheAdd _ _ _).kids]
  simp only [setPar_kids, pyInsert_ge _ _ _ (Nat.le_refl _)]

def Same (N : Nat) (g g' : G) : Prop :=
  ∀ x, x < N → g'.kind x = g.kind x ∧ g'.uuid x = g.uuid x ∧ g'.par x = g.par x ∧ g'.name x = g.name x ∧
    g'.payload x = g.payload x ∧ ∀ s, g'.kids x s = g.kids x s

theorem Same.refl (N : Nat) (g : G) : Same N g g := fun _ _ => ⟨rfl, rfl, rfl, rfl, rfl, fun _ => rfl⟩

theorem Same.trans {N M : Nat} {a b c : G} (h1 : Same N a b) (h2 : Same M b c) (hNM : N ≤ M) : Same N a c := by
  intro x hx
  obtain ⟨a1, a2, a3, a4, a5, a6⟩ := h1 x hx
  obtain ⟨b1, b2, b3, b4, b5, b6⟩ := h2 x (by omega)
  exact ⟨b1.trans a1, b2.trans a2, b3.trans a3, b4.trans a4, b5.trans a5, fun s => (b6 s).trans (a6 s)⟩

theorem Same.alloc (g : G) (k : Kind) (u : Nat) : Same g.n g (alloc g k u).1 := by
  intro x hx
  have : x ≠ g.n := Nat.ne_of_lt hx
  simp [this]

theorem Same.of_cacheOnly {N : Nat} {g g' : G} (h : CacheOnly g g') : Same N g g' :=
  fun _ _ => ⟨by rw [h.kind], by rw [h.uuid], by rw [h.par], by rw [h.name], by rw [h.payload], fun _ => by rw [h.kids]⟩

theorem Same.attached {N : Nat} {g g' : G} {p : Nat} {s : Slot} {xs : List Nat} (a : Attached g g' p s xs)
    (hp : N ≤ p) (hxs : ∀ x, x ∈ xs → N ≤ x) : Same N g g' := by
  intro x hx
  refine ⟨by rw [a.kind], by rw [a.uuid], ?_, by rw [a.name], by rw [a.payload], ?_⟩
  · rw [a.par, if_neg]
    intro hm; have := hxs x hm; omega
  · intro s'
    rw [a.kids, if_neg]
    intro hh; omega

/-- `v` was built from `g` to `g'` -/
structure Fresh (g g' : G) (v : Nat) : Prop where
  v_eq : v = g.n
  lt : g.n < g'.n
  same : Same g.n g g'
  par : g'.par v = none

/-- a fresh node that registers itself at once (block, proxy; first step of section, module) -/
theorem Fresh.reg (g : G) (k : Kind) (u ir : Nat) : Fresh g (cacheSet (Forest.alloc g k u).1 ir u g.n) g.n :=
  ⟨rfl, Nat.lt_succ_self _,
    (Same.alloc g k u).trans (Same.of_cacheOnly (N := g.n) (cache_cacheSet_only _ ir u g.n)) (Nat.le_refl _),
    by show (Forest.alloc g k u).1.par g.n = none; simp⟩

theorem reg_kind (g : G) (k : Kind) (u ir : Nat) : (cacheSet (Forest.alloc g k u).1 ir u g.n).kind g.n = k := by
  show (Forest.alloc g k u).1.kind g.n = k; simp

theorem reg_uuid (g : G) (k : Kind) (u ir : Nat) : (cacheSet (Forest.alloc g k u).1 ir u g.n).uuid g.n = u := by
  show (Forest.alloc g k u).1.uuid g.n = u; simp

theorem reg_kids (g : G) (k : Kind) (u ir : Nat) (s : Slot) :
    (cacheSet (Forest.alloc g k u).1 ir u g.n).kids g.n s = [] := by
  show (Forest.alloc g k u).1.kids g.n s = []; simp

/-- the nodes `vs` were built one after the other from `g` to `g'`, each of them `Fresh` in its turn -/
structure FreshList (g g' : G) (vs : List Nat) : Prop where
  le : g.n ≤ g'.n
  same : Same g.n g g'
  mem : ∀ v, v ∈ vs → g.n ≤ v ∧ v < g'.n ∧ g'.par v = none
  nodup : vs.Nodup

theorem FreshList.nil (g : G) : FreshList g g [] :=
  ⟨Nat.le_refl _, Same.refl _ _, fun _ hv => (by cases hv), List.nodup_nil⟩

theorem FreshList.cons {g g1 g2 : G} {v : Nat} {vs : List Nat} (el : Fresh g g1 v) (fl : FreshList g1 g2 vs) :
    FreshList g g2 (v :: vs) := by
  have hvlt : v < g1.n := by rw [el.v_eq]; exact el.lt
  refine ⟨Nat.le_trans (Nat.le_of_lt el.lt) fl.le, el.same.trans fl.same (Nat.le_of_lt el.lt), ?_,
    List.nodup_cons.2 ⟨fun hv => by have := (fl.mem v hv).1; omega, fl.nodup⟩⟩
  intro w hw
  rcases List.mem_cons.1 hw with rfl | hw
  · exact ⟨Nat.le_of_eq el.v_eq.symm, Nat.lt_of_lt_of_le hvlt fl.le, by rw [(fl.same w hvlt).2.2.1]; exact el.par⟩
  · obtain ⟨m1, m2, m3⟩ := fl.mem w hw
    exact ⟨Nat.le_trans (Nat.le_of_lt el.lt) m1, m2, m3⟩

/-- a fresh interval whose blocks `vs` were decoded to fresh, detached nodes: `blocks.update` does not raise,
then the interval registers itself and its blocks -/
theorem interval_build {g g2 : G} {ir : Nat} {x : SkInterval} {vs : List Nat} (hc : g.cache ir x.uuid = none)
    (e2 : decodeBlocks ir (alloc g .interval x.uuid).1 x.blocks = .ok (g2, vs))
    (fl : FreshList (alloc g .interval x.uuid).1 g2 vs) :
    ∃ g3, decodeInterval g ir x = .ok (cache_setAll g3 ir (g.n :: vs), g.n) ∧ Attached g2 g3 g.n .blocks vs ∧
      g3.kids g.n .blocks = vs ∧ g2.kind g.n = .interval ∧ g2.uuid g.n = x.uuid ∧
      Fresh g (cache_setAll g3 ir (g.n :: vs)) g.n := by
  have le2 : g.n + 1 ≤ g2.n := fl.le
  have s2 : Same (g.n + 1) (alloc g .interval x.uuid).1 g2 := fl.same
  have m2 : ∀ w, w ∈ vs → g.n + 1 ≤ w ∧ w < g2.n ∧ g2.par w = none := fl.mem
  obtain ⟨k2, u2, p2, _, _, kd2⟩ := s2 g.n (Nat.lt_succ_self _)
  simp only [alloc_kind, alloc_uuid, alloc_par, alloc_kids, if_true] at k2 u2 p2 kd2
  obtain ⟨g3, e3, a3⟩ := blkUpdate_fresh (g := g2) (p := g.n) (vs := vs) p2 (by rw [k2]; decide)
    (fun w hw => (m2 w hw).2.2) fl.nodup (kd2 .blocks)
  have hkids3 : g3.kids g.n .blocks = vs := by rw [a3.kids]; simp [kd2 .blocks]
  have hnv : g.n ∉ vs := fun hm => by have := (m2 _ hm).1; omega
  have ho := cache_setAll_only ir (g.n :: vs) g3
  refine ⟨g3, ?_, a3, hkids3, k2, u2, rfl, by rw [ho.n, a3.n]; omega, ?_, ?_⟩
  · rw [decodeInterval_of hc e2 e3, cache_addInterval_eq, cache_walkI, hkids3]
  · exact ((Same.alloc g _ _).trans s2 (Nat.le_succ _)).trans
      ((Same.attached (N := g.n) a3 (Nat.le_refl _) (fun w hw => by have := (m2 w hw).1; omega)).trans
        (Same.of_cacheOnly ho) (Nat.le_refl _)) (Nat.le_refl _)
  · rw [ho.par, a3.par, if_neg hnv]; exact p2

/-- `ir.modules.append(v)` for a detached module: the module is appended, then it and everything under it is
registered again -/
theorem modAppend_new {g : G} {i v : Nat} (hv : g.par v = none) (hk : g.kind v = .module) :
    ∃ gm g', modAppend g i v = .ok g' ∧ Attached g gm i .mods [v] ∧ CacheOnly gm g' ∧
      g'.cache = (cache_setAll (setPar g v (some i)) i (cache_walkM g.kids v)).cache := by
  have hc : cacheAdd (setPar g v (some i)) i v = cache_setAll (setPar g v (some i)) i (cache_walkM g.kids v) := by
    rw [cache_cacheAdd_eq]; show cache_setAll _ i (cache_walk g.kids (g.kind v) v) = _; rw [hk]; rfl
  have ho := cache_setAll_only i (cache_walkM g.kids v) (setPar g v (some i))
  refine ⟨kidsSet (setPar g v (some i)) i .mods (g.kids i .mods ++ [v]), _, modAppend_fresh hv,
    ⟨rfl, rfl, rfl, rfl, rfl, rfl, fun x => by simp, fun q s' => by simp⟩, ?_, by rw [hc]; rfl⟩
  rw [hc]
  exact ⟨ho.n, ho.kind, ho.uuid, ho.par, by funext q s; simp only [kidsSet_kids, ho.kids], ho.name, ho.payload,
    ho.nameIdx, ho.refIdx⟩

theorem Fresh.symState (g : G) (ir u nm : Nat) (pl : Payload) : Fresh g (symState g ir u nm pl) g.n := by
  refine ⟨rfl, Nat.lt_succ_self _, fun x hx => ?_, by show (Forest.alloc g .symbol u).1.par g.n = none; simp⟩
  have hne : x ≠ g.n := Nat.ne_of_lt hx
  exact ⟨by show (Forest.alloc g .symbol u).1.kind x = _; simp [hne], by show (Forest.alloc g .symbol u).1.uuid x = _; simp [hne],
    by show (Forest.alloc g .symbol u).1.par x = _; simp [hne], by show (if x = g.n then nm else g.name x) = _; rw [if_neg hne],
    by show (if x = g.n then pl else g.payload x) = _; rw [if_neg hne],
    fun s => by show (Forest.alloc g .symbol u).1.kids x s = _; simp [hne]⟩

/-- the fresh child `v` (built from `gc` to `g1`) is added to collection `s` of the node `p` under construction
(built from `g` to `gc` so far): `p.<coll>.add(v)` does not raise, and `p` is still fresh -/
theorem Fresh.attach {g gc g1 : G} {p v : Nat} (el : Fresh g gc p) (hk : gc.kind p ≠ .ir) (el1 : Fresh gc g1 v)
    (s : Slot) (hkids : ∀ c, c ∈ gc.kids p s → c < gc.n) :
    ∃ g2, setAdd g1 p s v = .ok g2 ∧ Attached g1 g2 p s [v] ∧ Fresh g g2 p ∧
      g1.kind p = gc.kind p ∧ g1.uuid p = gc.uuid p ∧ ∀ s', g1.kids p s' = gc.kids p s' := by
  have hpn : p < gc.n := by rw [el.v_eq]; exact el.lt
  have hv : v = gc.n := el1.v_eq
  obtain ⟨k1, u1, p1, _, _, kd1⟩ := el1.same p hpn
  obtain ⟨g2, e2, a2⟩ := setAdd_fresh (g := g1) (p := p) (v := v) (s := s) el1.par (by rw [p1]; exact el.par)
    (by rw [k1]; exact hk) (by omega) (by rw [kd1]; intro hm; have := hkids v hm; omega)
  refine ⟨g2, e2, a2, ⟨el.v_eq, by rw [a2.n]; exact Nat.lt_trans el.lt el1.lt, ?_, ?_⟩, k1, u1, kd1⟩
  · exact (el.same.trans el1.same (Nat.le_of_lt el.lt)).trans
      (Same.attached (N := g.n) a2 (Nat.le_of_eq el.v_eq.symm) (fun x hx => by
        rw [List.mem_singleton.1 hx, hv]; exact Nat.le_of_lt el.lt)) (Nat.le_refl _)
  · rw [a2.par, if_neg (by simp; omega), p1]; exact el.par

theorem walkM_range {g : G} {lo : Nat} (hw : ∀ y, lo ≤ y → y < g.n → ∀ s c, c ∈ g.kids y s → c < g.n)
    (hup : ∀ y, lo ≤ y → y < g.n → ∀ s c, c ∈ g.kids y s → y < c)
    {v y : Nat} (hv : lo ≤ v ∧ v < g.n) (hy : y ∈ cache_walkM g.kids v) : lo ≤ y ∧ y < g.n := by
  have hkid : ∀ {p c : Nat} {s : Slot}, lo ≤ p ∧ p < g.n → c ∈ g.kids p s → lo ≤ c ∧ c < g.n :=
    fun {p c s} hp hc => ⟨by have := hup p hp.1 hp.2 s c hc; omega, hw p hp.1 hp.2 s c hc⟩
  unfold cache_walkM at hy
  rcases List.mem_cons.1 hy with rfl | hy
  · exact hv
  · rcases List.mem_append.1 hy with hy | hy
    · exact hkid hv hy
    · rcases List.mem_append.1 hy with hy | hy
      · obtain ⟨s, hs, hys⟩ := List.mem_flatMap.1 hy
        unfold cache_walkS at hys
        rcases List.mem_cons.1 hys with rfl | hys
        · exact hkid hv hs
        · obtain ⟨b, hb, hyb⟩ := List.mem_flatMap.1 hys
          unfold cache_walkI at hyb
          rcases List.mem_cons.1 hyb with rfl | hyb
          · exact hkid (hkid hv hs) hb
          · exact hkid (hkid (hkid hv hs) hb) hyb
      · exact hkid hv hy

/-! ## every lookup misses

`K`: the UUIDs registered in the new IR's table so far (a superset of its keys). An interval registers itself
after its blocks: they are checked against `K` without the interval's UUID (`MissI`), so a block that carries its
interval's UUID misses too. -/

def MissBlocks : (Nat → Prop) → List (Nat × Bool) → Prop
  | _, [] => True
  | K, b :: bs => ¬ K b.1 ∧ MissBlocks (fun u => K u ∨ u = b.1) bs

def MissI (K : Nat → Prop) (x : SkInterval) : Prop := ¬ K x.uuid ∧ MissBlocks K x.blocks

/-- `U a`: the UUIDs that decoding `a` registers -/
def MissList {α : Type} (miss : (Nat → Prop) → α → Prop) (U : α → List Nat) : (Nat → Prop) → List α → Prop
  | _, [] => True
  | K, a :: as => miss K a ∧ MissList miss U (fun u => K u ∨ u ∈ U a) as

def MissS (K : Nat → Prop) (s : SkSection) : Prop :=
  ¬ K s.uuid ∧ MissList MissI SkInterval.nodeUuids (fun u => K u ∨ u ∈ [s.uuid]) s.intervals

def MissM (K : Nat → Prop) (m : SkModule) : Prop :=
  ¬ K m.uuid ∧
  MissList (fun K (u : Nat) => ¬ K u) (fun u => [u]) (fun u => K u ∨ u ∈ [m.uuid]) m.proxies ∧
  MissList MissS SkSection.nodeUuids
    (fun u => (K u ∨ u ∈ [m.uuid]) ∨ u ∈ m.proxies.flatMap (fun u => [u])) m.sections ∧
  MissList (fun K (y : SkSymbol) => ¬ K y.uuid) (fun y => [y.uuid])
    (fun u => ((K u ∨ u ∈ [m.uuid]) ∨ u ∈ m.proxies.flatMap (fun u => [u])) ∨
      u ∈ m.sections.flatMap SkSection.nodeUuids) m.symbols

/-- no table lookup of the whole load hits -/
def MissIR (sk : SkIR) : Prop := MissList MissM SkModule.nodeUuids (fun u => u = sk.uuid) sk.modules

end Gtirb.Loader
