import GtirbModel.LoaderX
import GtirbProofs.Lemmas.ProtoProofs
import GtirbProofs.Lemmas.LoaderMiss
/-! The traversal of a load in which no lookup hits, once (`attach_gen`). Its two instances: the link to the
value-level reader (`LinkProofs`: the index is the reader's environment, success is proved) and the loader with the
pending map (`LoaderXProofs`: the index is the set of registered UUIDs; sections succeed, the run of a module is
given, since its references may fail). -/
namespace Gtirb.Loader
open Gtirb.Forest
open Gtirb.Msg (All2)

inductive Thread {ι α : Type} (T : ι → α → ι → Prop) : ι → List α → ι → Prop
  | nil (i : ι) : Thread T i [] i
  | cons {i i1 i' : ι} {a : α} {as : List α} : T i a i1 → Thread T i1 as i' → Thread T i (a :: as) i'

theorem Thread.each {ι α : Type} {E : ι → α → ι → Prop} {i i' : ι} {as : List α}
    (h : Thread E i as i') : ∀ a, a ∈ as → ∃ e e', E e a e' := by
  induction h with
  | nil => intro a ha; cases ha
  | cons h1 _ ih =>
    intro a ha
    rcases List.mem_cons.1 ha with rfl | ha
    · exact ⟨_, _, h1⟩
    · exact ih a ha

theorem Thread.zip {ι α β : Type} {E : ι → α → ι → Prop} {S : α → β → Prop} {i i' : ι} {as : List α}
    (h : Thread E i as i') : ∀ {bs : List β}, All2 S as bs →
      Thread (fun e b e' => ∃ a, E e a e' ∧ S a b) i bs i' := by
  induction h with
  | nil => intro bs hS; cases hS; exact .nil _
  | cons h1 _ ih => intro bs hS; cases hS with | cons hab hr => exact .cons ⟨_, h1, hab⟩ (ih hr)

/-- the step of `Thread` that `MissList` unfolds to -/
def TMiss {α : Type} (miss : (Nat → Prop) → α → Prop) (U : α → List Nat) (K : Nat → Prop) (a : α)
    (K' : Nat → Prop) : Prop :=
  miss K a ∧ K' = fun u => K u ∨ u ∈ U a

/-- `c`: from the elements as the decoder takes them to the elements `miss` speaks of -/
theorem MissList.thread_map {α β : Type} {miss : (Nat → Prop) → β → Prop} {U : β → List Nat} (c : α → β) :
    ∀ (as : List α) (K : Nat → Prop), MissList miss U K (as.map c) →
      Thread (TMiss (fun K a => miss K (c a)) (fun a => U (c a))) K as (fun u => K u ∨ u ∈ (as.map c).flatMap U)
  | [], K, _ => by
    have : (fun u => K u ∨ u ∈ (([] : List α).map c).flatMap U) = K := by funext u; simp
    rw [this]; exact .nil K
  | a :: as, K, h => by
    have : (fun u => K u ∨ u ∈ ((a :: as).map c).flatMap U) =
        fun u => (K u ∨ u ∈ U (c a)) ∨ u ∈ (as.map c).flatMap U := by
      funext u; simp only [List.map_cons, List.flatMap_cons, List.mem_append, or_assoc]
    rw [this]
    exact .cons ⟨h.1, rfl⟩ (MissList.thread_map c as _ h.2)

theorem MissList.thread {α : Type} {miss : (Nat → Prop) → α → Prop} {U : α → List Nat} (as : List α)
    (K : Nat → Prop) (h : MissList miss U K as) : Thread (TMiss miss U) K as (fun u => K u ∨ u ∈ as.flatMap U) := by
  have := MissList.thread_map id as K (by rwa [List.map_id])
  rwa [List.map_id] at this

/-- `p`: the node under construction; its collections and every `par` are left open -/
structure Kept (p : Nat) (g g' : G) : Prop where
  le : g.n ≤ g'.n
  eq : ∀ x, x < g.n → g'.kind x = g.kind x ∧ g'.uuid x = g.uuid x ∧ g'.name x = g.name x ∧
    g'.payload x = g.payload x ∧ (x ≠ p → ∀ s, g'.kids x s = g.kids x s)

theorem Kept.refl (p : Nat) (g : G) : Kept p g g := ⟨Nat.le_refl _, fun _ _ => ⟨rfl, rfl, rfl, rfl, fun _ _ => rfl⟩⟩

theorem Kept.trans {p : Nat} {a b c : G} (h1 : Kept p a b) (h2 : Kept p b c) : Kept p a c := by
  refine ⟨Nat.le_trans h1.le h2.le, fun x hx => ?_⟩
  obtain ⟨a1, a2, a3, a4, a5⟩ := h1.eq x hx
  obtain ⟨b1, b2, b3, b4, b5⟩ := h2.eq x (Nat.lt_of_lt_of_le hx h1.le)
  exact ⟨b1.trans a1, b2.trans a2, b3.trans a3, b4.trans a4, fun hp s => (b5 hp s).trans (a5 hp s)⟩

theorem Kept.of_fresh {p : Nat} {g g' : G} {v : Nat} (h : Fresh g g' v) : Kept p g g' :=
  ⟨Nat.le_of_lt h.lt, fun x hx => by
    obtain ⟨a1, a2, _, a4, a5, a6⟩ := h.same x hx
    exact ⟨a1, a2, a4, a5, fun _ => a6⟩⟩

theorem Kept.of_attached {p : Nat} {g g' : G} {s : Slot} {xs : List Nat} (a : Attached g g' p s xs) : Kept p g g' :=
  ⟨Nat.le_of_eq a.n.symm, fun x _ => ⟨by rw [a.kind], by rw [a.uuid], by rw [a.name], by rw [a.payload],
    fun hp s' => by rw [a.kids, if_neg (fun hh => hp hh.1)]⟩⟩

theorem Kept.of_cacheOnly {p : Nat} {g g' : G} (h : CacheOnly g g') : Kept p g g' :=
  ⟨Nat.le_of_eq h.n.symm, fun x _ => ⟨by rw [h.kind], by rw [h.uuid], by rw [h.name], by rw [h.payload],
    fun _ s => by rw [h.kids]⟩⟩

def PExt (N : Nat) (pend pend' : Pend) : Prop := ∀ y, y < N → pend'.lookup y = pend.lookup y

theorem PExt.refl (N : Nat) (pend : Pend) : PExt N pend pend := fun _ _ => rfl

theorem PExt.trans {N M : Nat} {a b c : Pend} (h1 : PExt N a b) (h2 : PExt M b c) (hNM : N ≤ M) : PExt N a c :=
  fun y hy => (h2 y (by omega)).trans (h1 y hy)

theorem PExt.mono {N M : Nat} {a b : Pend} (h : PExt M a b) (hNM : N ≤ M) : PExt N a b :=
  fun y hy => h y (by omega)

/-- a decoder that does not touch the pending map (proxy, symbol), in the form `decodeAttachX` takes -/
def liftDec {α : Type} (dec : G → Nat → α → Except LErr (G × Nat)) :
    G → Pend → Nat → α → Except LErr (G × Nat × Pend) :=
  fun g pend ir a =>
    match dec g ir a with
    | .ok (g', v) => .ok (g', v, pend)
    | .error e => .error e

theorem decodeAttach_lift {α : Type} (dec : G → Nat → α → Except LErr (G × Nat)) (ir p : Nat) (s : Slot) :
    ∀ (as : List α) (g : G) (pend : Pend),
      decodeAttachX (liftDec dec) ir p s g pend as =
        match decodeAttach dec ir p s g as with
        | .ok g' => .ok (g', pend)
        | .error e => .error e
  | [], g, pend => rfl
  | a :: as, g, pend => by
    simp only [decodeAttachX, decodeAttach, liftDec]
    cases dec g ir a with
    | error e => rfl
    | ok r =>
      obtain ⟨g1, v⟩ := r
      simp only []
      cases liftE (setAdd g1 p s v) with
      | error e => rfl
      | ok g2 => exact decodeAttach_lift dec ir p s as g2 pend

/-- what the traversal needs of a state invariant `I i g` (`i`: what is registered so far): owning collections
name allocated nodes, and the invariant survives the attachment of a fresh child to the node under construction.
Everything else about `I` is the business of the element decoders. -/
structure Keeps {ι : Type} (ir : Nat) (I : ι → G → Prop) : Prop where
  kids_lt : ∀ {i g}, I i g → ∀ p, ir ≤ p → p < g.n → ∀ s c, c ∈ g.kids p s → c < g.n
  attached : ∀ {i g g' p s v}, I i g → Attached g g' p s [v] → ir ≤ p → p < v → v < g.n → g.par v = none → I i g'

/-- `p.<coll>.update(dec(c) for c in children)` (`decodeAttachX`) for the node `p` under construction
(`Fresh g gc p`) in a load without hits: every child is decoded to a fresh, detached node and appended at once, in
message order. `hdec`: what one child decoder does on a message part that is not registered yet (`T i a i'`);
`Q`: what is kept about each child; `hQ`: it survives whatever leaves the child's subtree and the older pending
entries alone. `B`, the failure side of `Ends`: `False` where success is to be proved, `True` where a run that is
given is analysed. -/
theorem attach_gen {ι α : Type} {ir : Nat} {I : ι → G → Prop} (hI : Keeps ir I)
    {dec : G → Pend → Nat → α → Except LErr (G × Nat × Pend)} {T : ι → α → ι → Prop}
    {Q : α → G → Pend → Nat → Prop} {B : Prop} {slot : Slot}
    (hdec : ∀ i a i' g pend, T i a i' → I i g →
      Ends (dec g pend ir a) (fun r => Fresh g r.1 r.2.1 ∧ I i' r.1 ∧ PExt g.n pend r.2.2 ∧ Q a r.1 r.2.2 r.2.1)
        fun _ => B)
    (hQ : ∀ i a p g pend g' pend' v, I i g → ir ≤ p → p < v → v < g.n → Kept p g g' → PExt g.n pend pend' →
      Q a g pend v → Q a g' pend' v) :
    ∀ (as : List α) (i i' : ι) (g gc : G) (pendc : Pend) (p : Nat),
      Thread T i as i' → Fresh g gc p → I i gc → ir ≤ p → gc.kind p ≠ .ir →
      Ends (decodeAttachX dec ir p slot gc pendc as) (fun r =>
        Fresh g r.1 p ∧ I i' r.1 ∧ PExt gc.n pendc r.2 ∧ Kept p gc r.1 ∧
        ∃ vs, r.1.kids p slot = gc.kids p slot ++ vs ∧ (∀ s0, s0 ≠ slot → r.1.kids p s0 = gc.kids p s0) ∧
          All2 (fun v a => Q a r.1 r.2 v) vs as ∧ ∀ v, v ∈ vs → gc.n ≤ v ∧ v < r.1.n) fun _ => B := by
  intro as
  induction as with
  | nil =>
    intro i i' g gc pendc p hch fr h0 _ _
    cases hch
    exact ⟨fr, h0, PExt.refl _ _, Kept.refl _ _, [], by simp, fun _ _ => rfl, .nil, fun v hv => by cases hv⟩
  | cons a as ih =>
    intro i i' g gc pendc p hch fr h0 hip hk
    cases hch with
    | cons h1 hch' =>
      rename_i i1
      have hd := hdec i a i1 gc pendc h1 h0
      simp only [decodeAttachX]
      cases hdr : dec gc pendc ir a with
      | error e => rw [hdr] at hd; exact hd
      | ok r =>
        obtain ⟨g1, v, pend1⟩ := r
        have hd1 := hd.of_ok hdr
        dsimp only at hd1
        obtain ⟨fr1, h1', px1, q1⟩ := hd1
        have hp : p < gc.n := by rw [fr.v_eq]; exact fr.lt
        have hv : v = gc.n := fr1.v_eq
        have hvlt : v < g1.n := by rw [hv]; exact fr1.lt
        obtain ⟨g2, e2, a2, fr2, k1, u1, kd1⟩ := fr.attach hk fr1 slot (hI.kids_lt h0 p hip hp slot)
        have h2 : I i1 g2 := hI.attached h1' a2 hip (by omega) hvlt fr1.par
        have := ih i1 i' g g2 pend1 p hch' fr2 h2 hip (by rw [a2.kind, k1]; exact hk)
        simp only [e2, liftE]
        cases hr : decodeAttachX dec ir p slot g2 pend1 as with
        | error e => rw [hr] at this; exact this
        | ok r' =>
          obtain ⟨g', pend'⟩ := r'
          have hr1 := this.of_ok hr
          dsimp only at hr1
          obtain ⟨fr', h', px', kp', vs, c1, c2, c10, c11⟩ := hr1
          have hn2 : g2.n = g1.n := a2.n
          rw [hn2] at px' c11
          refine ⟨fr', h', px1.trans px' (Nat.le_of_lt fr1.lt),
            ((Kept.of_fresh fr1).trans (Kept.of_attached a2)).trans kp', v :: vs, ?_, ?_, .cons ?_ c10, ?_⟩
          · show g'.kids p slot = _
            rw [c1, a2.kids, if_pos ⟨rfl, rfl⟩, kd1, List.append_assoc]; rfl
          · intro s0 hs0
            show g'.kids p s0 = _
            rw [c2 s0 hs0, a2.kids, if_neg (fun hh => hs0 hh.2), kd1]
          · exact hQ i1 a p g1 pend1 g' pend' v h1' hip (by omega) hvlt ((Kept.of_attached a2).trans kp') px' q1
          · intro w hw
            rcases List.mem_cons.1 hw with hw | hw
            · subst hw; exact ⟨by omega, Nat.lt_of_lt_of_le hvlt (by rw [← hn2]; exact kp'.le)⟩
            · obtain ⟨b1, b2⟩ := c11 w hw
              exact ⟨by have := fr1.lt; omega, b2⟩

/-- `attach_gen` for the plain `decodeAttach`, where every child decoder succeeds: so does the phase -/
theorem attach_plain {ι α : Type} {ir : Nat} {I : ι → G → Prop} (hI : Keeps ir I)
    {dec : G → Nat → α → Except LErr (G × Nat)} {T : ι → α → ι → Prop} {Q : α → G → Nat → Prop} {slot : Slot}
    (hdec : ∀ i a i' g, T i a i' → I i g → ∃ g' v, dec g ir a = .ok (g', v) ∧ Fresh g g' v ∧ I i' g' ∧ Q a g' v)
    (hQ : ∀ i a p g g' v, I i g → ir ≤ p → p < v → v < g.n → Kept p g g' → Q a g v → Q a g' v)
    {as : List α} {i i' : ι} {g gc : G} {p : Nat}
    (hch : Thread T i as i') (fr : Fresh g gc p) (h0 : I i gc) (hip : ir ≤ p) (hk : gc.kind p ≠ .ir) :
    ∃ g', decodeAttach dec ir p slot gc as = .ok g' ∧ Fresh g g' p ∧ I i' g' ∧ Kept p gc g' ∧
      ∃ vs, g'.kids p slot = gc.kids p slot ++ vs ∧ (∀ s0, s0 ≠ slot → g'.kids p s0 = gc.kids p s0) ∧
        All2 (fun v a => Q a g' v) vs as ∧ ∀ v, v ∈ vs → gc.n ≤ v ∧ v < g'.n := by
  obtain ⟨r, e, fr', h', _, kp, c⟩ := (attach_gen hI (dec := liftDec dec) (Q := fun a g _ v => Q a g v) (B := False)
    (slot := slot) (T := T)
    (fun i a i' g pend hT h => by
      obtain ⟨g', v, e, fr', h', q⟩ := hdec i a i' g hT h
      exact .of_exists ⟨(g', v, pend), by simp only [liftDec, e], fr', h', PExt.refl _ _, q⟩)
    (fun i a p g _ g' _ v h hip hpv hv k _ q => hQ i a p g g' v h hip hpv hv k q)
    as i i' g gc [] p hch fr h0 hip hk).exists
  rw [decodeAttach_lift] at e
  cases hd : decodeAttach dec ir p slot gc as with
  | error e' => rw [hd] at e; cases e
  | ok g' =>
    rw [hd] at e
    cases e
    exact ⟨g', rfl, fr', h', kp, c⟩

end Gtirb.Loader
