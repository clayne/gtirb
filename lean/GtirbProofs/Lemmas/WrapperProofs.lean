import GtirbProofs.Lemmas.ForestInvProofs
/-! Helpers for property C16 (the owning collections refine the built-in list and set).

The content of a collection after a wrapper operation is computed from the `*_core` / `ends_*` theorems of
`ForestFrame.lean` (the forest part of the result is a pure function of the forest part of the
argument) and, for the operations that move nodes between sets, from the back-pointers of the result
together with the forest invariant of the result (`wr_moved_content`).

The `wr_*` lemmas speak of the primitives (`modInsert`, `setAdd`, ...); `step g (.op ..)` reduces to the primitive
by `rfl`, so a hypothesis `step g (.op ..) = .ok g'` can be given to them as it stands. The `C16_*_content`
theorems of `Props/C16.lean` are the same facts stated at `step`, one per operation. -/
namespace Gtirb.Forest

theorem wr_mem_foldl_erase : ∀ (vs l : List Nat), l.Nodup → ∀ x, x ∈ vs.foldl List.erase l ↔ x ∈ l ∧ x ∉ vs
  | [], l, _, x => by simp
  | a :: as, l, hl, x => by
    rw [List.foldl_cons, wr_mem_foldl_erase as (l.erase a) (hl.erase a) x, mem_erase_nodup hl]
    simp only [List.mem_cons, not_or]
    constructor
    · rintro ⟨⟨h1, h2⟩, h3⟩; exact ⟨h1, h2, h3⟩
    · rintro ⟨h1, h2, h3⟩; exact ⟨⟨h1, h2⟩, h3⟩

theorem wr_foldl_detach_kids (p : Nat) (s : Slot) : ∀ (vs : List Nat) (g : G) (q : Nat) (s' : Slot),
    (vs.foldl (fun g v => detach g p s v) g).kids q s' =
      if q = p ∧ s' = s then vs.foldl List.erase (g.kids p s) else g.kids q s'
  | [], g, q, s' => by
    simp only [List.foldl_nil]; split
    · rename_i h; rw [h.1, h.2]
    · rfl
  | a :: as, g, q, s' => by
    rw [List.foldl_cons, wr_foldl_detach_kids p s as, List.foldl_cons]
    simp only [detach_kids]
    by_cases h : q = p ∧ s' = s <;> simp [h]

theorem wr_setDiscard_kids {g g' : G} {p : Nat} {s : Slot} {v : Nat} (hs : setDiscard g p s v = .ok g')
    (q : Nat) (s' : Slot) :
    g'.kids q s' = if q = p ∧ s' = s then (g.kids p s).erase v else g.kids q s' := by
  rw [kids_of_core (setDiscard_core hs), detach_kids]; rfl

theorem wr_foldE_discard_kids {g g' : G} {p : Nat} {s : Slot} {vs : List Nat}
    (hs : foldE (fun g v => setDiscard g p s v) vs g = .ok g') (q : Nat) (s' : Slot) :
    g'.kids q s' = if q = p ∧ s' = s then vs.foldl List.erase (g.kids p s) else g.kids q s' := by
  have hc := (orKeyError_foldE_core (F := fun g v => detach g p s v) (fun g x => orKeyError_setDiscard g p s x) vs g).of_ok hs
  rw [kids_of_core hc, wr_foldl_detach_kids]; rfl

theorem wr_foldE_discard_content {g g' : G} {p : Nat} {s : Slot} {vs : List Nat} (hnd : (g.kids p s).Nodup)
    (hs : foldE (fun g v => setDiscard g p s v) vs g = .ok g') :
    (∀ x, x ∈ g'.kids p s ↔ x ∈ g.kids p s ∧ x ∉ vs) ∧
    (∀ q s', (q ≠ p ∨ s' ≠ s) → g'.kids q s' = g.kids q s') := by
  constructor
  · intro x
    rw [wr_foldE_discard_kids hs, if_pos ⟨rfl, rfl⟩, wr_mem_foldl_erase vs _ hnd]
  · intro q s' hne
    rw [wr_foldE_discard_kids hs, if_neg (not_and_of_not_or_not hne)]

theorem wr_moved_content {g g' : G} {p : Nat} {s : Slot} (N : Nat → Prop)
    (h : ForestInv g) (h' : ForestInv g') (hk : g'.kind = g.kind)
    (hN : ∀ c, N c → slotOf (g.kind c) = some s)
    (hpar : ∀ c, (N c → g'.par c = some p) ∧ (¬ N c → g'.par c = g.par c)) :
    (∀ x, x ∈ g'.kids p s ↔ x ∈ g.kids p s ∨ N x) ∧
    (∀ q s', (q ≠ p ∨ s' ≠ s) → ∀ x, x ∈ g'.kids q s' ↔ x ∈ g.kids q s' ∧ ¬ N x) := by
  constructor
  · intro x
    rw [h'.mem_iff, h.mem_iff, hk]
    by_cases hx : N x
    · simp [hx, (hpar x).1 hx, hN x hx]
    · simp [hx, (hpar x).2 hx]
  · intro q s' hne x
    rw [h'.mem_iff, h.mem_iff, hk]
    by_cases hx : N x
    · rw [(hpar x).1 hx, hN x hx]
      simp only [hx, not_true_eq_false, and_false, iff_false, not_and]
      intro e1 e2
      rcases hne with hne | hne
      · exact hne (Option.some.inj e1).symm
      · exact hne (Option.some.inj e2).symm
    · simp [hx, (hpar x).2 hx]

theorem wr_nodeSetAdd_content {g g' : G} {p : Nat} {s : Slot} {v : Nat} (h : ForestInv g) (hc : ChildOK g p s v)
    (hs : nodeSetAdd g p s v = .ok g') :
    (∀ x, x ∈ g'.kids p s ↔ x ∈ g.kids p s ∨ x = v) ∧
    (∀ q s', (q ≠ p ∨ s' ≠ s) → ∀ x, x ∈ g'.kids q s' ↔ x ∈ g.kids q s' ∧ x ≠ v) := by
  refine wr_moved_content (fun c => c = v) h (h.nodeSetAdd hc hs) (nodeSetAdd_stable hs).kind ?_ ?_
  · intro c hcv; rw [hcv]; exact hc.slot
  · intro c
    rw [nodeSetAdd_par h hs]
    constructor
    · intro hcv; rw [if_pos hcv]
    · intro hcv; rw [if_neg hcv]

theorem wr_toggle_content {g g' : G} {p : Nat} {s : Slot} {a : Nat} (h : ForestInv g) (hc : ChildOK g p s a)
    (hs : (if a ∈ g.kids p s then setDiscard g p s a else nodeSetAdd g p s a) = .ok g') :
    ForestInv g' ∧ Stable g g' ∧
    (∀ x, x ∈ g'.kids p s ↔ (x ∈ g.kids p s ∧ x ≠ a) ∨ (a ∉ g.kids p s ∧ x = a)) ∧
    (∀ q s', (q ≠ p ∨ s' ≠ s) → ∀ x, x ∈ g'.kids q s' ↔ x ∈ g.kids q s' ∧ x ≠ a) := by
  split at hs
  · rename_i hm
    refine ⟨h.setDiscard hs, setDiscard_stable hs, ?_, ?_⟩
    · intro x
      rw [wr_setDiscard_kids hs, if_pos ⟨rfl, rfl⟩, mem_erase_nodup (h.nodup p s)]
      simp [hm]
    · intro q s' hne x
      rw [wr_setDiscard_kids hs, if_neg (not_and_of_not_or_not hne)]
      constructor
      · intro hx
        refine ⟨hx, ?_⟩
        intro e; subst e
        exact h.only_there hm q s' (not_and_of_not_or_not hne) hx
      · exact fun hx => hx.1
  · rename_i hm
    obtain ⟨c1, c2⟩ := wr_nodeSetAdd_content h hc hs
    refine ⟨h.nodeSetAdd hc hs, nodeSetAdd_stable hs, ?_, c2⟩
    intro x
    rw [c1 x]
    by_cases hxa : x = a
    · subst hxa; simp [hm]
    · simp [hxa]

theorem wr_ixor_content {p : Nat} {s : Slot} : ∀ (vs : List Nat) (g g' : G), ForestInv g → vs.Nodup →
    (∀ v ∈ vs, ChildOK g p s v) →
    foldE (fun g v => if v ∈ g.kids p s then setDiscard g p s v else nodeSetAdd g p s v) vs g = .ok g' →
    (∀ x, x ∈ g'.kids p s ↔ (x ∈ g.kids p s ∧ x ∉ vs) ∨ (x ∉ g.kids p s ∧ x ∈ vs)) ∧
    (∀ q s', (q ≠ p ∨ s' ≠ s) → ∀ x, x ∈ g'.kids q s' ↔ x ∈ g.kids q s' ∧ x ∉ vs) := by
  intro vs
  induction vs with
  | nil =>
    intro g g' _ _ _ hs
    cases hs
    simp
  | cons a as ih =>
    intro g g' h hnd hc hs
    obtain ⟨g1, h1, h2⟩ := foldE_cons_ok hs
    rw [List.nodup_cons] at hnd
    obtain ⟨hf1, hst, t1, t2⟩ := wr_toggle_content h (hc a List.mem_cons_self) h1
    obtain ⟨i1, i2⟩ := ih g1 g' hf1 hnd.2
      (fun v hv => (hc v (List.mem_cons_of_mem _ hv)).of_stable hst) h2
    constructor
    · intro x
      rw [i1 x, t1 x]
      simp only [List.mem_cons, not_or]
      by_cases hxa : x = a
      · subst hxa
        by_cases hm : x ∈ g.kids p s <;> simp [hm, hnd.1]
      · simp [hxa]
    · intro q s' hne x
      rw [i2 q s' hne x, t2 q s' hne x]
      simp only [List.mem_cons, not_or]
      exact and_assoc

theorem wr_filter_erase {l : List Nat} (hl : l.Nodup) (a : Nat) (as : List Nat) :
    (l.erase a).filter (fun x => !(x ∈ as)) = l.filter (fun x => !(x ∈ a :: as)) := by
  rw [hl.erase_eq_filter, List.filter_filter]
  apply List.filter_congr
  intro x _
  by_cases hxa : x = a
  · simp [hxa]
  · simp [hxa]

theorem wr_modInsert_kids {g g' : G} {i : Nat} {k : Int} {v : Nat} (h : ForestInv g)
    (hslot : slotOf (g.kind v) = some .mods) (hs : modInsert g i k v = .ok g') (q : Nat) (s' : Slot) :
    g'.kids q s' =
      if q = i ∧ s' = .mods then pyInsert ((g.kids i .mods).erase v) k v else (g.kids q s').erase v := by
  rw [kids_of_core ((ends_modInsert _ _ _ _).of_ok hs)]
  unfold modInsertPure
  have hr : ∀ q s', (relink (core g) i .mods v).kids q s' = (g.kids q s').erase v := fun q s' =>
    (((forestInv_core g).2 h).toS Nowhere).relink_kids hslot q s' id
  simp only [kidsSet_kids, hr]

theorem wr_modAppend_kids {g g' : G} {i v : Nat} (h : ForestInv g)
    (hslot : slotOf (g.kind v) = some .mods) (hs : modAppend g i v = .ok g') (q : Nat) (s' : Slot) :
    g'.kids q s' = if q = i ∧ s' = .mods then (g.kids i .mods).erase v ++ [v] else (g.kids q s').erase v := by
  unfold modAppend at hs
  rw [wr_modInsert_kids h hslot hs, pyInsert_ge]
  exact List.erase_sublist.length_le

/-- keeping the last occurrence of every element: the head is kept iff it does not occur later -/
theorem reverse_eraseDups_cons (a : Nat) (as : List Nat) :
    ((a :: as).reverse.eraseDups).reverse = (if a ∈ as then [] else [a]) ++ (as.reverse.eraseDups).reverse := by
  rw [List.reverse_cons, List.eraseDups_append, List.reverse_append]
  congr 1
  by_cases ha : a ∈ as
  · have : [a].removeAll as.reverse = [] := by simp [List.removeAll, ha]
    rw [this, if_pos ha]; rfl
  · have : [a].removeAll as.reverse = [a] := by simp [List.removeAll, ha]
    rw [this, if_neg ha]; simp [List.eraseDups_cons]

theorem reverse_eraseDups_of_nodup (vs : List Nat) (h : vs.Nodup) : (vs.reverse.eraseDups).reverse = vs := by
  rw [List.eraseDups_of_nodup ((List.reverse_perm vs).nodup_iff.2 h), List.reverse_reverse]

/-- `extend`, repeated arguments allowed: appending one by one moves a module that is already in the list to the
end, so every argument ends up at the position of its last occurrence -/
theorem wr_extend_kids {i : Nat} : ∀ (vs : List Nat) (g g' : G), ForestInv g →
    (∀ v ∈ vs, ChildOK g i .mods v) → foldE (fun g v => modAppend g i v) vs g = .ok g' →
    ∀ q s', g'.kids q s' =
      if q = i ∧ s' = .mods then (g.kids i .mods).filter (fun x => !(x ∈ vs)) ++ (vs.reverse.eraseDups).reverse
      else (g.kids q s').filter (fun x => !(x ∈ vs)) := by
  intro vs
  induction vs with
  | nil =>
    intro g g' _ _ hs q s'
    cases hs
    split
    · rename_i hh; rw [hh.1, hh.2]; simp
      exact (List.filter_eq_self.2 (fun _ _ => rfl)).symm
    · simp
      exact (List.filter_eq_self.2 (fun _ _ => rfl)).symm
  | cons a as ih =>
    intro g g' h hc hs q s'
    obtain ⟨g1, h1, h2⟩ := foldE_cons_ok hs
    have hca := hc a List.mem_cons_self
    have hst := modAppend_stable h1
    have hk := wr_modAppend_kids h hca.slot h1
    rw [ih g1 g' (h.modAppend hca h1)
      (fun v hv => (hc v (List.mem_cons_of_mem _ hv)).of_stable hst) h2 q s']
    by_cases hq : q = i ∧ s' = .mods
    · rw [if_pos hq, if_pos hq, hk i .mods, if_pos ⟨rfl, rfl⟩, List.filter_append,
        wr_filter_erase (h.nodup i .mods), reverse_eraseDups_cons, List.append_assoc]
      congr 1
      by_cases ha : a ∈ as
      · simp [ha]
      · simp [ha]
    · rw [if_neg hq, if_neg hq, hk q s', if_neg hq, wr_filter_erase (h.nodup q s')]

theorem wr_extend_content {g g' : G} {i : Nat} {vs : List Nat} (h : ForestInv g)
    (hc : ∀ v ∈ vs, ChildOK g i .mods v) (hs : foldE (fun g v => modAppend g i v) vs g = .ok g') :
    g'.kids i .mods = (g.kids i .mods).filter (fun x => !(x ∈ vs)) ++ (vs.reverse.eraseDups).reverse ∧
    (∀ j, j ≠ i → g'.kids j .mods = (g.kids j .mods).filter (fun x => !(x ∈ vs))) ∧
    (∀ x, x ∈ g'.kids i .mods ↔ x ∈ g.kids i .mods ∨ x ∈ vs) := by
  have hk := wr_extend_kids vs g g' h hc hs
  refine ⟨?_, fun j hj => ?_, fun x => ?_⟩
  · rw [hk i .mods, if_pos ⟨rfl, rfl⟩]
  · rw [hk j .mods, if_neg (fun hh => hj hh.1)]
  · rw [hk i .mods, if_pos ⟨rfl, rfl⟩, List.mem_append, List.mem_filter]
    by_cases hx : x ∈ vs <;> simp [hx]

theorem wr_modListRemove_kids {g g' : G} {i v : Nat} (hs : modListRemove g i v = .ok g') (q : Nat) (s' : Slot) :
    g'.kids q s' = if q = i ∧ s' = .mods then (g.kids i .mods).erase v else g.kids q s' := by
  rw [kids_of_core (modListRemove_core hs), detach_kids]; rfl

theorem wr_modDelItem_content {g g' : G} {i : Nat} {k : Int} (hs : modDelItem g i k = .ok g') :
    ∃ idx old, pyIndex (g.kids i .mods).length k = some idx ∧ (g.kids i .mods)[idx]? = some old ∧
      g'.kids i .mods = (g.kids i .mods).eraseIdx idx ∧ g'.par old = none ∧
      (∀ c, c ≠ old → g'.par c = g.par c) ∧
      (∀ q s', (q ≠ i ∨ s' ≠ .mods) → g'.kids q s' = g.kids q s') := by
  obtain ⟨idx, old, h1, h2, hc⟩ := (ends_modDelItem _ _ _).of_ok hs
  refine ⟨idx, old, h1, h2, ?_, ?_, ?_, ?_⟩
  · rw [kids_of_core hc]; simp
  · rw [par_of_core hc]; simp
  · intro c hne
    rw [par_of_core hc]; simp [hne]
  · intro q s' hne
    rw [kids_of_core hc, kidsSet_kids, if_neg (not_and_of_not_or_not hne)]
    rfl

theorem wr_modSetItem_content {g g' : G} {i : Nat} {k : Int} {v : Nat} (h : ForestInv g)
    (hc : ChildOK g i .mods v) (hs : modSetItem g i k v = .ok g') :
    ∃ idx old, pyIndex (g.kids i .mods).length k = some idx ∧ (g.kids i .mods)[idx]? = some old ∧
      ¬(v ∈ g.kids i .mods ∧ v ≠ old) ∧
      g'.kids i .mods = (g.kids i .mods).set idx v ∧
      (∀ q s', (q ≠ i ∨ s' ≠ .mods) → g'.kids q s' = (g.kids q s').erase v) ∧
      (∀ c, g'.par c = if c = v then some i else if c = old then none else g.par c) := by
  obtain ⟨idx, old, hidx, hold, hne, hcore⟩ := (ends_modSetItem _ _ _ _).of_ok hs
  refine ⟨idx, old, hidx, hold, hne, ?_, ?_, ?_⟩
  · rw [kids_of_core hcore]
    unfold modSetItemPure
    simp only [kidsSet_kids, and_self, if_true]
    rw [relink_setPar_kids (g := core g) hne]
    rfl
  · intro q s' hqs
    have hqs' : ¬(q = i ∧ s' = .mods) := not_and_of_not_or_not hqs
    rw [kids_of_core hcore]
    unfold modSetItemPure
    simp only [kidsSet_kids, if_neg hqs']
    exact ((((forestInv_core g).2 h).toS (At i .mods)).of_setPar_none
      (fun p' s' hn => h.only_there (List.mem_of_getElem? hold) p' s' hn)).relink_kids hc.slot q s' hqs'
  · intro c
    rw [par_of_core hcore]
    unfold modSetItemPure
    simp only [kidsSet_par]
    rw [relink_par]
    simp only [setPar_par, core_par]

theorem wr_pyIndex_spec (len : Nat) (k : Int) :
    pyIndex len k = if -(len : Int) ≤ k ∧ k < len then some (k % len).toNat else none := by
  unfold pyIndex
  by_cases h1 : 0 ≤ k ∧ k < len
  · rw [if_pos h1, if_pos ⟨by omega, h1.2⟩, Int.emod_eq_of_lt h1.1 h1.2]
  · rw [if_neg h1]
    by_cases h2 : k < 0 ∧ 0 ≤ k + len
    · rw [if_pos h2, if_pos ⟨by omega, by omega⟩]
      have : k % (len : Int) = k + len := by
        rw [← Int.add_emod_right k len]
        exact Int.emod_eq_of_lt h2.2 (by omega)
      rw [this]
    · rw [if_neg h2, if_neg]
      intro hh; omega

/-- the collection operations whose built-in counterpart never raises -/
def wr_neverRaises : Op → Bool
  | .add _ _ _ | .discard _ _ _ | .update _ _ _ | .isub _ _ _ | .ixor _ _ _ => true
  | .insert _ _ _ | .append _ _ | .extend _ _ | .reverse _ | .listClear _ => true
  | _ => false

theorem wr_erase_other_slot {g : G} (h : ForestInv g) {v : Nat} {s : Slot} (hslot : slotOf (g.kind v) = some s)
    (q : Nat) {s' : Slot} (hne : s' ≠ s) : (g.kids q s').erase v = g.kids q s' := by
  rw [List.erase_of_not_mem]
  intro hm
  have h2 := h.slot_of_mem hm
  rw [hslot] at h2
  exact hne (Option.some.inj h2).symm

theorem orKeyError_modDelItem {g : G} {i : Nat} {k : Int} {idx : Nat}
    (hidx : pyIndex (g.kids i .mods).length k = some idx) :
    OrKeyError (modDelItem g i k) fun g1 =>
      ∃ old, (g.kids i .mods)[idx]? = some old ∧ g1.kids i .mods = (g.kids i .mods).eraseIdx idx ∧
        g1.par old = none ∧ (∀ c, c ≠ old → g1.par c = g.par c) ∧
        (∀ q s', (q ≠ i ∨ s' ≠ .mods) → g1.kids q s' = g.kids q s') ∧ Stable g g1 ∧
        (ForestInv g → ForestInv g1) := by
  cases hs : modDelItem g i k with
  | ok g1 =>
    obtain ⟨idx', old, h1, h2, h3, h4, h5, h6⟩ := wr_modDelItem_content hs
    rw [hidx] at h1
    cases h1
    exact ⟨old, h2, h3, h4, h5, h6, modDelItem_stable hs, fun h => h.modDelItem hs⟩
  | error e =>
    rcases (ends_modDelItem g i k).of_error hs with h2 | h2
    · cases hidx.symm.trans h2.2
    · exact h2

/-- `clear()`: `del self[-1]` once for every element -/
theorem orKeyError_modClear {i : Nat} : ∀ (xs : List Nat) (g : G), xs.length = (g.kids i .mods).length →
    OrKeyError (foldE (fun g _ => modDelItem g i (-1)) xs g) fun g' =>
      g'.kids i .mods = [] ∧ ∀ q s', (q ≠ i ∨ s' ≠ .mods) → g'.kids q s' = g.kids q s'
  | [], _, hl => ⟨List.eq_nil_of_length_eq_zero hl.symm, fun _ _ _ => rfl⟩
  | _ :: xs, g, hl => by
    rw [List.length_cons] at hl
    refine (orKeyError_modDelItem (pyIndex_of_neg (by decide) (by omega))).bind ?_
    rintro g1 ⟨old, hold, hk, _, _, hoth, _, _⟩
    have hl1 : xs.length = (g1.kids i .mods).length := by
      rw [hk, List.length_eraseIdx, if_pos (List.getElem?_eq_some_iff.1 hold).1]
      omega
    exact (orKeyError_modClear xs g1 hl1).mono fun g' r => ⟨r.1, fun q s' hne => (r.2 q s' hne).trans (hoth q s' hne)⟩

end Gtirb.Forest
