import GtirbModel.TypeName
/-! Helper lemmas for C15 (type-name parser accepts exactly the grammar). -/
namespace Gtirb.TypeName

def GoodName (n : List Char) : Prop := n ≠ [] ∧ ∀ c ∈ n, isDelim c = false

mutual
def WF : Tree → Prop
  | .node n ks => GoodName n ∧ WFList ks
def WFList : List Tree → Prop
  | [] => True
  | t :: ts => WF t ∧ WFList ts
end

mutual
/-- the token sequence generated by the grammar for a tree (same shape as `render`) -/
def toks : Tree → List Tok
  | .node n ks =>
    match ks with
    | [] => [.name n]
    | _ :: _ => .name n :: .lt :: (toksList ks ++ [.gt])
def toksList : List Tree → List Tok
  | [] => []
  | t :: ts =>
    match ts with
    | [] => toks t
    | _ :: _ => toks t ++ .comma :: toksList ts
end

def untokOne : Tok → List Char
  | .name s => s
  | .lt => ['<']
  | .gt => ['>']
  | .comma => [',']

def untok : List Tok → List Char
  | [] => []
  | t :: ts => untokOne t ++ untok ts

theorem untokOne_name (s : List Char) : untokOne (.name s) = s := rfl
theorem untok_nil : untok [] = [] := rfl
theorem untok_cons (t : Tok) (ts : List Tok) : untok (t :: ts) = untokOne t ++ untok ts := rfl

theorem untok_append (a b : List Tok) : untok (a ++ b) = untok a ++ untok b := by
  induction a with
  | nil => rfl
  | cons x xs ih => simp [untok, ih]

theorem render_leaf (n : List Char) : render (.node n []) = n := by simp [render]
theorem render_node (n : List Char) (k : Tree) (ks : List Tree) :
    render (.node n (k :: ks)) = n ++ '<' :: (renderList (k :: ks) ++ ['>']) := by simp [render]
theorem renderList_one (t : Tree) : renderList [t] = render t := by simp [renderList]
theorem renderList_cons (t k : Tree) (ks : List Tree) :
    renderList (t :: k :: ks) = render t ++ ',' :: renderList (k :: ks) := by simp [renderList]

theorem toks_leaf (n : List Char) : toks (.node n []) = [.name n] := by simp [toks]
theorem toks_node (n : List Char) (k : Tree) (ks : List Tree) :
    toks (.node n (k :: ks)) = .name n :: .lt :: (toksList (k :: ks) ++ [.gt]) := by simp [toks]
theorem toksList_one (t : Tree) : toksList [t] = toks t := by simp [toksList]
theorem toksList_cons (t k : Tree) (ks : List Tree) :
    toksList (t :: k :: ks) = toks t ++ .comma :: toksList (k :: ks) := by simp [toksList]

theorem untok_toks_all :
    (∀ t : Tree, untok (toks t) = render t) ∧ ∀ ts : List Tree, untok (toksList ts) = renderList ts := by
  apply toks.mutual_induct <;>
    simp_all [toks, toksList, render, renderList, untok, untokOne, untok_append]

theorem untok_toks : ∀ t : Tree, untok (toks t) = render t := untok_toks_all.1
theorem untok_toksList : ∀ ts : List Tree, untok (toksList ts) = renderList ts := untok_toks_all.2

theorem isDelim_cases {c : Char} (h : isDelim c = true) : c = '<' ∨ c = '>' ∨ c = ',' := by
  simpa [isDelim, or_assoc] using h

theorem untokOne_delimTok {c : Char} (h : isDelim c = true) : untokOne (delimTok c) = [c] := by
  rcases isDelim_cases h with rfl | rfl | rfl <;> decide

theorem untok_tokenizeAux (acc cs : List Char) :
    untok (tokenizeAux acc cs) = acc.reverse ++ cs := by
  fun_induction tokenizeAux acc cs <;>
    simp_all [untok_cons, untok_nil, untokOne_name, untokOne_delimTok]

theorem untok_tokenize (cs : List Char) : untok (tokenize cs) = cs := by
  simp [tokenize, untok_tokenizeAux]

theorem name_ne_delimTok (s : List Char) (c : Char) : Tok.name s ≠ delimTok c := by
  unfold delimTok
  split
  · simp
  · split <;> simp

theorem goodName_reverse {acc : List Char} (hne : ¬ acc.isEmpty = true)
    (hacc : ∀ c ∈ acc, isDelim c = false) : GoodName acc.reverse :=
  ⟨by simpa using hne, fun c hc => hacc c (by simpa using hc)⟩

theorem tokenizeAux_names (acc cs : List Char) (hacc : ∀ c ∈ acc, isDelim c = false)
    (s : List Char) (hs : Tok.name s ∈ tokenizeAux acc cs) : GoodName s := by
  fun_induction tokenizeAux acc cs
  case case1 => cases hs
  case case2 hne =>
    obtain rfl : s = _ := by simpa using hs
    exact goodName_reverse hne hacc
  case case3 c cs hc _ ih =>
    rcases List.mem_cons.1 hs with h | h
    · exact absurd h (name_ne_delimTok s c)
    · exact ih (by simp) h
  case case4 c cs hc hne ih =>
    rcases List.mem_cons.1 hs with h | h
    · cases h
      exact goodName_reverse hne hacc
    · rcases List.mem_cons.1 h with h | h
      · exact absurd h (name_ne_delimTok s c)
      · exact ih (by simp) h
  case case5 c cs hc ih =>
    refine ih (fun x hx => ?_) hs
    rcases List.mem_cons.1 hx with rfl | hx
    · simpa using hc
    · exact hacc x hx

theorem tokenize_names (cs s : List Char) (hs : Tok.name s ∈ tokenize cs) : GoodName s :=
  tokenizeAux_names [] cs (by simp) s hs

theorem tokenizeAux_run (n acc rest : List Char) (hn : ∀ c ∈ n, isDelim c = false) :
    tokenizeAux acc (n ++ rest) = tokenizeAux (n.reverse ++ acc) rest := by
  induction n generalizing acc with
  | nil => rfl
  | cons c n ih =>
    have hc : isDelim c = false := hn c (by simp)
    simp [tokenizeAux, hc]
    rw [ih (c :: acc) (fun x hx => hn x (by simp [hx]))]

/-- `rest` is empty or starts with a delimiter (so a preceding name token ends there) -/
def DelimStart : List Char → Prop
  | [] => True
  | c :: _ => isDelim c = true

theorem tokenize_name_append (n rest : List Char) (hn : GoodName n) (hr : DelimStart rest) :
    tokenize (n ++ rest) = .name n :: tokenize rest := by
  unfold tokenize
  rw [tokenizeAux_run n [] rest hn.2]
  have hne : n.reverse ++ [] ≠ [] := by simpa using hn.1
  generalize hacc : n.reverse ++ [] = acc at *
  have hrev : acc.reverse = n := by simp [← hacc]
  cases acc with
  | nil => exact absurd rfl hne
  | cons a acc =>
    cases rest with
    | nil => simp [tokenizeAux, ← hrev]
    | cons c cs =>
      have hc : isDelim c = true := hr
      simp [tokenizeAux, hc, ← hrev]

theorem tokenize_delim (c : Char) (cs : List Char) (hc : isDelim c = true) :
    tokenize (c :: cs) = delimTok c :: tokenize cs := by
  simp [tokenize, tokenizeAux, hc]

mutual
theorem tokenize_render : ∀ (t : Tree) (rest : List Char), WF t → DelimStart rest →
    tokenize (render t ++ rest) = toks t ++ tokenize rest
  | .node n [], rest, h, hr => by
    simp only [WF] at h
    simp [render_leaf, toks_leaf, tokenize_name_append n rest h.1 hr]
  | .node n (k :: ks), rest, h, hr => by
    simp only [WF] at h
    have ih := tokenize_renderList (k :: ks) ('>' :: rest) (by simp) h.2 (by simp [DelimStart, isDelim])
    rw [render_node, toks_node]
    simp only [List.append_assoc, List.cons_append, List.nil_append]
    rw [tokenize_name_append n _ h.1 (by simp [DelimStart, isDelim])]
    rw [tokenize_delim '<' _ (by decide), ih, tokenize_delim '>' _ (by decide)]
    simp [delimTok]
theorem tokenize_renderList : ∀ (ts : List Tree) (rest : List Char), ts ≠ [] → WFList ts →
    DelimStart rest → tokenize (renderList ts ++ rest) = toksList ts ++ tokenize rest
  | [], _, hne, _, _ => absurd rfl hne
  | [t], rest, _, h, hr => by
    simp only [WFList] at h
    simp [renderList_one, toksList_one, tokenize_render t rest h.1 hr]
  | t :: k :: ks, rest, _, h, hr => by
    simp only [WFList] at h
    have ih := tokenize_renderList (k :: ks) rest (by simp) ⟨h.2.1, h.2.2⟩ hr
    rw [renderList_cons, toksList_cons]
    simp only [List.append_assoc, List.cons_append]
    rw [tokenize_render t _ h.1 (by simp [DelimStart, isDelim]),
      tokenize_delim ',' _ (by decide), ih]
    simp [delimTok]
end

/-- `rest` does not start with `<` (so a preceding leaf name is parsed as a leaf) -/
def NoLt : List Tok → Prop
  | .lt :: _ => False
  | _ => True

theorem toksList_cons' (t : Tree) (ts : List Tree) (h : ts ≠ []) :
    toksList (t :: ts) = toks t ++ .comma :: toksList ts := by
  cases ts with
  | nil => exact absurd rfl h
  | cons k ks => exact toksList_cons t k ks

mutual
theorem parseT_toks : ∀ (t : Tree) (rest : List Tok) (fuel : Nat), NoLt rest →
    (toks t).length ≤ fuel → parseT fuel (toks t ++ rest) = some (t, rest)
  | .node n [], rest, fuel, hr, hf => by
    rw [toks_leaf] at hf ⊢
    cases fuel with
    | zero => simp at hf
    | succ f =>
      cases rest with
      | nil => simp [parseT]
      | cons r rest => cases r <;> simp_all [parseT, NoLt]
  | .node n (k :: ks), rest, fuel, _, hf => by
    rw [toks_node] at hf ⊢
    cases fuel with
    | zero => simp at hf
    | succ f =>
      have ih := parseArgs_toks (k :: ks) rest f (by simp)
        (by simp only [List.length_cons, List.length_append, List.length_nil] at hf; omega)
      simp [parseT, ih]
theorem parseArgs_toks : ∀ (ts : List Tree) (rest : List Tok) (fuel : Nat), ts ≠ [] →
    (toksList ts).length + 1 ≤ fuel →
    parseArgs fuel (toksList ts ++ .gt :: rest) = some (ts, .gt :: rest)
  | [], _, _, hne, _ => absurd rfl hne
  | [t], rest, fuel, _, hf => by
    rw [toksList_one] at hf ⊢
    cases fuel with
    | zero => simp at hf
    | succ f =>
      have ih := parseT_toks t (.gt :: rest) f (by simp [NoLt]) (by omega)
      simp [parseArgs, ih]
  | t :: k :: ks, rest, fuel, _, hf => by
    rw [toksList_cons] at hf ⊢
    cases fuel with
    | zero => simp at hf
    | succ f =>
      simp only [List.length_cons, List.length_append] at hf
      have ih1 := parseT_toks t (.comma :: (toksList (k :: ks) ++ .gt :: rest)) f
        (by simp [NoLt]) (by omega)
      have ih2 := parseArgs_toks (k :: ks) rest f (by simp) (by omega)
      simp [parseArgs, ih1, ih2]
end

theorem parse_sound (fuel : Nat) :
    (∀ ts t rest, parseT fuel ts = some (t, rest) → ts = toks t ++ rest) ∧
    (∀ ts as rest, parseArgs fuel ts = some (as, rest) → as ≠ [] ∧ ts = toksList as ++ rest) := by
  induction fuel with
  | zero => simp [parseT, parseArgs]
  | succ f ih =>
    obtain ⟨ihT, ihA⟩ := ih
    constructor
    · intro ts t rest h
      generalize hf : f + 1 = fuel at h
      revert h
      fun_cases parseT fuel ts <;> intro h
      case case2 s xs args rest' hA =>
        cases hf
        cases h
        obtain ⟨hne, rfl⟩ := ihA _ _ _ hA
        cases args with
        | nil => exact absurd rfl hne
        | cons k ks => simp [toks_node]
      case case4 s xs _ =>
        cases h
        simp [toks_leaf]
      all_goals cases h
    · intro ts as rest h
      generalize hf : f + 1 = fuel at h
      revert h
      fun_cases parseArgs fuel ts <;> intro h
      case case2 t r1 as' r2 hA hT =>
        cases hf
        cases h
        obtain ⟨hne, rfl⟩ := ihA _ _ _ hA
        obtain rfl := ihT _ _ _ hT
        exact ⟨by simp, by simp [toksList_cons' t as' hne]⟩
      case case4 t r1 _ hT =>
        cases hf
        cases h
        obtain rfl := ihT _ _ _ hT
        exact ⟨by simp, by simp [toksList_one]⟩
      all_goals cases h

/-- `WF` and "every name token is a legal name" are the same recursion over the tree -/
theorem wf_of_names_all : (∀ t : Tree, (∀ s, Tok.name s ∈ toks t → GoodName s) → WF t) ∧
    ∀ ts : List Tree, (∀ s, Tok.name s ∈ toksList ts → GoodName s) → WFList ts := by
  apply toks.mutual_induct <;> simp_all [toks, toksList, WF, WFList]

theorem wf_of_names : ∀ t : Tree, (∀ s, Tok.name s ∈ toks t → GoodName s) → WF t :=
  wf_of_names_all.1
theorem wfList_of_names : ∀ ts : List Tree, (∀ s, Tok.name s ∈ toksList ts → GoodName s) → WFList ts :=
  wf_of_names_all.2

end Gtirb.TypeName
