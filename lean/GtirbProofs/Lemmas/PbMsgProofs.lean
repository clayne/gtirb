import GtirbProofs.Lemmas.PbMsgLemmas
import GtirbProofs.Lemmas.PbMsgLower
import GtirbProofs.Lemmas.PbMsgExtra
