import GtirbModel.Loader
import GtirbProofs.Lemmas.ForestFrame
import GtirbProofs.Lemmas.ParChains
/-! The staged loader (`GtirbModel/Loader.lean`) without any invariant. Each decoder is opened once: `onFresh` is
the lookup of `Node._from_protobuf` followed by the body run on a node that was not in the table; `*_cases` inverts
a successful run, `*_of` runs a decoder forward from its stages. What a decoder creates is one traversal (`Trace`)
for the kinds (`Made`) and the UUIDs (`Uq`). -/
namespace Gtirb.Loader
open Gtirb.Forest

/-- the common shape of `decodeBlocks` (and of the list decoders `decodeIntervals`, ..., which
`decodeSection` / `decodeModule` do not use: they run `decodeAttach`) -/
def decodeList {α : Type} (f : G → α → Except LErr (G × Nat)) : G → List α → Except LErr (G × List Nat)
  | g, [] => .ok (g, [])
  | g, a :: as =>
    match f g a with
    | .error e => .error e
    | .ok (g1, v) =>
      match decodeList f g1 as with
      | .error e => .error e
      | .ok (g2, vs) => .ok (g2, v :: vs)

theorem decodeList_cons {α : Type} {f : G → α → Except LErr (G × Nat)} {g g' : G} {a : α} {as : List α}
    {vs : List Nat} (h : decodeList f g (a :: as) = .ok (g', vs)) :
    ∃ g1 v vs', f g a = .ok (g1, v) ∧ decodeList f g1 as = .ok (g', vs') ∧ vs = v :: vs' := by
  simp only [decodeList] at h
  split at h
  · cases h
  · rename_i g1 v h1
    split at h
    · cases h
    · rename_i g2 vs' h2
      cases h
      exact ⟨g1, v, vs', h1, h2, rfl⟩

theorem decodeList_unique {α : Type} {f : G → α → Except LErr (G × Nat)}
    {F : G → List α → Except LErr (G × List Nat)} (hnil : ∀ g, F g [] = .ok (g, []))
    (hcons : ∀ g a as, F g (a :: as) =
      match f g a with
      | .error e => .error e
      | .ok (g1, v) =>
        match F g1 as with
        | .error e => .error e
        | .ok (g2, vs) => .ok (g2, v :: vs)) :
    ∀ (as : List α) (g : G), F g as = decodeList f g as
  | [], g => hnil g
  | a :: as, g => by
    rw [hcons, decodeList]
    cases f g a with
    | error e => rfl
    | ok r => obtain ⟨g1, v⟩ := r; simp only [decodeList_unique hnil hcons as g1]

theorem decodeBlocks_eq (ir : Nat) : ∀ (bs : List (Nat × Bool)) (g : G),
    decodeBlocks ir g bs = decodeList (fun g b => decodeBlock g ir b) g bs :=
  decodeList_unique (fun _ => rfl) (fun _ _ _ => rfl)

theorem decodeIntervals_eq (ir : Nat) : ∀ (xs : List SkInterval) (g : G),
    decodeIntervals ir g xs = decodeList (fun g x => decodeInterval g ir x) g xs :=
  decodeList_unique (fun _ => rfl) (fun _ _ _ => rfl)

theorem decodeSections_eq (ir : Nat) : ∀ (xs : List SkSection) (g : G),
    decodeSections ir g xs = decodeList (fun g x => decodeSection g ir x) g xs :=
  decodeList_unique (fun _ => rfl) (fun _ _ _ => rfl)

theorem decodeProxies_eq (ir : Nat) : ∀ (xs : List Nat) (g : G),
    decodeProxies ir g xs = decodeList (fun g x => decodeProxy g ir x) g xs :=
  decodeList_unique (fun _ => rfl) (fun _ _ _ => rfl)

theorem decodeSymbols_eq (ir : Nat) : ∀ (xs : List SkSymbol) (g : G),
    decodeSymbols ir g xs = decodeList (fun g x => decodeSymbol g ir x) g xs :=
  decodeList_unique (fun _ => rfl) (fun _ _ _ => rfl)

theorem liftE_ok {x : Except Exc G} {g : G} (h : liftE x = .ok g) : x = .ok g := by
  unfold liftE at h
  split at h
  · cases h; rfl
  · cases h

def onFresh (g : G) (ir : Nat) (k : Kind) (u : Nat) (body : G → Nat → Except LErr (G × Nat)) :
    Except LErr (G × Nat) :=
  match fromProto g ir k u with
  | .error e => .error e
  | .ok (g1, v, fresh) => if !fresh then .ok (g1, v) else body g1 v

theorem onFresh_miss {g : G} {ir u : Nat} (k : Kind) (body : G → Nat → Except LErr (G × Nat))
    (h : g.cache ir u = none) : onFresh g ir k u body = body (alloc g k u).1 g.n := by
  unfold onFresh fromProto; rw [h]; rfl

theorem onFresh_ok {g g' : G} {ir : Nat} {k : Kind} {u v : Nat} {body : G → Nat → Except LErr (G × Nat)}
    (h : onFresh g ir k u body = .ok (g', v)) :
    (g' = g ∧ g.cache ir u = some v ∧ g.kind v = k) ∨
    (g.cache ir u = none ∧ body (alloc g k u).1 g.n = .ok (g', v)) := by
  cases hc : g.cache ir u with
  | none => rw [onFresh_miss k body hc] at h; exact .inr ⟨rfl, h⟩
  | some n =>
    unfold onFresh fromProto at h
    rw [hc] at h
    by_cases hk : g.kind n = k
    · simp only [hk, if_true] at h
      cases h; exact .inl ⟨rfl, rfl, hk⟩
    · simp only [hk, if_false] at h
      cases h

/-- a node whose message has no children: block, proxy -/
def decodeLeaf (k : Kind) (g : G) (ir u : Nat) : Except LErr (G × Nat) :=
  onFresh g ir k u fun g1 v => .ok (cacheSet g1 ir u v, v)

theorem decodeBlock_eq (g : G) (ir : Nat) (b : Nat × Bool) :
    decodeBlock g ir b = decodeLeaf (if b.2 then .code else .data) g ir b.1 := by
  unfold decodeBlock decodeLeaf onFresh
  cases fromProto g ir (if b.2 then .code else .data) b.1 with
  | error e => rfl
  | ok r => obtain ⟨g1, v, fresh⟩ := r; cases fresh <;> rfl

theorem decodeProxy_eq (g : G) (ir u : Nat) : decodeProxy g ir u = decodeLeaf .proxy g ir u := by
  unfold decodeProxy decodeLeaf onFresh
  cases fromProto g ir .proxy u with
  | error e => rfl
  | ok r => obtain ⟨g1, v, fresh⟩ := r; cases fresh <;> rfl

theorem decodeLeaf_miss {g : G} {ir u : Nat} (k : Kind) (h : g.cache ir u = none) :
    decodeLeaf k g ir u = .ok (cacheSet (alloc g k u).1 ir u g.n, g.n) := onFresh_miss k _ h

theorem decodeLeaf_cases {k : Kind} {g g' : G} {ir u v : Nat} (h : decodeLeaf k g ir u = .ok (g', v)) :
    (g' = g ∧ g.cache ir u = some v ∧ g.kind v = k) ∨
    (g.cache ir u = none ∧ v = g.n ∧ g' = cacheSet (alloc g k u).1 ir u g.n) := by
  rcases onFresh_ok h with h | ⟨hc, hb⟩
  · exact .inl h
  · cases hb; exact .inr ⟨hc, rfl, rfl⟩

theorem decodeInterval_of {g g2 g3 : G} {ir : Nat} {x : SkInterval} {bs : List Nat} (hc : g.cache ir x.uuid = none)
    (hbs : decodeBlocks ir (alloc g .interval x.uuid).1 x.blocks = .ok (g2, bs)) (hblk : blkUpdate g2 g.n bs = .ok g3) :
    decodeInterval g ir x = .ok (cacheAddInterval g3 ir g.n, g.n) := by
  show onFresh g ir .interval x.uuid _ = _
  rw [onFresh_miss _ _ hc]
  simp only [hbs, hblk, liftE]

theorem decodeInterval_cases {g g' : G} {ir v : Nat} {x : SkInterval} (h : decodeInterval g ir x = .ok (g', v)) :
    (g' = g ∧ g.cache ir x.uuid = some v ∧ g.kind v = .interval) ∨
    (g.cache ir x.uuid = none ∧ v = g.n ∧ ∃ g2 bs g3,
      decodeBlocks ir (alloc g .interval x.uuid).1 x.blocks = .ok (g2, bs) ∧ blkUpdate g2 g.n bs = .ok g3 ∧
      g' = cacheAddInterval g3 ir g.n) := by
  rcases onFresh_ok (k := .interval) h with h | ⟨hc, hb⟩
  · exact .inl h
  · refine .inr ⟨hc, ?_⟩
    split at hb
    · cases hb
    · rename_i g2 bs hbs
      split at hb
      · cases hb
      · rename_i g3 hblk
        cases hb
        exact ⟨rfl, g2, bs, g3, hbs, liftE_ok hblk, rfl⟩

theorem decodeSection_of {g g4 : G} {ir : Nat} {s : SkSection} (hc : g.cache ir s.uuid = none)
    (hat : decodeAttach decodeInterval ir g.n .bis (cacheSet (alloc g .section s.uuid).1 ir s.uuid g.n) s.intervals
      = .ok g4) : decodeSection g ir s = .ok (g4, g.n) := by
  show onFresh g ir .section s.uuid _ = _
  rw [onFresh_miss _ _ hc]
  simp only [hat]

theorem decodeSection_cases {g g' : G} {ir v : Nat} {s : SkSection} (h : decodeSection g ir s = .ok (g', v)) :
    (g' = g ∧ g.cache ir s.uuid = some v ∧ g.kind v = .section) ∨
    (g.cache ir s.uuid = none ∧ v = g.n ∧
      decodeAttach decodeInterval ir g.n .bis (cacheSet (alloc g .section s.uuid).1 ir s.uuid g.n) s.intervals
        = .ok g') := by
  rcases onFresh_ok (k := .section) h with h | ⟨hc, hb⟩
  · exact .inl h
  · refine .inr ⟨hc, ?_⟩
    dsimp only at hb
    split at hb
    · cases hb
    · rename_i g4 hat
      cases hb
      exact ⟨rfl, hat⟩

/-- the referent of a symbol message, looked up in the table while the symbol `g.n` is being made -/
inductive Resolves (g : G) (ir : Nat) : SkPayload → Payload → Prop
  | none : Resolves g ir .none .none
  | int (n : Nat) : Resolves g ir (.int n) (.int n)
  | ref (u b : Nat) : g.cache ir u = some b → b ≠ g.n → isBlock (g.kind b) = true →
      Resolves g ir (.ref u) (.block b)

theorem Resolves.of_block {g : G} {ir : Nat} {p : SkPayload} {b : Nat} (h : Resolves g ir p (.block b)) :
    ∃ u, p = .ref u ∧ g.cache ir u = some b ∧ b ≠ g.n ∧ isBlock (g.kind b) = true := by
  cases h with
  | ref u b h1 h2 h3 => exact ⟨u, rfl, h1, h2, h3⟩

/-- the state after a fresh symbol was decoded -/
def symState (g : G) (ir u nm : Nat) (pl : Payload) : G :=
  let g1 := (alloc g .symbol u).1
  let g2 := { g1 with name := fun x => if x = g.n then nm else g1.name x }
  let g3 := { g2 with payload := fun x => if x = g.n then pl else g2.payload x }
  cacheSet g3 ir u g.n

theorem decodeSymbol_of {g : G} {ir : Nat} {x : SkSymbol} {pl : Payload} (hc : g.cache ir x.uuid = none)
    (hres : Resolves g ir x.payload pl) : decodeSymbol g ir x = .ok (symState g ir x.uuid x.name pl, g.n) := by
  obtain ⟨u, nm, p⟩ := x
  show onFresh g ir .symbol u _ = _
  rw [onFresh_miss _ _ hc]
  cases hres with
  | none => rfl
  | int n => rfl
  | ref w b hcb hb hk =>
    simp only [alloc_cache, hcb, alloc_kind, if_neg hb, hk, if_true]
    rfl

theorem decodeSymbol_cases {g g' : G} {ir v : Nat} {x : SkSymbol} (h : decodeSymbol g ir x = .ok (g', v)) :
    (g' = g ∧ g.cache ir x.uuid = some v ∧ g.kind v = .symbol) ∨
    (g.cache ir x.uuid = none ∧ v = g.n ∧ ∃ pl, Resolves g ir x.payload pl ∧ g' = symState g ir x.uuid x.name pl) := by
  obtain ⟨u, nm, p⟩ := x
  rcases onFresh_ok (k := .symbol) h with h | ⟨hc, hb⟩
  · exact .inl h
  · refine .inr ⟨hc, ?_⟩
    dsimp only at hb
    split at hb
    · cases hb
    · rename_i pl hpl
      cases hb
      refine ⟨rfl, pl, ?_, rfl⟩
      cases p with
      | none => cases hpl; exact .none
      | int n => cases hpl; exact .int n
      | ref w =>
        dsimp only at hpl
        split at hpl
        · rename_i b hb
          split at hpl
          · rename_i hk
            cases hpl
            have hne : b ≠ g.n := by
              intro e; rw [e] at hk; simp [isBlock] at hk
            simp only [alloc_kind, if_neg hne] at hk
            exact .ref w b hb hne hk
          · cases hpl
        · cases hpl

/-- the stages of a module message that is really decoded: `g4` proxies added, `g6` sections added (the entry
point is resolved here), `g8` symbols added (the symbols of the expressions are resolved here) -/
structure ModRun (g : G) (ir : Nat) (m : SkModule) (g4 g6 g8 : G) : Prop where
  proxies : decodeAttach decodeProxy ir g.n .proxies (cacheSet (alloc g .module m.uuid).1 ir m.uuid g.n) m.proxies
    = .ok g4
  sections : decodeAttach decodeSection ir g.n .secs g4 m.sections = .ok g6
  symbols : decodeAttach decodeSymbol ir g.n .syms g6 m.symbols = .ok g8

theorem decodeModule_of {g g4 g6 g8 : G} {ir : Nat} {m : SkModule} (hc : g.cache ir m.uuid = none)
    (hr : ModRun g ir m g4 g6 g8) (hent : ∀ u, m.entry = some u → refKind g6 ir (fun k => k == Kind.code) u = .ok ())
    (hchk : checkAll g8 ir (fun k => k == Kind.symbol) m.exprSyms = .ok ()) :
    decodeModule g ir m = .ok (g8, g.n) := by
  show onFresh g ir .module m.uuid _ = _
  rw [onFresh_miss _ _ hc]
  dsimp only
  rw [hr.proxies]
  dsimp only
  rw [hr.sections]
  cases he : m.entry with
  | none => simp only [hr.symbols, hchk]
  | some u => simp only [hent u he, hr.symbols, hchk]

theorem decodeModule_cases {g g' : G} {ir v : Nat} {m : SkModule} (h : decodeModule g ir m = .ok (g', v)) :
    (g' = g ∧ g.cache ir m.uuid = some v ∧ g.kind v = .module) ∨
    (g.cache ir m.uuid = none ∧ v = g.n ∧ ∃ g4 g6, ModRun g ir m g4 g6 g' ∧
      (∀ u, m.entry = some u → refKind g6 ir (fun k => k == Kind.code) u = .ok ()) ∧
      checkAll g' ir (fun k => k == Kind.symbol) m.exprSyms = .ok ()) := by
  rcases onFresh_ok (k := .module) h with h | ⟨hc, hb⟩
  · exact .inl h
  · refine .inr ⟨hc, ?_⟩
    dsimp only at hb
    split at hb
    · cases hb
    · rename_i g4 hat4
      split at hb
      · cases hb
      · rename_i g6 hat6
        split at hb
        · cases hb
        · rename_i hent
          split at hb
          · cases hb
          · rename_i g8 hat8
            split at hb
            · cases hb
            · rename_i hchk
              cases hb
              refine ⟨rfl, g4, g6, ⟨hat4, hat6, hat8⟩, ?_, hchk⟩
              intro u hu
              rw [hu] at hent
              exact hent

theorem decodeAttach_cons {α : Type} {dec : G → Nat → α → Except LErr (G × Nat)} {ir p : Nat} {s : Slot}
    {g g' : G} {a : α} {as : List α} (h : decodeAttach dec ir p s g (a :: as) = .ok g') :
    ∃ g1 v g2, dec g ir a = .ok (g1, v) ∧ setAdd g1 p s v = .ok g2 ∧ decodeAttach dec ir p s g2 as = .ok g' := by
  simp only [decodeAttach] at h
  split at h
  · cases h
  · rename_i g1 v h1
    split at h
    · cases h
    · rename_i g2 h2
      exact ⟨g1, v, g2, h1, liftE_ok h2, h⟩

theorem decodeAttach_cons_of {α : Type} {dec : G → Nat → α → Except LErr (G × Nat)} {ir p : Nat} {s : Slot}
    {g g1 g2 : G} {a : α} {v : Nat} (as : List α) (h1 : dec g ir a = .ok (g1, v)) (h2 : setAdd g1 p s v = .ok g2) :
    decodeAttach dec ir p s g (a :: as) = decodeAttach dec ir p s g2 as := by
  simp only [decodeAttach, h1, h2, liftE]

theorem decodeModules_cons {ir : Nat} {g g' : G} {m : SkModule} {ms : List SkModule}
    (h : decodeModules ir g (m :: ms) = .ok g') :
    ∃ g1 v g2, decodeModule g ir m = .ok (g1, v) ∧ modAppend g1 ir v = .ok g2 ∧ decodeModules ir g2 ms = .ok g' := by
  simp only [decodeModules] at h
  split at h
  · cases h
  · rename_i g1 v h1
    split at h
    · cases h
    · rename_i g2 h2
      exact ⟨g1, v, g2, h1, liftE_ok h2, h⟩

theorem load_cases {g g' : G} {m : SkIR} {ir : Nat} (h : load g m = .ok (g', ir)) :
    ir = g.n ∧ decodeModules g.n (mkIR g m.uuid) m.modules = .ok g' ∧
    checkAll g' g.n (fun k => k == Kind.code || k == Kind.proxy) (m.edges.flatMap fun e => [e.1, e.2]) = .ok () := by
  unfold load at h
  dsimp only at h
  split at h
  · cases h
  · rename_i g2 hdm
    split at h
    · cases h
    · rename_i hchk
      cases h
      exact ⟨rfl, hdm, hchk⟩

def Made (c : Nat) (g g' : G) : Prop :=
  Grows g g' ∧ ∀ x, g.n ≤ x → x < g'.n → c ≤ cache_rank (g'.kind x)

theorem Made.of_stable {c : Nat} {g g' : G} (h : Stable g g') : Made c g g' :=
  ⟨h.grows, fun x h1 h2 => by rw [h.n] at h2; omega⟩

theorem Made.trans {c : Nat} {a b d : G} (h1 : Made c a b) (h2 : Made c b d) : Made c a d := by
  refine ⟨h1.1.trans h2.1, ?_⟩
  intro x hx hlt
  by_cases hb : x < b.n
  · rw [(h2.1.2 x hb).1]; exact h1.2 x hx hb
  · exact h2.2 x (by omega) hlt

theorem Made.mono {c c' : Nat} {g g' : G} (h : Made c g g') (hc : c' ≤ c) : Made c' g g' :=
  ⟨h.1, fun x h1 h2 => Nat.le_trans hc (h.2 x h1 h2)⟩

theorem Made.of_alloc (g : G) (k : Kind) (u : Nat) : Made (cache_rank k) g (alloc g k u).1 := by
  refine ⟨grows_alloc g k u, ?_⟩
  intro x hx hlt
  have : x = g.n := by simp only [alloc_n] at hlt; omega
  subst this
  simp

theorem stable_cacheSet (g : G) (i u v : Nat) : Stable g (cacheSet g i u v) := ⟨rfl, rfl, rfl⟩

theorem stable_of_onlyCache {g g' : G} (h : OnlyCache g g') : Stable g g' := ⟨h.n, h.kind, h.uuid⟩

theorem foldE_setAdd_stable {p : Nat} {s : Slot} {xs : List Nat} {g g' : G}
    (h : foldE (fun g x => setAdd g p s x) xs g = .ok g') : Stable g g' :=
  stable_foldE (fun _ _ _ hh => setAdd_stable hh) xs h

def SkInterval.nodeUuids (x : SkInterval) : List Nat := x.uuid :: x.blocks.map (·.1)
def SkSection.nodeUuids (s : SkSection) : List Nat := s.uuid :: s.intervals.flatMap SkInterval.nodeUuids
def SkModule.nodeUuids (m : SkModule) : List Nat :=
  m.uuid :: (m.proxies ++ (m.sections.flatMap SkSection.nodeUuids ++ m.symbols.map (·.uuid)))
/-- the UUIDs of all nodes of the message, in decoding order -/
def SkIR.nodeUuids (m : SkIR) : List Nat := m.uuid :: m.modules.flatMap SkModule.nodeUuids

def DistNew (n0 : Nat) (g : G) : Prop :=
  ∀ a b, n0 ≤ a → a < g.n → n0 ≤ b → b < g.n → g.uuid a = g.uuid b → a = b

/-- the step creates nodes with UUIDs from `L` only, at most one per element; so distinctness of the new
nodes' UUIDs is kept when `L` is duplicate-free and disjoint from the UUIDs `S` used so far -/
def Uq (n0 : Nat) (L : List Nat) (g g' : G) : Prop :=
  Grows g g' ∧ ∀ (S : Nat → Prop), (∀ x, n0 ≤ x → x < g.n → S (g.uuid x)) → (∀ u, u ∈ L → ¬ S u) → L.Nodup →
    DistNew n0 g → DistNew n0 g' ∧ ∀ x, n0 ≤ x → x < g'.n → S (g'.uuid x) ∨ g'.uuid x ∈ L

theorem Uq.of_stable {n0 : Nat} {g g' : G} (L : List Nat) (h : Stable g g') : Uq n0 L g g' := by
  refine ⟨h.grows, ?_⟩
  intro S hS _ _ hd
  refine ⟨?_, ?_⟩
  · intro a b ha hal hb hbl hab
    rw [h.n] at hal hbl; rw [h.uuid] at hab
    exact hd a b ha hal hb hbl hab
  · intro x hx hlt
    rw [h.n] at hlt; rw [h.uuid]
    exact .inl (hS x hx hlt)

theorem Uq.of_alloc {n0 : Nat} (g : G) (k : Kind) (u : Nat) : Uq n0 [u] g (alloc g k u).1 := by
  refine ⟨grows_alloc g k u, ?_⟩
  intro S hS hL _ hd
  have hu : ¬ S u := hL u List.mem_cons_self
  refine ⟨?_, ?_⟩
  · intro a b ha hal hb hbl hab
    simp only [alloc_n] at hal hbl
    simp only [alloc_uuid] at hab
    by_cases ha' : a = g.n <;> by_cases hb' : b = g.n
    · rw [ha', hb']
    · rw [if_pos ha', if_neg hb'] at hab
      exact absurd (hab ▸ hS b hb (by omega)) hu
    · rw [if_neg ha', if_pos hb'] at hab
      exact absurd (hab ▸ hS a ha (by omega)) hu
    · rw [if_neg ha', if_neg hb'] at hab
      exact hd a b ha (by omega) hb (by omega) hab
  · intro x hx hlt
    simp only [alloc_n] at hlt
    simp only [alloc_uuid]
    by_cases hx' : x = g.n
    · rw [if_pos hx']; exact .inr List.mem_cons_self
    · rw [if_neg hx']; exact .inl (hS x hx (by omega))

theorem Uq.append {n0 : Nat} {L1 L2 : List Nat} {g g1 g2 : G} (h1 : Uq n0 L1 g g1) (h2 : Uq n0 L2 g1 g2) :
    Uq n0 (L1 ++ L2) g g2 := by
  refine ⟨h1.1.trans h2.1, ?_⟩
  intro S hS hL hnd hd
  rw [List.nodup_append] at hnd
  obtain ⟨d1, s1⟩ := h1.2 S hS (fun u hu => hL u (List.mem_append_left _ hu)) hnd.1 hd
  obtain ⟨d2, s2⟩ := h2.2 (fun u => S u ∨ u ∈ L1) s1 (by
    intro u hu hh
    rcases hh with hh | hh
    · exact hL u (List.mem_append_right _ hu) hh
    · exact hnd.2.2 u hh u hu rfl) hnd.2.1 d1
  refine ⟨d2, ?_⟩
  intro x hx hlt
  rcases s2 x hx hlt with (h | h) | h
  · exact .inl h
  · exact .inr (List.mem_append_left _ h)
  · exact .inr (List.mem_append_right _ h)

theorem Uq.skip {n0 : Nat} {g g' : G} (h : Uq n0 [] g g') (L : List Nat) : Uq n0 L g g' :=
  h.append (Uq.of_stable L (Stable.refl g'))

/-- a relation between the states before and after a step, indexed by the UUIDs of the message part the step
consumed, that is kept by everything the decoders do; `Kd`: the kinds of nodes the step may create -/
structure Trace (Kd : Kind → Prop) (T : List Nat → G → G → Prop) : Prop where
  stable : ∀ {g g'}, Stable g g' → T [] g g'
  alloc : ∀ g k u, Kd k → T [u] g (alloc g k u).1
  append : ∀ {L1 L2 a b c}, T L1 a b → T L2 b c → T (L1 ++ L2) a c
  /-- nothing was created although the message part lists `L` -/
  skip : ∀ {g g'} L, T [] g g' → T L g g'

theorem Uq.trace (n0 : Nat) : Trace (fun _ => True) (Uq n0) :=
  ⟨Uq.of_stable [], fun g k u _ => Uq.of_alloc g k u, Uq.append, fun L h => h.skip L⟩

theorem Made.trace (c : Nat) : Trace (fun k => c ≤ cache_rank k) (fun _ => Made c) :=
  ⟨Made.of_stable, fun g k u hk => (Made.of_alloc g k u).mono hk, Made.trans, fun _ h => h⟩

section
variable {Kd : Kind → Prop} {T : List Nat → G → G → Prop} (tr : Trace Kd T)
include tr

theorem Trace.refl (L : List Nat) (g : G) : T L g g := tr.skip L (tr.stable (Stable.refl g))

theorem Trace.then_stable {L : List Nat} {g g1 g2 : G} (h1 : T L g g1) (h2 : Stable g1 g2) : T L g g2 := by
  have := tr.append h1 (tr.stable h2)
  rwa [List.append_nil] at this

theorem Trace.fresh {k : Kind} (hk : Kd k) (g : G) (u : Nat) {g' : G} (h : Stable (Forest.alloc g k u).1 g') :
    T [u] g g' :=
  tr.then_stable (tr.alloc g k u hk) h

theorem Trace.list {α : Type} {f : G → α → Except LErr (G × Nat)} {L : α → List Nat}
    (hf : ∀ g a g' v, f g a = .ok (g', v) → T (L a) g g') :
    ∀ (as : List α) (g g' : G) (vs : List Nat), decodeList f g as = .ok (g', vs) → T (as.flatMap L) g g' := by
  intro as
  induction as with
  | nil => intro g g' vs h; cases h; exact tr.refl _ _
  | cons a as ih =>
    intro g g' vs h
    obtain ⟨g1, v, vs', h1, h2, _⟩ := decodeList_cons h
    rw [List.flatMap_cons]
    exact tr.append (hf g a g1 v h1) (ih g1 g' vs' h2)

theorem Trace.attach {α : Type} {dec : G → Nat → α → Except LErr (G × Nat)} {i p : Nat} {s : Slot}
    {L : α → List Nat} (hf : ∀ g a g' v, dec g i a = .ok (g', v) → T (L a) g g') :
    ∀ (as : List α) (g g' : G), decodeAttach dec i p s g as = .ok g' → T (as.flatMap L) g g' := by
  intro as
  induction as with
  | nil => intro g g' h; cases h; exact tr.refl _ _
  | cons a as ih =>
    intro g g' h
    obtain ⟨g1, v, g2, h1, h2, h⟩ := decodeAttach_cons h
    rw [List.flatMap_cons]
    exact tr.append (tr.then_stable (hf g a g1 v h1) (setAdd_stable h2)) (ih g2 g' h)

theorem Trace.leaf {k : Kind} (hk : Kd k) {g g' : G} {i u v : Nat} (h : decodeLeaf k g i u = .ok (g', v)) :
    T [u] g g' := by
  rcases decodeLeaf_cases h with ⟨rfl, _, _⟩ | ⟨_, _, rfl⟩
  · exact tr.refl _ _
  · exact tr.fresh hk g u (stable_cacheSet _ _ _ _)

theorem Trace.interval (hK : ∀ k, 3 ≤ cache_rank k → Kd k) {g g' : G} {i : Nat} {x : SkInterval} {v : Nat}
    (h : decodeInterval g i x = .ok (g', v)) : T x.nodeUuids g g' := by
  rcases decodeInterval_cases h with ⟨rfl, _, _⟩ | ⟨_, _, g2, bs, g3, hbs, hblk, rfl⟩
  · exact tr.refl _ _
  · rw [decodeBlocks_eq] at hbs
    have h2 := tr.list (L := fun b : Nat × Bool => [b.1])
      (fun g b _ _ hh => tr.leaf (hK _ (by cases b.2 <;> decide)) (decodeBlock_eq g i b ▸ hh)) _ _ _ _ hbs
    rw [← List.map_eq_flatMap] at h2
    exact tr.append (tr.alloc g .interval x.uuid (hK .interval (by decide))) (tr.then_stable (tr.then_stable h2
      (blkUpdate_stable hblk)) (stable_of_onlyCache (onlyCache_cacheAddInterval _ _ _)))

theorem Trace.section (hK : ∀ k, 2 ≤ cache_rank k → Kd k) {g g' : G} {i : Nat} {x : SkSection} {v : Nat}
    (h : decodeSection g i x = .ok (g', v)) : T x.nodeUuids g g' := by
  rcases decodeSection_cases h with ⟨rfl, _, _⟩ | ⟨_, _, hatt⟩
  · exact tr.refl _ _
  · exact tr.append (tr.fresh (hK .section (by decide)) g x.uuid (stable_cacheSet _ _ _ _))
      (tr.attach (L := SkInterval.nodeUuids)
        (fun _ _ _ _ hh => tr.interval (fun k hk => hK k (Nat.le_of_succ_le hk)) hh) _ _ _ hatt)

theorem Trace.symbol (hk : Kd .symbol) {g g' : G} {i : Nat} {x : SkSymbol} {v : Nat}
    (h : decodeSymbol g i x = .ok (g', v)) : T [x.uuid] g g' := by
  rcases decodeSymbol_cases h with ⟨rfl, _, _⟩ | ⟨_, _, pl, _, rfl⟩
  · exact tr.refl _ _
  · exact tr.fresh hk g x.uuid ⟨rfl, rfl, rfl⟩

theorem Trace.modRun (hK : ∀ k, 2 ≤ cache_rank k → Kd k) {g g4 g6 g8 : G} {i : Nat} {m : SkModule}
    (hr : ModRun g i m g4 g6 g8) :
    T (m.proxies ++ (m.sections.flatMap SkSection.nodeUuids ++ m.symbols.map (·.uuid)))
      (cacheSet (Forest.alloc g .module m.uuid).1 i m.uuid g.n) g8 := by
  have u24 := tr.attach (L := fun u : Nat => [u])
    (fun g u _ _ hh => tr.leaf (hK .proxy (by decide)) (decodeProxy_eq g i u ▸ hh)) _ _ _ hr.proxies
  rw [List.flatMap_singleton'] at u24
  have u68 := tr.attach (L := fun y : SkSymbol => [y.uuid])
    (fun _ _ _ _ hh => tr.symbol (hK .symbol (by decide)) hh) _ _ _ hr.symbols
  rw [← List.map_eq_flatMap] at u68
  exact tr.append u24 (tr.append (tr.attach (L := SkSection.nodeUuids)
    (fun _ _ _ _ hh => tr.section hK hh) _ _ _ hr.sections) u68)

theorem Trace.module (hK : ∀ k, 1 ≤ cache_rank k → Kd k) {g g' : G} {i : Nat} {m : SkModule} {v : Nat}
    (h : decodeModule g i m = .ok (g', v)) : T m.nodeUuids g g' := by
  rcases decodeModule_cases h with ⟨rfl, _, _⟩ | ⟨_, _, g4, g6, hr, _, _⟩
  · exact tr.refl _ _
  · exact tr.append (tr.fresh (hK .module (by decide)) g m.uuid (stable_cacheSet _ _ _ _))
      (tr.modRun (fun k hk => hK k (Nat.le_of_succ_le hk)) hr)

theorem Trace.modules (hK : ∀ k, 1 ≤ cache_rank k → Kd k) (i : Nat) : ∀ (ms : List SkModule) (g g' : G),
    decodeModules i g ms = .ok g' → T (ms.flatMap SkModule.nodeUuids) g g' := by
  intro ms
  induction ms with
  | nil => intro g g' h; cases h; exact tr.refl _ _
  | cons m ms ih =>
    intro g g' h
    obtain ⟨g1, v, g2, hdm, happ, h⟩ := decodeModules_cons h
    rw [List.flatMap_cons]
    exact tr.append (tr.then_stable (tr.module hK hdm) (modAppend_stable happ)) (ih g2 g' h)

end

theorem ModRun.uuid {g g4 g6 g8 : G} {i : Nat} {m : SkModule} (hr : ModRun g i m g4 g6 g8) :
    g8.uuid g.n = m.uuid := by
  rw [(((Made.trace 2).modRun (fun _ hk => hk) hr).1.2 g.n (Nat.lt_succ_self _)).2]
  exact if_pos rfl

theorem decodeModule_made {g g' : G} {i : Nat} {m : SkModule} {v : Nat}
    (h : decodeModule g i m = .ok (g', v)) :
    Grows g g' ∧ ∀ x, g.n ≤ x → x < g'.n → g'.kind x = .module → x = g.n ∧ g'.uuid x = m.uuid := by
  rcases decodeModule_cases h with ⟨rfl, _, _⟩ | ⟨_, _, g4, g6, hr, _, _⟩
  · exact ⟨(Stable.refl _).grows, fun x h1 h2 => by omega⟩
  · have m28 : Made 2 (cacheSet (alloc g .module m.uuid).1 i m.uuid g.n) g' := (Made.trace 2).modRun (fun _ hk => hk) hr
    refine ⟨(grows_alloc g .module m.uuid).trans m28.1, ?_⟩
    intro x hx hlt hk
    by_cases hxn : x = g.n
    · subst hxn
      exact ⟨rfl, hr.uuid⟩
    · have := m28.2 x (by show g.n + 1 ≤ x; omega) hlt
      rw [hk] at this
      simp [cache_rank] at this

/-! ### reference checks -/

def RefResolves (g : G) (ir : Nat) (ok : Kind → Bool) (u : Nat) : Prop :=
  ∃ n, g.cache ir u = some n ∧ ok (g.kind n) = true

theorem refKind_cases (g : G) (ir : Nat) (ok : Kind → Bool) (u : Nat) :
    (refKind g ir ok u = .ok () ∧ RefResolves g ir ok u) ∨
    (refKind g ir ok u = .error .deser ∧ ¬ RefResolves g ir ok u) := by
  unfold refKind RefResolves
  cases hc : g.cache ir u with
  | none => exact .inr ⟨rfl, fun ⟨n, h, _⟩ => by cases h⟩
  | some n =>
    by_cases hk : ok (g.kind n) = true
    · exact .inl ⟨by simp [hk], n, rfl, hk⟩
    · refine .inr ⟨by simp [hk], ?_⟩
      rintro ⟨n', h, hk'⟩
      cases h; exact hk hk'

theorem checkAll_cases (g : G) (ir : Nat) (ok : Kind → Bool) : ∀ (us : List Nat),
    (checkAll g ir ok us = .ok () ∧ ∀ u, u ∈ us → RefResolves g ir ok u) ∨
    (checkAll g ir ok us = .error .deser ∧ ∃ u, u ∈ us ∧ ¬ RefResolves g ir ok u)
  | [] => .inl ⟨rfl, fun _ h => by cases h⟩
  | u :: us => by
    rw [checkAll]
    rcases refKind_cases g ir ok u with ⟨h, hu⟩ | ⟨h, hu⟩
    · rw [h]
      rcases checkAll_cases g ir ok us with ⟨a, hall⟩ | ⟨a, w, hw, hbad⟩
      · exact .inl ⟨a, fun w hw => (List.mem_cons.1 hw).elim (fun e => e ▸ hu) (hall w)⟩
      · exact .inr ⟨a, w, List.mem_cons_of_mem _ hw, hbad⟩
    · rw [h]
      exact .inr ⟨rfl, u, List.mem_cons_self, hu⟩

theorem refKind_ok {g : G} {i : Nat} {ok : Kind → Bool} {u : Nat} {a : Unit} (h : refKind g i ok u = .ok a) :
    RefResolves g i ok u :=
  (refKind_cases g i ok u).elim (·.2) fun c => by rw [h] at c; cases c.1

theorem checkAll_ok {g : G} {i : Nat} {ok : Kind → Bool} (us : List Nat) {a : Unit}
    (h : checkAll g i ok us = .ok a) : ∀ u, u ∈ us → RefResolves g i ok u :=
  (checkAll_cases g i ok us).elim (·.2) fun c => by rw [h] at c; cases c.1

end Gtirb.Loader
