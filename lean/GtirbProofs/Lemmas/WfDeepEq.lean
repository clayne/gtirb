import GtirbProofs.Lemmas.ProtoProofs
import GtirbProofs.Lemmas.DeepEqProofs
/-! From the precondition of C01 (`wfir`, GtirbModel/ProtoWF.lean) to the two
hypotheses of the `deep_eq` theorems (`SelfContained`, `DistinctSiblings`,
Lemmas/DeepEqProofs.lean).

* every per-parent UUID list and the IR-wide block / symbol UUID lists are
  sub-lists of `IRV.nodeUuids`, which `wfir` states to be duplicate-free;
* a UUID that is visible in the staged sense (`moduleOK`) is the UUID of a
  block / proxy / symbol of some module of the IR, so `findBlock` /
  `findSymbol` succeed on it. -/
namespace Gtirb.Msg

section Sub
variable {α β : Type}

theorem sublist_flatMap_congr {f g : α → List β} : ∀ (l : List α),
    (∀ a ∈ l, (f a).Sublist (g a)) → (l.flatMap f).Sublist (l.flatMap g)
  | [], _ => by simp
  | a :: l, h => by
    rw [List.flatMap_cons, List.flatMap_cons]
    exact (h a List.mem_cons_self).append
      (sublist_flatMap_congr l (fun b hb => h b (List.mem_cons_of_mem _ hb)))

theorem sublist_flatMap_of_mem {f : α → List β} {l : List α} {a : α} (h : a ∈ l) :
    (f a).Sublist (l.flatMap f) :=
  List.sublist_flatten_of_mem (List.mem_map_of_mem h)

theorem map_sublist_flatMap {f : α → β} {g : α → List β} (l : List α)
    (h : ∀ a ∈ l, [f a].Sublist (g a)) : (l.map f).Sublist (l.flatMap g) :=
  List.map_eq_flatMap ▸ sublist_flatMap_congr l h

end Sub

theorem section_blocks_sub (s : SectionV) :
    (s.intervals.flatMap fun x => x.blocks.map (·.uuid)).Sublist s.nodeUuids :=
  (sublist_flatMap_congr (g := fun x : IntervalV => x.blockUuids ++ [x.uuid]) _
    fun _ _ => List.sublist_append_left _ _).trans (List.sublist_cons_self _ _)

theorem section_interval_sub {s : SectionV} {x : IntervalV} (hx : x ∈ s.intervals) :
    (x.blockUuids ++ [x.uuid]).Sublist s.nodeUuids :=
  (sublist_flatMap_of_mem (f := fun x : IntervalV => x.blockUuids ++ [x.uuid]) hx).trans
    (List.sublist_cons_self _ _)

theorem interval_blocks_sub {s : SectionV} {x : IntervalV} (hx : x ∈ s.intervals) :
    (x.blocks.map (·.uuid)).Sublist s.nodeUuids :=
  (List.sublist_append_left _ _).trans (section_interval_sub hx)

theorem section_intervals_sub (s : SectionV) :
    (s.intervals.map (·.uuid)).Sublist s.nodeUuids := by
  refine (map_sublist_flatMap (g := fun x : IntervalV => x.blockUuids ++ [x.uuid]) _ ?_).trans
    (List.sublist_cons_self _ _)
  intro x _
  exact List.sublist_append_right _ _

theorem module_proxies_sub (m : ModuleV) : m.proxies.Sublist m.nodeUuids := by
  unfold ModuleV.nodeUuids
  rw [List.cons_append, List.cons_append, List.append_assoc]
  exact (List.sublist_append_left _ _).trans (List.sublist_cons_self _ _)

theorem module_sectionNodes_sub (m : ModuleV) :
    (m.sections.flatMap (·.nodeUuids)).Sublist m.nodeUuids := by
  unfold ModuleV.nodeUuids
  rw [List.cons_append, List.cons_append]
  exact ((List.sublist_append_right _ _).trans (List.sublist_append_left _ _)).trans
    (List.sublist_cons_self _ _)

theorem module_symbols_sub (m : ModuleV) : (m.symbols.map (·.uuid)).Sublist m.nodeUuids := by
  unfold ModuleV.nodeUuids
  rw [List.cons_append, List.cons_append]
  exact (List.sublist_append_right _ _).trans (List.sublist_cons_self _ _)

theorem module_sections_sub (m : ModuleV) : (m.sections.map (·.uuid)).Sublist m.nodeUuids := by
  refine (map_sublist_flatMap (g := SectionV.nodeUuids) _ ?_).trans (module_sectionNodes_sub m)
  intro s _
  unfold SectionV.nodeUuids
  exact (List.nil_sublist _).cons_cons _

theorem module_section_sub {m : ModuleV} {s : SectionV} (hs : s ∈ m.sections) :
    s.nodeUuids.Sublist m.nodeUuids :=
  (sublist_flatMap_of_mem (f := SectionV.nodeUuids) hs).trans (module_sectionNodes_sub m)

theorem module_blocks_sub (m : ModuleV) :
    (m.sections.flatMap fun s => s.intervals.flatMap fun x => x.blocks.map (·.uuid)).Sublist
      m.nodeUuids :=
  (sublist_flatMap_congr (g := SectionV.nodeUuids) _ fun s _ => section_blocks_sub s).trans
    (module_sectionNodes_sub m)

theorem ir_module_sub {v : IRV} {m : ModuleV} (hm : m ∈ v.modules) :
    m.nodeUuids.Sublist v.nodeUuids :=
  (sublist_flatMap_of_mem (f := ModuleV.nodeUuids) hm).trans (List.sublist_cons_self _ _)

theorem ir_modules_sub (v : IRV) : (v.modules.map (·.uuid)).Sublist v.nodeUuids := by
  refine (map_sublist_flatMap (g := ModuleV.nodeUuids) _ ?_).trans (List.sublist_cons_self _ _)
  intro m _
  unfold ModuleV.nodeUuids
  rw [List.cons_append, List.cons_append]
  exact (List.nil_sublist _).cons_cons _

theorem ir_blocks_sub (v : IRV) : (v.blocks.map (·.uuid)).Sublist v.nodeUuids := by
  have e : v.blocks.map (·.uuid) = v.modules.flatMap fun m =>
      m.sections.flatMap fun s => s.intervals.flatMap fun x => x.blocks.map (·.uuid) := by
    simp only [IRV.blocks, List.map_flatMap]
  rw [e]
  exact (sublist_flatMap_congr (g := ModuleV.nodeUuids) _ (fun m _ => module_blocks_sub m)).trans
    (List.sublist_cons_self _ _)

theorem ir_symbols_sub (v : IRV) : (v.symbols.map (·.uuid)).Sublist v.nodeUuids := by
  have e : v.symbols.map (·.uuid) = v.modules.flatMap fun m => m.symbols.map (·.uuid) := by
    simp only [IRV.symbols, List.map_flatMap]
  rw [e]
  exact (sublist_flatMap_congr (g := ModuleV.nodeUuids) _ (fun m _ => module_symbols_sub m)).trans
    (List.sublist_cons_self _ _)

theorem findBlock_of_blockUuids {v : IRV} {m : ModuleV} {u : U} (hm : m ∈ v.modules)
    (h : u ∈ m.blockUuids) : (v.findBlock u).isSome = true := by
  rw [findBlock_isSome_iff]
  simp only [ModuleV.blockUuids, List.mem_append, List.mem_flatMap, IntervalV.blockUuids] at h
  rcases h with ⟨s, hs, x, hx, hb⟩ | hp
  · obtain ⟨b, hb, hbu⟩ := List.mem_map.1 hb
    refine .inl (List.mem_map.2 ⟨b, ?_, hbu⟩)
    simp only [IRV.blocks, List.mem_flatMap]
    exact ⟨m, hm, s, hs, x, hx, hb⟩
  · exact .inr (List.mem_flatMap.2 ⟨m, hm, hp⟩)

theorem codeUuids_sub_blockUuids {m : ModuleV} {u : U} (h : u ∈ m.codeUuids) : u ∈ m.blockUuids := by
  simp only [ModuleV.codeUuids, List.mem_flatMap, List.mem_filterMap] at h
  obtain ⟨s, hs, x, hx, b, hb, hbu⟩ := h
  refine List.mem_append_left _ (List.mem_flatMap.2 ⟨s, hs, List.mem_flatMap.2 ⟨x, hx, ?_⟩⟩)
  cases b with
  | code u' off sz dm => exact List.mem_map.2 ⟨_, hb, Option.some.inj hbu⟩
  | data u' off sz => cases hbu

theorem findSymbol_of_symUuids {v : IRV} {m : ModuleV} {u : U} (hm : m ∈ v.modules)
    (h : u ∈ m.symbols.map (·.uuid)) : (v.findSymbol u).isSome = true := by
  obtain ⟨s, hs, hu⟩ := List.mem_map.1 h
  exact (findSymbol_isSome_iff v u).2 (List.mem_map.2 ⟨s, List.mem_flatMap.2 ⟨m, hm, hs⟩, hu⟩)

theorem moduleOk_of_modRefs {v : IRV} {E post : List ModuleV} {m : ModuleV}
    (hv : v.modules = E ++ m :: post) (h : ModRefs E m) : ModuleOk v m := by
  have hsub : ∀ m' ∈ E ++ [m], m' ∈ v.modules := fun m' hm' => by
    rw [hv, List.append_cons]; exact List.mem_append_left _ hm'
  obtain ⟨hentry, hrefs, hexprs⟩ := h
  refine ⟨fun s hs x hx e he u hu => ?_, fun s hs u hu => ?_, fun u hu => ?_⟩
  · have hu' : u ∈ exprSyms e.expr := by
      revert hu; cases e.expr <;> exact id
    obtain ⟨m', hm', hc⟩ := (List.mem_flatMap_snoc (f := fun e : ModuleV => e.symbols.map (·.uuid))).1 (hexprs s hs x hx e he u hu')
    exact findSymbol_of_symUuids (hsub m' hm') hc
  · obtain ⟨m', hm', hc⟩ := (List.mem_flatMap_snoc (f := ModuleV.blockUuids)).1 (hrefs s hs u (PayloadV.mem_refs.1 hu))
    exact findBlock_of_blockUuids (hsub m' hm') hc
  · obtain ⟨m', hm', hc⟩ := (List.mem_flatMap_snoc (f := ModuleV.codeUuids)).1 (hentry u (Option.mem_toList.1 hu))
    exact findBlock_of_blockUuids (hsub m' hm') (codeUuids_sub_blockUuids hc)

theorem distinctModule_of_moduleOK {E : List ModuleV} {m : ModuleV}
    (h : moduleOK E m = true) (hn : m.nodeUuids.Nodup) : DistinctModule m := by
  obtain ⟨_, _, haux, hsecs⟩ := moduleOK_iff.1 h
  refine ⟨(module_proxies_sub m).nodup hn, (module_sections_sub m).nodup hn,
    (module_symbols_sub m).nodup hn, haux, fun s hs => ?_⟩
  have hns : s.nodeUuids.Nodup := (module_section_sub hs).nodup hn
  exact ⟨(hsecs s hs).1.2, (section_intervals_sub s).nodup hns, fun x hx =>
    ⟨(interval_blocks_sub hx).nodup hns, ((hsecs s hs).2 x hx).2.2.1, ((hsecs s hs).2 x hx).2.2.2⟩⟩

theorem selfContained_of_wfir {v : IRV} (p : Wfir v) : SelfContained v := by
  refine ⟨(ir_blocks_sub v).nodup p.nodup, (ir_symbols_sub v).nodup p.nodup, ?_, ?_⟩
  · intro m hm
    obtain ⟨_, _, e, hE⟩ := p.moduleOK hm
    exact moduleOk_of_modRefs e (moduleOK_iff.1 hE).2.1
  · intro e he
    have cfg : ∀ u, u ∈ (v.modules.flatMap fun m => m.codeUuids ++ m.proxies) →
        (v.findBlock u).isSome = true := by
      intro u hu
      obtain ⟨m, hm, hu⟩ := List.mem_flatMap.1 hu
      rcases List.mem_append.1 hu with hc | hp
      · exact findBlock_of_blockUuids hm (codeUuids_sub_blockUuids hc)
      · exact findBlock_of_blockUuids hm (List.mem_append_right _ hp)
    exact ⟨cfg _ (p.edges e he).1.1, cfg _ (p.edges e he).1.2⟩

theorem distinctSiblings_of_wfir {v : IRV} (p : Wfir v) : DistinctSiblings v := by
  refine ⟨(ir_modules_sub v).nodup p.nodup, p.edgesNodup, p.auxKeys, ?_⟩
  intro m hm
  obtain ⟨_, _, _, hE⟩ := p.moduleOK hm
  exact distinctModule_of_moduleOK hE ((ir_module_sub hm).nodup p.nodup)

end Gtirb.Msg
