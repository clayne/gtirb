import GtirbModel.Slices
import GtirbProofs.Lemmas.WrapperProofs
import GtirbProofs.Lemmas.RunLemmas
/-! Helpers for `Props/C16Slices.lean`: `slice.indices` arithmetic, the pure list operations the
slice operations are compared with, and the runs of `delItem` / `insert` sequences. -/
namespace Gtirb.Forest

/-- the elements of `l` whose position (the head has position `k`) is not in `sel`, in order -/
def dropAt (sel : List Nat) : List Nat → Nat → List Nat
  | [], _ => []
  | x :: xs, k => if k ∈ sel then dropAt sel xs (k + 1) else x :: dropAt sel xs (k + 1)

/-- `l` with position `p` replaced by `w` for every pair `(p, w)`, left to right -/
def setAll (l : List Nat) (pairs : List (Nat × Nat)) : List Nat :=
  pairs.foldl (fun acc pw => acc.set pw.1 pw.2) l

/-- insert `w` before position `p` for every pair `(p, w)`, left to right -/
def insAll (L : List Nat) (pairs : List (Nat × Nat)) : List Nat :=
  pairs.foldl (fun L pv => L.take pv.1 ++ pv.2 :: L.drop pv.1) L

theorem dropAt_eq_filter (sel : List Nat) : ∀ (l : List Nat) (k : Nat),
    dropAt sel l k = ((l.zipIdx k).filter (fun p => !(decide (p.2 ∈ sel)))).map (fun p => p.1)
  | [], k => rfl
  | x :: xs, k => by
    rw [dropAt, List.zipIdx_cons, List.filter_cons]
    by_cases h : k ∈ sel
    · simp only [h, if_true, decide_true, Bool.not_true, Bool.false_eq_true, if_false]
      exact dropAt_eq_filter sel xs (k + 1)
    · simp only [h, if_false, decide_false, Bool.not_false, if_true, List.map_cons]
      rw [dropAt_eq_filter sel xs (k + 1)]

theorem dropAt_congr {s s' : List Nat} : ∀ (l : List Nat) (k : Nat), (∀ j, k ≤ j → (j ∈ s ↔ j ∈ s')) →
    dropAt s l k = dropAt s' l k
  | [], _, _ => rfl
  | x :: xs, k, h => by
    have ih := dropAt_congr (s := s) (s' := s') xs (k + 1) (fun j hj => h j (by omega))
    rw [dropAt, dropAt, ih]
    by_cases hk : k ∈ s
    · rw [if_pos hk, if_pos ((h k (Nat.le_refl k)).1 hk)]
    · rw [if_neg hk, if_neg (fun hh => hk ((h k (Nat.le_refl k)).2 hh))]

theorem dropAt_none {s : List Nat} : ∀ (l : List Nat) (k : Nat), (∀ j, k ≤ j → j ∉ s) → dropAt s l k = l
  | [], _, _ => rfl
  | x :: xs, k, h => by
    rw [dropAt, if_neg (h k (Nat.le_refl k)), dropAt_none xs (k + 1) (fun j hj => h j (by omega))]

theorem mem_dropAt_iff {s : List Nat} {x : Nat} (l : List Nat) (k : Nat) :
    x ∈ dropAt s l k ↔ ∃ p, k ≤ p ∧ p ∉ s ∧ l[p - k]? = some x := by
  rw [dropAt_eq_filter, List.mem_map]
  constructor
  · rintro ⟨⟨y, p⟩, hm, rfl⟩
    rw [List.mem_filter, List.mk_mem_zipIdx_iff_le_and_getElem?_sub] at hm
    exact ⟨p, hm.1.1, by simpa using hm.2, hm.1.2⟩
  · rintro ⟨p, h1, h2, h3⟩
    exact ⟨(x, p), List.mem_filter.2 ⟨List.mk_mem_zipIdx_iff_le_and_getElem?_sub.2 ⟨h1, h3⟩, by simpa using h2⟩,
      rfl⟩

theorem dropAt_mem_of_getElem {s : List Nat} {x : Nat} : ∀ (l : List Nat) (k p : Nat), k ≤ p → p ∉ s →
    l[p - k]? = some x → x ∈ dropAt s l k :=
  fun l k p h1 h2 h3 => (mem_dropAt_iff l k).2 ⟨p, h1, h2, h3⟩

/-- erasing the highest selected position first -/
theorem dropAt_eraseIdx {rest : List Nat} {d : Nat} (hd : ∀ j ∈ rest, j < d) : ∀ (l : List Nat) (k : Nat), k ≤ d →
    dropAt rest (l.eraseIdx (d - k)) k = dropAt (d :: rest) l k
  | [], _, _ => rfl
  | x :: xs, k, hk => by
    by_cases hdk : d = k
    · subst hdk
      rw [Nat.sub_self, List.eraseIdx_cons_zero, dropAt, if_pos List.mem_cons_self]
      rw [dropAt_none xs d (fun j hj hm => by have := hd j hm; omega)]
      rw [dropAt_none xs (d + 1)]
      intro j hj hm
      rcases List.mem_cons.1 hm with h1 | h1
      · omega
      · have := hd j h1; omega
    · have hp : d - k = (d - (k + 1)) + 1 := by omega
      rw [hp, List.eraseIdx_cons_succ, dropAt, dropAt, dropAt_eraseIdx hd xs (k + 1) (by omega)]
      by_cases hkr : k ∈ rest
      · rw [if_pos hkr, if_pos (List.mem_cons_of_mem _ hkr)]
      · rw [if_neg hkr, if_neg]
        intro hm
        rcases List.mem_cons.1 hm with h1 | h1
        · exact hdk h1.symm
        · exact hkr h1

theorem foldl_eraseIdx_eq_dropAt : ∀ (ds : List Nat) (l : List Nat), ds.Pairwise (fun a b => b < a) →
    ds.foldl List.eraseIdx l = dropAt ds l 0
  | [], l, _ => by rw [List.foldl_nil, dropAt_none l 0 (fun j _ hm => by cases hm)]
  | d :: rest, l, h => by
    rw [List.pairwise_cons] at h
    rw [List.foldl_cons, foldl_eraseIdx_eq_dropAt rest _ h.2]
    exact dropAt_eraseIdx h.1 l 0 (Nat.zero_le d)

theorem dropAt_range' : ∀ (l : List Nat) (a n k : Nat), k ≤ a →
    dropAt (List.range' a n) l k = l.take (a - k) ++ l.drop (a - k + n)
  | [], _, _, _, _ => by simp [dropAt]
  | x :: xs, a, n, k, hk => by
    rw [dropAt]
    by_cases hka : k = a
    · subst hka
      cases n with
      | zero =>
        rw [if_neg (by simp), dropAt_none xs (k + 1) (fun j _ hm => by simp at hm)]
        simp
      | succ n =>
        rw [if_pos (by simp [List.mem_range'_1])]
        rw [dropAt_congr (s' := List.range' (k + 1) n) xs (k + 1)
          (fun j hj => by simp only [List.mem_range'_1]; omega)]
        rw [dropAt_range' xs (k + 1) n (k + 1) (Nat.le_refl _)]
        simp
    · have hm : k ∉ List.range' a n := by simp only [List.mem_range'_1]; omega
      rw [if_neg hm, dropAt_range' xs a n (k + 1) (by omega)]
      have h1 : a - k = (a - (k + 1)) + 1 := by omega
      have h2 : a - k + n = (a - (k + 1) + n) + 1 := by omega
      rw [h2, h1, List.take_succ_cons, List.drop_succ_cons]
      rfl

theorem sortDesc_mem (sel : List Nat) (x : Nat) : x ∈ sortDesc sel ↔ x ∈ sel :=
  (List.mergeSort_perm sel _).mem_iff

theorem sortDesc_pairwise (sel : List Nat) (hnd : sel.Nodup) : (sortDesc sel).Pairwise (fun a b => b < a) := by
  have h1 : (sortDesc sel).Pairwise (fun a b => decide (b ≤ a) = true) :=
    List.pairwise_mergeSort (le := fun a b => decide (b ≤ a))
      (fun a b c h1 h2 => by simp only [decide_eq_true_eq] at *; omega)
      (fun a b => by simp only [Bool.or_eq_true, decide_eq_true_eq]; omega) sel
  have h2 : (sortDesc sel).Nodup := (List.mergeSort_perm sel _).nodup_iff.2 hnd
  have h3 := List.Pairwise.and h1 h2
  refine h3.imp ?_
  intro a b hab
  simp only [decide_eq_true_eq] at hab
  omega

section sliceAdjust
variable {len lo up x : Int}

theorem sliceAdjust_of_neg_le (h : x < 0) (hlo : x + len ≤ lo) : sliceAdjust len lo up x = lo := by
  unfold sliceAdjust
  rw [if_pos h]
  split
  · rfl
  · omega

theorem sliceAdjust_of_neg_ge (h : x < 0) (hlo : lo ≤ x + len) : sliceAdjust len lo up x = x + len := by
  unfold sliceAdjust
  rw [if_pos h, if_neg (Int.not_lt.2 hlo)]

theorem sliceAdjust_of_nonneg_le (h : 0 ≤ x) (hup : x ≤ up) : sliceAdjust len lo up x = x := by
  unfold sliceAdjust
  rw [if_neg (Int.not_lt.2 h), if_neg (Int.not_lt.2 hup)]

theorem sliceAdjust_of_nonneg_ge (h : 0 ≤ x) (hup : up ≤ x) : sliceAdjust len lo up x = up := by
  unfold sliceAdjust
  rw [if_neg (Int.not_lt.2 h)]
  split
  · rfl
  · omega

/-- a clamped bound lies within the clamp, whenever that is wide enough for a list of length `len` -/
theorem sliceAdjust_mem (h0 : lo ≤ 0) (h1 : len - 1 ≤ up) (h2 : lo ≤ up) (x : Int) :
    lo ≤ sliceAdjust len lo up x ∧ sliceAdjust len lo up x ≤ up := by
  by_cases hx : x < 0
  · by_cases hl : x + len ≤ lo
    · rw [sliceAdjust_of_neg_le hx hl]; exact ⟨Int.le_refl _, h2⟩
    · rw [sliceAdjust_of_neg_ge hx (by omega)]; omega
  · by_cases hu : x ≤ up
    · rw [sliceAdjust_of_nonneg_le (by omega) hu]; omega
    · rw [sliceAdjust_of_nonneg_ge (by omega) (by omega)]; exact ⟨h2, Int.le_refl _⟩

end sliceAdjust

theorem sliceIndices_eq (len : Nat) (start stop step : Option Int) :
    sliceIndices len start stop step =
      if step.getD 1 = 0 then none
      else if step.getD 1 < 0 then
        some ((start.map (sliceAdjust len (-1) (len - 1))).getD (len - 1),
              (stop.map (sliceAdjust len (-1) (len - 1))).getD (-1), step.getD 1)
      else
        some ((start.map (sliceAdjust len 0 len)).getD 0, (stop.map (sliceAdjust len 0 len)).getD len,
              step.getD 1) := by
  have hsome : ∀ s : Int, sliceIndices len start stop (some s) =
      if s = 0 then none
      else if s < 0 then
        some ((start.map (sliceAdjust len (-1) (len - 1))).getD (len - 1),
              (stop.map (sliceAdjust len (-1) (len - 1))).getD (-1), s)
      else some ((start.map (sliceAdjust len 0 len)).getD 0, (stop.map (sliceAdjust len 0 len)).getD len, s) := by
    intro s
    unfold sliceIndices
    by_cases h0 : s = 0
    · simp only [h0, if_true]
    · by_cases hs : s < 0
      · simp only [if_neg h0, if_pos hs]
        cases start <;> cases stop <;> rfl
      · simp only [if_neg h0, if_neg hs]
        cases start <;> cases stop <;> rfl
  cases step
  · exact hsome 1
  · exact hsome _

theorem getD_map_mem {lo up d : Int} {f : Int → Int} (hf : ∀ x, lo ≤ f x ∧ f x ≤ up) (hd : lo ≤ d ∧ d ≤ up)
    (o : Option Int) : lo ≤ (o.map f).getD d ∧ (o.map f).getD d ≤ up := by
  cases o
  · exact hd
  · exact hf _

theorem sliceIndices_bounds {len : Nat} {start stop step : Option Int} {a b st : Int}
    (h : sliceIndices len start stop step = some (a, b, st)) :
    st ≠ 0 ∧ step.getD 1 = st ∧
    (0 < st → 0 ≤ a ∧ a ≤ len ∧ 0 ≤ b ∧ b ≤ len) ∧
    (st < 0 → -1 ≤ a ∧ a ≤ (len : Int) - 1 ∧ -1 ≤ b ∧ b ≤ (len : Int) - 1) := by
  have hlen : (0 : Int) ≤ len := Int.natCast_nonneg len
  have hneg := sliceAdjust_mem (len := len) (lo := -1) (up := len - 1) (by omega) (Int.le_refl _) (by omega)
  have hpos := sliceAdjust_mem (len := len) (lo := 0) (up := len) (Int.le_refl _) (by omega) hlen
  rw [sliceIndices_eq] at h
  split at h
  · cases h
  · rename_i h0
    split at h <;> rename_i hn <;> cases h <;> refine ⟨h0, rfl, fun hp => ?_, fun hq => ?_⟩
    · omega
    · have ha := getD_map_mem hneg ⟨by omega, Int.le_refl _⟩ start
      have hb := getD_map_mem hneg ⟨Int.le_refl _, by omega⟩ stop
      exact ⟨ha.1, ha.2, hb.1, hb.2⟩
    · have ha := getD_map_mem hpos ⟨Int.le_refl _, hlen⟩ start
      have hb := getD_map_mem hpos ⟨hlen, Int.le_refl _⟩ stop
      exact ⟨ha.1, ha.2, hb.1, hb.2⟩
    · omega

theorem mul_le_of_lt_div {k : Nat} {d st : Int} (hst : 0 < st) (hd : 0 ≤ d) (hk : k < (d / st + 1).toNat) :
    (k : Int) * st ≤ d := by
  have hq : 0 ≤ d / st := Int.ediv_nonneg hd (Int.le_of_lt hst)
  have h1 : (k : Int) ≤ d / st := by omega
  have h2 : (k : Int) * st ≤ d / st * st := Int.mul_le_mul_of_nonneg_right h1 (Int.le_of_lt hst)
  have h3 : d / st * st ≤ d := Int.ediv_mul_le d (Int.ne_of_gt hst)
  omega

theorem rangeLen_bound {a b st : Int} {k : Nat} (hk : k < rangeLen a b st) :
    (0 < st → a + k * st < b) ∧ (st < 0 → b < a + k * st) := by
  unfold rangeLen at hk
  split at hk
  · rename_i h
    have := mul_le_of_lt_div h.1 (by omega) hk
    exact ⟨fun _ => by omega, fun hn => by omega⟩
  · split at hk
    · rename_i h
      have := mul_le_of_lt_div (st := -st) (by omega) (by omega) hk
      rw [Int.mul_neg] at this
      exact ⟨fun hp => by omega, fun _ => by omega⟩
    · exact absurd hk (Nat.not_lt_zero k)

theorem rangeList_pos {a b st : Int} (hst : 0 < st) (ha : 0 ≤ a) :
    (rangeList a b st).Pairwise (fun x y => x < y) ∧ ∀ p ∈ rangeList a b st, a ≤ (p : Int) ∧ (p : Int) < b := by
  have hnn : ∀ k : Nat, 0 ≤ (k : Int) * st := fun k => Int.mul_nonneg (Int.natCast_nonneg k) (Int.le_of_lt hst)
  unfold rangeList
  constructor
  · rw [List.pairwise_map]
    refine List.pairwise_lt_range.imp ?_
    intro k k' hkk
    have h1 : (k : Int) * st < (k' : Int) * st := Int.mul_lt_mul_of_pos_right (Int.ofNat_lt.2 hkk) hst
    exact (Int.toNat_lt_toNat (by have := hnn k; omega)).2 (by omega)
  · intro p hp
    obtain ⟨k, hk, rfl⟩ := List.mem_map.1 hp
    have := (rangeLen_bound (List.mem_range.1 hk)).1 hst
    have := hnn k
    rw [Int.toNat_of_nonneg (by omega)]
    omega

theorem rangeList_neg {a b st : Int} (hst : st < 0) (hb : -1 ≤ b) :
    (rangeList a b st).Pairwise (fun x y => y < x) ∧ ∀ p ∈ rangeList a b st, b < (p : Int) ∧ (p : Int) ≤ a := by
  have hnp : ∀ k : Nat, (k : Int) * st ≤ 0 := fun k =>
    Int.mul_nonpos_of_nonneg_of_nonpos (Int.natCast_nonneg k) (Int.le_of_lt hst)
  unfold rangeList
  constructor
  · rw [List.pairwise_map]
    refine List.pairwise_lt_range.imp_of_mem ?_
    intro k k' _ hk' hkk
    have h1 : (k' : Int) * st < (k : Int) * st := Int.mul_lt_mul_of_neg_right (Int.ofNat_lt.2 hkk) hst
    have := (rangeLen_bound (List.mem_range.1 hk')).2 hst
    exact (Int.toNat_lt_toNat (by omega)).2 (by omega)
  · intro p hp
    obtain ⟨k, hk, rfl⟩ := List.mem_map.1 hp
    have := (rangeLen_bound (List.mem_range.1 hk)).2 hst
    have := hnp k
    rw [Int.toNat_of_nonneg (by omega)]
    omega
theorem rangeList_one {a b : Int} (ha : 0 ≤ a) : rangeList a b 1 = List.range' a.toNat (b - a).toNat := by
  obtain ⟨n, rfl⟩ := Int.eq_ofNat_of_zero_le ha
  have hl : rangeLen n b 1 = (b - n).toNat := by
    unfold rangeLen
    split
    · rw [Int.ediv_one, Int.sub_add_cancel]
    · rw [if_neg (by omega), (Int.toNat_eq_zero.2 (by omega) : (b - n).toNat = 0)]
  unfold rangeList
  rw [List.range'_eq_map_range, hl, Int.toNat_natCast]
  apply List.map_congr_left
  intro k _
  rw [Int.mul_one, ← Int.natCast_add, Int.toNat_natCast]
theorem mem_range'_toNat {a b : Int} (ha : 0 ≤ a) (p : Nat) :
    p ∈ List.range' a.toNat (b - a).toNat ↔ a ≤ p ∧ (p : Int) < b := by
  obtain ⟨n, rfl⟩ := Int.eq_ofNat_of_zero_le ha
  rw [List.mem_range'_1, Int.toNat_natCast]
  omega

theorem toNat_add_toNat_sub {a b : Int} (ha : 0 ≤ a) : a.toNat + (b - a).toNat = (max a b).toNat := by
  obtain ⟨n, rfl⟩ := Int.eq_ofNat_of_zero_le ha
  by_cases h : (n : Int) ≤ b
  · rw [Int.max_eq_right h, Int.toNat_natCast]; omega
  · rw [Int.max_eq_left (Int.le_of_not_le h), Int.toNat_natCast]; omega

theorem pyInsert_nat (l : List Nat) (p w : Nat) : pyInsert l (p : Int) w = l.take p ++ w :: l.drop p := by
  unfold pyInsert
  simp only
  rw [if_neg (by omega)]
  split
  · have hl : l.length ≤ p := by omega
    rw [Int.toNat_natCast, List.take_of_length_le hl, List.drop_of_length_le hl]
    simp
  · rw [Int.toNat_natCast]

/-- filling the hole at the lowest selected position -/
theorem dropAt_insert {ps : List Nat} {p w : Nat} (hps : ∀ q ∈ ps, p < q) : ∀ (L : List Nat) (k : Nat), k ≤ p →
    p - k < L.length →
    (dropAt (p :: ps) L k).take (p - k) ++ w :: (dropAt (p :: ps) L k).drop (p - k) = dropAt ps (L.set (p - k) w) k
  | [], _, _, h => absurd h (by simp)
  | x :: xs, k, hk, hlen => by
    by_cases hpk : p = k
    · subst hpk
      have hp : p ∉ ps := fun hm => by have := hps p hm; omega
      rw [Nat.sub_self, dropAt, if_pos List.mem_cons_self, List.set_cons_zero, dropAt, if_neg hp]
      rw [List.take_zero, List.drop_zero, List.nil_append]
      rw [dropAt_congr (s := p :: ps) (s' := ps) xs (p + 1)]
      intro j hj
      rw [List.mem_cons]
      constructor
      · rintro (h1 | h1)
        · omega
        · exact h1
      · exact .inr
    · have hsub : p - k = (p - (k + 1)) + 1 := by omega
      have hk1 : k ∉ p :: ps := by
        intro hm
        rcases List.mem_cons.1 hm with h1 | h1
        · exact hpk h1.symm
        · have := hps k h1; omega
      have hk2 : k ∉ ps := fun hm => hk1 (List.mem_cons_of_mem _ hm)
      rw [dropAt, if_neg hk1, hsub, List.take_succ_cons, List.drop_succ_cons, List.set_cons_succ, dropAt, if_neg hk2]
      rw [List.cons_append, dropAt_insert hps xs (k + 1) (by omega)]
      rw [hsub] at hlen
      simpa using hlen

theorem length_setAll : ∀ (pairs : List (Nat × Nat)) (L : List Nat), (setAll L pairs).length = L.length
  | [], _ => rfl
  | pw :: rest, L => by
    show (setAll (L.set pw.1 pw.2) rest).length = _
    rw [length_setAll rest, List.length_set]

/-- extended-slice assignment on plain lists: deleting the selected positions and re-inserting values at
these positions in increasing order replaces the elements at these positions -/
theorem insAll_dropAt : ∀ (pairs : List (Nat × Nat)) (L : List Nat),
    (pairs.map (fun pv => pv.1)).Pairwise (fun x y => x < y) → (∀ pv ∈ pairs, pv.1 < L.length) →
    insAll (dropAt (pairs.map (fun pv => pv.1)) L 0) pairs = setAll L pairs
  | [], L, _, _ => by
    show dropAt [] L 0 = L
    exact dropAt_none L 0 (fun j _ hm => by cases hm)
  | (p, w) :: rest, L, hpw, hlt => by
    rw [List.map_cons, List.pairwise_cons] at hpw
    show insAll ((dropAt (p :: rest.map (fun pv => pv.1)) L 0).take p ++
      w :: (dropAt (p :: rest.map (fun pv => pv.1)) L 0).drop p) rest = setAll (L.set p w) rest
    have hp : p < L.length := hlt (p, w) List.mem_cons_self
    have := dropAt_insert (w := w) hpw.1 L 0 (Nat.zero_le p) (by simpa using hp)
    rw [Nat.sub_zero] at this
    rw [this]
    apply insAll_dropAt rest (L.set p w) hpw.2
    intro pv hm
    rw [List.length_set]
    exact hlt pv (List.mem_cons_of_mem _ hm)

/-- plain-slice assignment on plain lists: inserting the values one after the other behind `A` -/
theorem insAll_seq : ∀ (vs A B : List Nat),
    insAll (A ++ B) ((List.range' A.length vs.length).zip vs) = A ++ vs ++ B
  | [], A, B => by
    show A ++ B = _
    rw [List.append_nil]
  | v :: vs, A, B => by
    rw [List.length_cons, List.range'_succ, List.zip_cons_cons]
    show insAll ((A ++ B).take A.length ++ v :: (A ++ B).drop A.length) _ = _
    rw [List.take_left' rfl, List.drop_left' rfl]
    have h := insAll_seq vs (A ++ [v]) B
    rw [List.length_append, List.length_singleton] at h
    simp only [List.append_assoc, List.cons_append] at h ⊢
    exact h

theorem insSeqOps_eq (i : Nat) : ∀ (vs : List Nat) (a : Nat),
    insSeqOps i a vs = insAtOps i ((List.range' a vs.length).zip vs)
  | [], _ => rfl
  | v :: vs, a => by
    rw [insSeqOps, insSeqOps_eq i vs (a + 1), List.length_cons, List.range'_succ, List.zip_cons_cons]
    rfl

theorem getElem?_setAll : ∀ (pairs : List (Nat × Nat)) (L : List Nat),
    (pairs.map (fun pv => pv.1)).Nodup → (∀ pv ∈ pairs, pv.1 < L.length) →
    (∀ pv ∈ pairs, (setAll L pairs)[pv.1]? = some pv.2) ∧
    (∀ p, p ∉ pairs.map (fun pv => pv.1) → (setAll L pairs)[p]? = L[p]?)
  | [], L, _, _ => ⟨fun _ hm => (by cases hm), fun _ _ => rfl⟩
  | (p, w) :: rest, L, hnd, hlt => by
    rw [List.map_cons, List.nodup_cons] at hnd
    have hlt' : ∀ pv ∈ rest, pv.1 < (L.set p w).length := by
      intro pv hm
      rw [List.length_set]
      exact hlt pv (List.mem_cons_of_mem _ hm)
    obtain ⟨ih1, ih2⟩ := getElem?_setAll rest (L.set p w) hnd.2 hlt'
    have hp : p < L.length := hlt (p, w) List.mem_cons_self
    constructor
    · intro pv hm
      rcases List.mem_cons.1 hm with h1 | h1
      · subst h1
        show (setAll (L.set p w) rest)[p]? = some w
        rw [ih2 p hnd.1, List.getElem?_set, if_pos rfl, if_pos hp]
      · exact ih1 pv h1
    · intro q hq
      rw [List.map_cons, List.mem_cons, not_or] at hq
      show (setAll (L.set p w) rest)[q]? = L[q]?
      rw [ih2 q hq.2, List.getElem?_set, if_neg (fun hh => hq.1 hh.symm)]

theorem runE_eq_run : ∀ (ops : List Op) (g g' : G), runE g ops = .ok g' → run g ops = g'
  | [], g, g', h => by cases h; rfl
  | op :: ops, g, g', h => by
    simp only [runE] at h
    cases hs : step g op with
    | ok g1 =>
      rw [hs] at h
      rw [run_cons, skipStep_ok hs]
      exact runE_eq_run ops g1 g' h
    | error e =>
      rw [hs] at h
      cases h

section OrKeyError
variable {P : G → Prop} {g : G}

theorem orKeyError_runE_cons {op : Op} {ops : List Op} :
    OrKeyError (runE g (op :: ops)) P ↔ OrKeyError (step g op) fun g1 => OrKeyError (runE g1 ops) P := by
  show OrKeyError (match step g op with | .ok g' => runE g' ops | .error e => .error e) P ↔ _
  cases step g op <;> exact Iff.rfl

theorem orKeyError_runE_append : ∀ (xs : List Op) {ys : List Op} {g : G},
    OrKeyError (runE g xs) (fun g1 => OrKeyError (runE g1 ys) P) → OrKeyError (runE g (xs ++ ys)) P
  | [], _, _, h => h
  | _ :: xs, _, _, h => orKeyError_runE_cons.2 ((orKeyError_runE_cons.1 h).mono fun _ => orKeyError_runE_append xs)

end OrKeyError

theorem orKeyError_dels {i : Nat} : ∀ (ds : List Nat) (g : G), ds.Pairwise (fun a b => b < a) →
    (∀ d ∈ ds, d < (g.kids i .mods).length) →
    OrKeyError (runE g (ds.map (fun (k : Nat) => Op.delItem i (k : Int)))) fun g' =>
      g'.kids i .mods = ds.foldl List.eraseIdx (g.kids i .mods) ∧
      (∀ d ∈ ds, ∀ c, (g.kids i .mods)[d]? = some c → g'.par c = none) ∧
      (∀ c, (∀ d ∈ ds, (g.kids i .mods)[d]? ≠ some c) → g'.par c = g.par c) ∧
      (∀ q s', (q ≠ i ∨ s' ≠ .mods) → g'.kids q s' = g.kids q s') ∧ Stable g g' ∧
      (ForestInv g → ForestInv g')
  | [], g, _, _ =>
    ⟨rfl, fun _ hm => (by cases hm), fun _ _ => rfl, fun _ _ _ => rfl, Stable.refl g, fun h => h⟩
  | d :: rest, g, hpw, hlt => by
    rw [List.pairwise_cons] at hpw
    have hd : d < (g.kids i .mods).length := hlt d List.mem_cons_self
    refine orKeyError_runE_cons.2 ((orKeyError_modDelItem (k := (d : Int)) (idx := d)
      (pyIndex_of_nonneg (Int.natCast_nonneg d) (Int.ofNat_lt.2 hd))).mono ?_)
    rintro g1 ⟨old, hold, hk, hpo, hpn, hoth, hst, hinv⟩
    have hget : ∀ r ∈ rest, (g1.kids i .mods)[r]? = (g.kids i .mods)[r]? := by
      intro r hr
      rw [hk, List.getElem?_eraseIdx_of_lt (hpw.1 r hr)]
    have hlt1 : ∀ r ∈ rest, r < (g1.kids i .mods).length := by
      intro r hr
      rw [hk, List.length_eraseIdx, if_pos hd]
      have := hpw.1 r hr
      omega
    refine (orKeyError_dels rest g1 hpw.2 hlt1).mono ?_
    rintro g' ⟨ih1, ih2, ih3, ih4, ih5, ih6⟩
    refine ⟨?_, ?_, ?_, ?_, hst.trans ih5, ?_⟩
    · rw [ih1, hk]; rfl
    · intro d' hd' c hc
      rcases List.mem_cons.1 hd' with h2 | h2
      · subst h2
        rw [hold] at hc
        cases hc
        by_cases hex : ∃ r ∈ rest, (g1.kids i .mods)[r]? = some old
        · obtain ⟨r, hr, hr2⟩ := hex
          exact ih2 r hr old hr2
        · rw [ih3 old (fun r hr hh => hex ⟨r, hr, hh⟩)]
          exact hpo
      · exact ih2 d' h2 c (by rw [hget d' h2]; exact hc)
    · intro c hc
      have hne : c ≠ old := by
        intro hh
        subst hh
        exact hc d List.mem_cons_self hold
      rw [ih3 c (fun r hr => by rw [hget r hr]; exact hc r (List.mem_cons_of_mem _ hr)), hpn c hne]
    · intro q s' hne
      rw [ih4 q s' hne, hoth q s' hne]
    · exact fun h => ih6 (hinv h)

theorem orKeyError_delSlice {g : G} {i : Nat} {sel : List Nat} (hnd : sel.Nodup)
    (hlt : ∀ p ∈ sel, p < (g.kids i .mods).length) :
    OrKeyError (runE g (delSliceOps i sel)) fun g' =>
      g'.kids i .mods = dropAt sel (g.kids i .mods) 0 ∧
      (∀ p ∈ sel, ∀ c, (g.kids i .mods)[p]? = some c → g'.par c = none) ∧
      (∀ c, (∀ p ∈ sel, (g.kids i .mods)[p]? ≠ some c) → g'.par c = g.par c) ∧
      (∀ q s', (q ≠ i ∨ s' ≠ .mods) → g'.kids q s' = g.kids q s') ∧ Stable g g' ∧
      (ForestInv g → ForestInv g') := by
  have hpw := sortDesc_pairwise sel hnd
  refine (orKeyError_dels (sortDesc sel) g hpw (fun d hd => hlt d ((sortDesc_mem sel d).1 hd))).mono ?_
  rintro g' ⟨h1, h2, h3, h4, h5, h6⟩
  refine ⟨?_, fun p hp => h2 p ((sortDesc_mem sel p).2 hp),
    fun c hc => h3 c (fun d hd => hc d ((sortDesc_mem sel d).1 hd)), h4, h5, h6⟩
  rw [h1, foldl_eraseIdx_eq_dropAt _ _ hpw]
  exact dropAt_congr _ 0 (fun j _ => sortDesc_mem sel j)

theorem orKeyError_insert {g : G} {i p v : Nat} (h : ForestInv g) (hc : ChildOK g i .mods v)
    (hv : v ∉ g.kids i .mods) :
    OrKeyError (step g (.insert i (p : Int) v)) fun g' =>
      g'.kids i .mods = (g.kids i .mods).take p ++ v :: (g.kids i .mods).drop p ∧
      (∀ j, j ≠ i → g'.kids j .mods = (g.kids j .mods).erase v) ∧
      (∀ q s', s' ≠ .mods → g'.kids q s' = g.kids q s') ∧
      (∀ c, g'.par c = if c = v then some i else g.par c) ∧ ForestInv g' ∧ Stable g g' := by
  cases hs : step g (.insert i (p : Int) v) with
  | ok g' =>
    have hk := wr_modInsert_kids (k := (p : Int)) h hc.slot hs
    refine ⟨?_, fun j hj => ?_, fun q s' hne => ?_, modInsert_par (i := i) (k := (p : Int)) hs,
      h.modInsert hc hs, modInsert_stable (i := i) (k := (p : Int)) hs⟩
    · rw [hk i .mods, if_pos ⟨rfl, rfl⟩, List.erase_of_not_mem hv, pyInsert_nat]
    · rw [hk j .mods, if_neg fun hh => hj hh.1]
    · rw [hk q s', if_neg fun hh => hne hh.2, wr_erase_other_slot h hc.slot q hne]
  | error e => exact modInsert_err (i := i) (k := (p : Int)) h hc.slot hs

theorem orKeyError_insAt {i : Nat} : ∀ (pairs : List (Nat × Nat)) (g : G), ForestInv g →
    (∀ pv ∈ pairs, ChildOK g i .mods pv.2) → (pairs.map (fun pv => pv.2)).Nodup →
    (∀ pv ∈ pairs, pv.2 ∉ g.kids i .mods) →
    OrKeyError (runE g (insAtOps i pairs)) fun g' =>
      g'.kids i .mods = insAll (g.kids i .mods) pairs ∧
      (∀ j, j ≠ i →
        g'.kids j .mods = (g.kids j .mods).filter (fun x => !(decide (x ∈ pairs.map (fun pv => pv.2))))) ∧
      (∀ q s', s' ≠ .mods → g'.kids q s' = g.kids q s') ∧
      (∀ c, g'.par c = if c ∈ pairs.map (fun pv => pv.2) then some i else g.par c) ∧ ForestInv g'
  | [], g, h, _, _, _ => by
    refine ⟨rfl, ?_, fun _ _ _ => rfl, ?_, h⟩
    · intro j _
      exact (List.filter_eq_self.2 (fun _ _ => rfl)).symm
    · intro c
      rw [List.map_nil, if_neg List.not_mem_nil]
  | (p, w) :: rest, g, h, hc, hnd, hnot => by
    rw [List.map_cons, List.nodup_cons] at hnd
    refine orKeyError_runE_cons.2 ((orKeyError_insert (p := p) h (hc (p, w) List.mem_cons_self)
      (hnot (p, w) List.mem_cons_self)).mono ?_)
    rintro g1 ⟨f1, f2, f3, f4, f5, f6⟩
    have hc1 : ∀ pv ∈ rest, ChildOK g1 i .mods pv.2 := fun pv hm =>
      (hc pv (List.mem_cons_of_mem _ hm)).of_stable f6
    have hnot1 : ∀ pv ∈ rest, pv.2 ∉ g1.kids i .mods := by
      intro pv hm hin
      rw [f1, List.mem_append, List.mem_cons] at hin
      have hne : pv.2 ≠ w := by
        intro hh
        apply hnd.1
        rw [← hh]
        exact List.mem_map.2 ⟨pv, hm, rfl⟩
      have hnin := hnot pv (List.mem_cons_of_mem _ hm)
      rcases hin with h2 | h2 | h2
      · exact hnin (List.mem_of_mem_take h2)
      · exact hne h2
      · exact hnin (List.mem_of_mem_drop h2)
    refine (orKeyError_insAt rest g1 f5 hc1 hnd.2 hnot1).mono ?_
    rintro g' ⟨r1, r2, r3, r4, r5⟩
    refine ⟨?_, ?_, ?_, ?_, r5⟩
    · rw [r1, f1]; rfl
    · intro j hj
      rw [r2 j hj, f2 j hj, List.map_cons]
      exact wr_filter_erase (h.nodup j .mods) w _
    · intro q s' hne
      rw [r3 q s' hne, f3 q s' hne]
    · intro c
      rw [r4 c, f4 c, ite_mem_cons, List.map_cons]

/-- `ir.modules[slice] = vs` as deletions of the selected positions `sel`, then insertions of the values `vs`
(the second components of `pairs`, in any order): pairwise different modules, none of them in the list at an
unselected position (the code is inside the model, K1) -/
theorem orKeyError_setSlice {g : G} {i : Nat} {sel vs : List Nat} {pairs : List (Nat × Nat)} (h : ForestInv g)
    (hnd : sel.Nodup) (hlt : ∀ p ∈ sel, p < (g.kids i .mods).length)
    (hperm : (pairs.map (fun pv => pv.2)).Perm vs) (hvs : ∀ v ∈ vs, ChildOK g i .mods v) (hvnd : vs.Nodup)
    (hK1 : ∀ v ∈ vs, ∀ p : Nat, (g.kids i .mods)[p]? = some v → p ∈ sel) :
    OrKeyError (runE g (delSliceOps i sel ++ insAtOps i pairs)) fun g' =>
      g'.kids i .mods = insAll (dropAt sel (g.kids i .mods) 0) pairs ∧
      (∀ v ∈ vs, g'.par v = some i) ∧
      (∀ p ∈ sel, ∀ c, (g.kids i .mods)[p]? = some c → c ∉ vs → g'.par c = none) ∧
      (∀ c, c ∉ vs → (∀ p ∈ sel, (g.kids i .mods)[p]? ≠ some c) → g'.par c = g.par c) ∧
      (∀ j, j ≠ i → g'.kids j .mods = (g.kids j .mods).filter (fun x => !(decide (x ∈ vs)))) ∧
      (∀ q s', s' ≠ .mods → g'.kids q s' = g.kids q s') ∧ ForestInv g' := by
  have hmem : ∀ x, x ∈ pairs.map (fun pv => pv.2) ↔ x ∈ vs := fun x => hperm.mem_iff
  have hval : ∀ pv ∈ pairs, pv.2 ∈ vs := fun pv hm => (hmem pv.2).1 (List.mem_map.2 ⟨pv, hm, rfl⟩)
  refine orKeyError_runE_append _ ((orKeyError_delSlice hnd hlt).mono ?_)
  rintro g1 ⟨d1, d2, d3, d4, hst, hinv⟩
  have hnot1 : ∀ pv ∈ pairs, pv.2 ∉ g1.kids i .mods := by
    intro pv hm hin
    rw [d1] at hin
    obtain ⟨p, _, hp2, hp3⟩ := (mem_dropAt_iff _ 0).1 hin
    exact hp2 (hK1 pv.2 (hval pv hm) p hp3)
  refine (orKeyError_insAt pairs g1 (hinv h)
    (fun pv hm => (hvs pv.2 (hval pv hm)).of_stable hst)
    (hperm.nodup_iff.2 hvnd) hnot1).mono ?_
  rintro g' ⟨r1, r2, r3, r4, r5⟩
  refine ⟨by rw [r1, d1], ?_, ?_, ?_, ?_, ?_, r5⟩
  · intro v hv
    rw [r4 v, if_pos ((hmem v).2 hv)]
  · intro p hp c hc hcv
    rw [r4 c, if_neg (fun hh => hcv ((hmem c).1 hh))]
    exact d2 p hp c hc
  · intro c hcv hc
    rw [r4 c, if_neg (fun hh => hcv ((hmem c).1 hh))]
    exact d3 c hc
  · intro j hj
    rw [r2 j hj, d4 j .mods (.inl hj)]
    exact List.filter_congr fun x _ => congrArg (fun b => !b) (decide_eq_decide.2 (hmem x))
  · intro q s' hne
    rw [r3 q s' hne, d4 q s' (.inr hne)]

theorem setAll_reverse (pairs : List (Nat × Nat)) (L : List Nat)
    (hnd : (pairs.map (fun pv => pv.1)).Nodup) (hlt : ∀ pv ∈ pairs, pv.1 < L.length) :
    setAll L pairs.reverse = setAll L pairs := by
  have hnd' : (pairs.reverse.map (fun pv => pv.1)).Nodup := by
    rw [List.map_reverse]
    exact (List.reverse_perm _).nodup_iff.2 hnd
  have hlt' : ∀ pv ∈ pairs.reverse, pv.1 < L.length := fun pv hm => hlt pv (List.mem_reverse.1 hm)
  obtain ⟨a1, a2⟩ := getElem?_setAll pairs L hnd hlt
  obtain ⟨b1, b2⟩ := getElem?_setAll pairs.reverse L hnd' hlt'
  apply List.ext_getElem?
  intro q
  by_cases hq : q ∈ pairs.map (fun pv => pv.1)
  · obtain ⟨pv, hm, rfl⟩ := List.mem_map.1 hq
    rw [a1 pv hm, b1 pv (List.mem_reverse.2 hm)]
  · rw [a2 q hq, b2 q]
    rw [List.map_reverse, List.mem_reverse]
    exact hq

theorem extPairs_perm {st : Int} {sel vs : List Nat} (hlen : vs.length = sel.length) :
    ((extPairs st sel vs).map (fun pv => pv.2)).Perm vs := by
  have hsnd : (sel.zip vs).map (fun pv => pv.2) = vs := List.map_snd_zip (by omega)
  unfold extPairs
  split
  · rw [hsnd]
  · rw [List.map_reverse, hsnd]
    exact List.reverse_perm vs

/-- extended-slice assignment on plain lists, for the positions of a `range` (monotone) -/
theorem insAll_extPairs {st : Int} {sel vs L : List Nat} (hlen : vs.length = sel.length) (hnd : sel.Nodup)
    (hlt : ∀ p ∈ sel, p < L.length) (hpos : 0 < st → sel.Pairwise (fun x y => x < y))
    (hneg : ¬ 0 < st → sel.Pairwise (fun x y => y < x)) :
    insAll (dropAt sel L 0) (extPairs st sel vs) = setAll L (sel.zip vs) := by
  have hfst : (sel.zip vs).map (fun pv => pv.1) = sel := List.map_fst_zip (by omega)
  have hzlt : ∀ pv ∈ sel.zip vs, pv.1 < L.length := fun pv hm =>
    hlt pv.1 (List.of_mem_zip (a := pv.1) (b := pv.2) hm).1
  unfold extPairs
  split
  · rename_i hp
    have h := insAll_dropAt (sel.zip vs) L (by rw [hfst]; exact hpos hp) hzlt
    rwa [hfst] at h
  · rename_i hp
    have h := insAll_dropAt (sel.zip vs).reverse L
      (by rw [List.map_reverse, hfst, List.pairwise_reverse]; exact hneg hp)
      (fun pv hm => hzlt pv (List.mem_reverse.1 hm))
    rw [List.map_reverse, hfst, dropAt_congr L 0 (fun j _ => List.mem_reverse)] at h
    rw [h, setAll_reverse _ _ (by rw [hfst]; exact hnd) hzlt]

theorem opsOK_slice {i : Nat} {vs : List Nat} : ∀ (ops : List Op) (g : G), i < g.n ∧ g.kind i = .ir →
    (∀ v ∈ vs, ChildOK g i .mods v) →
    (∀ op ∈ ops, (∃ k, op = Op.delItem i k) ∨ (∃ k v, v ∈ vs ∧ op = Op.insert i k v)) → OpsOK g ops
  | [], _, _, _, _ => trivial
  | op :: ops, g, hi, hvs, hops => by
    have hop := hops op List.mem_cons_self
    have hst : Stable g (skipStep g op) := skipStep_cases (Stable.refl g) fun g1 hs => by
      rcases hop with ⟨k, rfl⟩ | ⟨k, v, _, rfl⟩
      · exact modDelItem_stable (i := i) (k := k) hs
      · exact modInsert_stable (i := i) (k := k) (v := v) hs
    refine ⟨?_, opsOK_slice ops (skipStep g op) (by rw [hst.n, hst.kind]; exact hi)
      (fun v hv => (hvs v hv).of_stable hst)
      (fun op' hm => hops op' (List.mem_cons_of_mem _ hm))⟩
    rcases hop with ⟨k, rfl⟩ | ⟨k, v, hv, rfl⟩
    · exact hi
    · exact hvs v hv

theorem setSliceOps_shape {i len : Nat} {start stop step : Option Int} {vs : List Nat} {a b st : Int}
    {ops : List Op} (hidx : sliceIndices len start stop step = some (a, b, st))
    (hops : setSliceOps i len start stop step vs = some ops) :
    ∃ pairs : List (Nat × Nat), ops = delSliceOps i (rangeList a b st) ++ insAtOps i pairs ∧
      (pairs.map (fun pv => pv.2)).Perm vs := by
  unfold setSliceOps at hops
  rw [hidx] at hops
  simp only at hops
  split at hops
  · cases hops
    refine ⟨_, by rw [insSeqOps_eq], ?_⟩
    rw [List.map_snd_zip (by simp)]
  · split at hops
    · rename_i hlen
      cases hops
      exact ⟨_, rfl, extPairs_perm (by omega)⟩
    · cases hops

end Gtirb.Forest
