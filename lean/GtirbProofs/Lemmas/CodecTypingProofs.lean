import GtirbProofs.Lemmas.Resolution
/-! Decode side of the AuxData codec: `tyOfTree` by head name (`Head`), total; `decode_spec`: what
`decode` returns has the type it was decoded at and what it leaves is a suffix of its input. -/
namespace Gtirb.Codec

/-- the node table and the nodes agree: a UUID that `get_by_uuid` resolves to a node is that
node's UUID (`lookup` is `ir.get_by_uuid`, `nu` is `node.uuid`) -/
def Coherent (lookup : Bytes → Option Nat) (nu : Nat → Bytes) : Prop :=
  ∀ u id, lookup u = some id → nu id = u

/-- What `tyOfTree` makes of a head name and the types of its arguments: a row of the codec
table with the right number of arguments, the same row with a wrong number, or no row. -/
inductive Head : String → List Ty → Ty → Prop
  | leaf {s l} : leafOfName s = some l → Head s [] (.leaf l)
  | leafArity {s l args} : leafOfName s = some l → args ≠ [] → Head s args (.badArity s args)
  | seq {t} : Head "sequence" [t] (.seq t)
  | seqArity {args} : args.length ≠ 1 → Head "sequence" args (.badArity "sequence" args)
  | set {t} : Head "set" [t] (.set t)
  | setArity {args} : args.length ≠ 1 → Head "set" args (.badArity "set" args)
  | map {k v} : Head "mapping" [k, v] (.map k v)
  | mapArity {args} : args.length ≠ 2 → Head "mapping" args (.badArity "mapping" args)
  | tuple {args} : Head "tuple" args (.tuple args)
  | variant {args} : Head "variant" args (.variant args)
  | unknown {s args} : leafOfName s = none → s ≠ "sequence" → s ≠ "set" → s ≠ "mapping" →
      s ≠ "tuple" → s ≠ "variant" → Head s args (.unknown s args)

theorem tyOfTree_head (n : List Char) (ks : List TypeName.Tree) (args : List Ty)
    (ha : tysOfTrees ks = some args) :
    ∃ t, tyOfTree (.node n ks) = some t ∧ Head (String.ofList n) args t := by
  simp only [tyOfTree, ha]
  generalize String.ofList n = s
  cases hl : leafOfName s with
  | some l =>
    by_cases he : args = []
    · subst he
      exact ⟨_, rfl, .leaf hl⟩
    · exact ⟨_, by simp [he], .leafArity hl he⟩
  | none =>
    by_cases h1 : s = "sequence"
    · subst h1
      match args with
      | [t] => exact ⟨_, rfl, .seq⟩
      | [] => exact ⟨_, rfl, .seqArity (by simp)⟩
      | _ :: _ :: _ => exact ⟨_, rfl, .seqArity (by simp)⟩
    by_cases h2 : s = "set"
    · subst h2
      match args with
      | [t] => exact ⟨_, rfl, .set⟩
      | [] => exact ⟨_, rfl, .setArity (by simp)⟩
      | _ :: _ :: _ => exact ⟨_, rfl, .setArity (by simp)⟩
    by_cases h3 : s = "mapping"
    · subst h3
      match args with
      | [k, v] => exact ⟨_, rfl, .map⟩
      | [] => exact ⟨_, rfl, .mapArity (by simp)⟩
      | [_] => exact ⟨_, rfl, .mapArity (by simp)⟩
      | _ :: _ :: _ :: _ => exact ⟨_, rfl, .mapArity (by simp)⟩
    by_cases h4 : s = "tuple"
    · subst h4
      exact ⟨_, rfl, .tuple⟩
    by_cases h5 : s = "variant"
    · subst h5
      exact ⟨_, rfl, .variant⟩
    exact ⟨_, by simp [h1, h2, h3, h4, h5], .unknown hl h1 h2 h3 h4 h5⟩

mutual
theorem tyOfTree_isSome : ∀ tr : TypeName.Tree, ∃ ty, tyOfTree tr = some ty
  | .node n ks => by
    obtain ⟨args, ha⟩ := tysOfTrees_isSome ks
    exact (tyOfTree_head n ks args ha).imp fun _ h => h.1
theorem tysOfTrees_isSome : ∀ ks : List TypeName.Tree, ∃ tys, tysOfTrees ks = some tys
  | [] => ⟨[], rfl⟩
  | t :: ts => by
    obtain ⟨a, ha⟩ := tyOfTree_isSome t
    obtain ⟨b, hb⟩ := tysOfTrees_isSome ts
    exact ⟨a :: b, by simp [tysOfTrees, ha, hb]⟩
end

theorem tyOfTree_ne_none (tr : TypeName.Tree) : tyOfTree tr ≠ none := by
  obtain ⟨ty, h⟩ := tyOfTree_isSome tr
  simp [h]

theorem tyOfName_isSome_iff (s : String) :
    (∃ ty, tyOfName s = some ty) ↔ ∃ tr, TypeName.parseType s.toList = some tr :=
  ⟨fun ⟨_, h⟩ => (tyOfName_eq_some.1 h).imp fun _ h => h.1,
   fun ⟨tr, h⟩ => (tyOfTree_isSome tr).imp fun _ ht => tyOfName_eq_some.2 ⟨tr, h, ht⟩⟩

theorem splitAt?_eq_some {n : Nat} {bs a r : Bytes} (h : splitAt? n bs = some (a, r)) :
    bs = a ++ r ∧ a.length = n := by
  unfold splitAt? at h
  split at h
  · rename_i hle
    simp only [Option.some.injEq, Prod.mk.injEq] at h
    obtain ⟨rfl, rfl⟩ := h
    exact ⟨(List.take_append_drop n bs).symm, by simp [List.length_take]; omega⟩
  · cases h

theorem leNat_lt (bs : Bytes) : leNat bs < 256 ^ bs.length := by
  induction bs with
  | nil => simp [leNat]
  | cons b bs ih =>
    simp only [leNat, List.length_cons, Nat.pow_succ]
    have := b.toNat_lt
    omega

theorem leNat_lt_of_length {bs : Bytes} {w : Nat} (h : bs.length = w) : leNat bs < 256 ^ w := by
  subst h
  exact leNat_lt bs

/-- Here the modulus must be even (`0 < w`): `x ≥ M / 2` is read as `x - M ≥ -(M / 2)`. -/
theorem decodeIntBytes_inRange (s : Bool) (w : Nat) (x : Bytes) (hw : 0 < w) (hx : x.length = w) :
    intInRange s w (decodeIntBytes s w x) = true := by
  obtain ⟨w', rfl⟩ : ∃ w', w = w' + 1 := ⟨w - 1, by omega⟩
  have hlt := leNat_lt_of_length hx
  have hP : 256 ^ (w' + 1) = 256 ^ w' * 256 := Nat.pow_succ ..
  simp only [intInRange, decodeIntBytes, pow256_cast, hP] at hlt ⊢
  generalize 256 ^ w' = P at hlt ⊢
  generalize leNat x = n at hlt ⊢
  cases s <;> simp <;> omega

theorem fromUTF8?_toUTF8 {b : ByteArray} {s : String} (h : String.fromUTF8? b = some s) :
    s.toUTF8 = b := by
  unfold String.fromUTF8? at h
  split at h
  · cases h
    rfl
  · cases h

theorem allMany_iff {p : Val → Bool} {xs : List Val} :
    allMany p xs = true ↔ ∀ x ∈ xs, p x = true := by
  induction xs with
  | nil => simp [allMany]
  | cons x xs ih => simp [allMany, ih]

theorem allMany_append (p : Val → Bool) (a b : List Val) :
    allMany p (a ++ b) = (allMany p a && allMany p b) := by
  induction a with
  | nil => simp [allMany]
  | cons x a ih => simp [allMany, ih, Bool.and_assoc]

theorem pairwiseDistinct_snoc (acc : List Val) (x : Val) (hd : pairwiseDistinct acc = true)
    (hm : memVal x acc = false) : pairwiseDistinct (acc ++ [x]) = true := by
  induction acc with
  | nil => simp [pairwiseDistinct, memVal]
  | cons a acc ih =>
    simp only [pairwiseDistinct, Bool.and_eq_true, Bool.not_eq_true'] at hd
    simp only [memVal, Bool.or_eq_false_iff] at hm
    simp only [List.cons_append, pairwiseDistinct, memVal_append, memVal, Bool.or_false,
      Bool.and_eq_true, Bool.not_eq_true', Bool.or_eq_false_iff]
    exact ⟨⟨hd.1, by rw [Val.beq_symm]; exact hm.1⟩, ih hd.2 hm.2⟩

theorem setInsert_inv (p : Val → Bool) (acc : List Val) (x : Val)
    (ha : allMany p acc = true) (hx : p x = true) (hd : pairwiseDistinct acc = true) :
    allMany p (setInsert acc x) = true ∧ pairwiseDistinct (setInsert acc x) = true ∧
      (setInsert acc x).length ≤ acc.length + 1 := by
  unfold setInsert
  cases hm : memVal x acc with
  | true => simp [ha, hd]
  | false =>
    simp only [Bool.false_eq_true, if_false]
    exact ⟨by simp [allMany_append, ha, allMany, hx], pairwiseDistinct_snoc acc x hd hm, by simp⟩

theorem foldl_setInsert_inv (p : Val → Bool) (xs : List Val) : ∀ (acc : List Val),
    allMany p acc = true → allMany p xs = true → pairwiseDistinct acc = true →
    allMany p (xs.foldl setInsert acc) = true ∧ pairwiseDistinct (xs.foldl setInsert acc) = true ∧
      (xs.foldl setInsert acc).length ≤ acc.length + xs.length := by
  induction xs with
  | nil =>
    intro acc ha _ hd
    exact ⟨ha, hd, by simp⟩
  | cons x xs ih =>
    intro acc ha hx hd
    simp only [allMany, Bool.and_eq_true] at hx
    obtain ⟨h1, h2, h3⟩ := setInsert_inv p acc x ha hx.1 hd
    obtain ⟨i1, i2, i3⟩ := ih (setInsert acc x) h1 hx.2 h2
    refine ⟨i1, i2, ?_⟩
    simp only [List.foldl_cons, List.length_cons]
    omega

theorem dedup_inv (p : Val → Bool) (xs : List Val) (h : allMany p xs = true) :
    allMany p (dedup xs) = true ∧ pairwiseDistinct (dedup xs) = true ∧
      (dedup xs).length ≤ xs.length := by
  have := foldl_setInsert_inv p xs [] rfl h rfl
  simpa [dedup] using this

/-- the invariant of the `dict` under construction -/
def MapInv (p q : Val → Bool) (ks vs : List Val) : Prop :=
  allMany p ks = true ∧ allMany q vs = true ∧ ks.length = vs.length ∧ pairwiseDistinct ks = true

theorem mapInsert_keys (k v : Val) (ks vs : List Val) (hl : ks.length = vs.length) :
    (mapInsert ks vs k v).1 = setInsert ks k ∧
      (mapInsert ks vs k v).2.length = (setInsert ks k).length ∧
      ∀ q : Val → Bool, q v = true → allMany q vs = true →
        allMany q (mapInsert ks vs k v).2 = true := by
  fun_induction mapInsert ks vs k v
  case case1 vs k v =>
    cases vs with
    | nil => simp [setInsert, memVal, allMany]
    | cons _ _ => simp at hl
  case case2 k' ks v' vs k v hb =>
    simp only [List.length_cons, Nat.add_right_cancel_iff] at hl
    simp +contextual [setInsert, memVal, hb, allMany, hl]
  case case3 k' ks v' vs k v hb ks' vs' e ih =>
    simp only [List.length_cons, Nat.add_right_cancel_iff] at hl
    obtain ⟨i1, i2, i3⟩ := ih hl
    rw [e] at i1 i2 i3
    have hs : setInsert (k' :: ks) k = k' :: setInsert ks k := by
      simp only [setInsert, memVal, hb, Bool.false_or]
      split <;> rfl
    rw [hs, ← i1]
    refine ⟨rfl, by simp [i2, ← i1], fun q hq ha => ?_⟩
    simp only [allMany, Bool.and_eq_true] at ha ⊢
    exact ⟨ha.1, i3 q hq ha.2⟩
  case case4 => simp at hl

theorem mapInsert_inv (p q : Val → Bool) (k v : Val) (hk : p k = true) (hv : q v = true)
    (ks vs : List Val) (h : MapInv p q ks vs) :
    MapInv p q (mapInsert ks vs k v).1 (mapInsert ks vs k v).2 ∧
      (mapInsert ks vs k v).1.length ≤ ks.length + 1 := by
  obtain ⟨h1, h2, hl, h4⟩ := h
  obtain ⟨e, el, ev⟩ := mapInsert_keys k v ks vs hl
  obtain ⟨s1, s2, s3⟩ := setInsert_inv p ks k h1 hk h4
  rw [e]
  exact ⟨⟨s1, ev q hv h2, el.symm, s2⟩, s3⟩

theorem foldl_mapInsert_inv (p q : Val → Bool) : ∀ (kvs : List (Val × Val)) (aks avs : List Val),
    MapInv p q aks avs → (∀ kv ∈ kvs, p kv.1 = true ∧ q kv.2 = true) →
    MapInv p q (kvs.foldl (fun acc kv => mapInsert acc.1 acc.2 kv.1 kv.2) (aks, avs)).1
      (kvs.foldl (fun acc kv => mapInsert acc.1 acc.2 kv.1 kv.2) (aks, avs)).2 ∧
    (kvs.foldl (fun acc kv => mapInsert acc.1 acc.2 kv.1 kv.2) (aks, avs)).1.length
      ≤ aks.length + kvs.length
  | [], aks, avs, h, _ => ⟨h, by simp⟩
  | kv :: kvs, aks, avs, h, hkv => by
    obtain ⟨hk, hv⟩ := hkv kv (List.mem_cons_self ..)
    obtain ⟨i1, i2⟩ := mapInsert_inv p q kv.1 kv.2 hk hv aks avs h
    obtain ⟨j1, j2⟩ := foldl_mapInsert_inv p q kvs _ _ i1
      (fun kv' h' => hkv kv' (List.mem_cons_of_mem _ h'))
    have e : (kv :: kvs).foldl (fun acc kv => mapInsert acc.1 acc.2 kv.1 kv.2) (aks, avs) =
        kvs.foldl (fun acc kv => mapInsert acc.1 acc.2 kv.1 kv.2)
          ((mapInsert aks avs kv.1 kv.2).1, (mapInsert aks avs kv.1 kv.2).2) := rfl
    rw [e]
    refine ⟨j1, ?_⟩
    simp only [List.length_cons]
    omega

theorem mapBuild_inv (p q : Val → Bool) (ks vs : List Val)
    (hk : allMany p ks = true) (hv : allMany q vs = true) :
    MapInv p q (mapBuild ks vs).1 (mapBuild ks vs).2 ∧ (mapBuild ks vs).1.length ≤ ks.length := by
  have hkv : ∀ kv ∈ ks.zip vs, p kv.1 = true ∧ q kv.2 = true := by
    intro kv hm
    obtain ⟨a, b⟩ := kv
    have := List.of_mem_zip hm
    exact ⟨allMany_iff.1 hk a this.1, allMany_iff.1 hv b this.2⟩
  obtain ⟨h1, h2⟩ := foldl_mapInsert_inv p q (ks.zip vs) [] [] ⟨rfl, rfl, rfl, rfl⟩ hkv
  refine ⟨h1, ?_⟩
  have : (ks.zip vs).length ≤ ks.length := by simp [List.length_zip]; omega
  simp only [mapBuild]
  simp only [List.length_nil, Nat.zero_add] at h2
  omega

/-! A successful decode consumed a prefix of its input, and (if the node table is coherent) what it returned has the
type it was decoded at. Both are read off the same walk through the decoder, so they are proved
together. -/

def Dec (g : Bytes → Res (Val × Bytes)) (P : Val → Prop) : Prop :=
  ∀ bs v rest, g bs = .ok (v, rest) → (∃ used, bs = used ++ rest) ∧ P v

theorem decodeElem_spec (lookup : Bytes → Option Nat) (nu : Nat → Bytes) :
    Dec (decodeElem lookup) fun e => Coherent lookup nu → elemOk lookup nu e = true := by
  intro bs e rest h
  unfold decodeElem at h
  split at h
  · cases h
  · rename_i u r hs
    obtain ⟨rfl, hl⟩ := splitAt?_eq_some hs
    split at h
    · rename_i id hid
      cases h
      exact ⟨⟨u, rfl⟩, fun hc => by simp [elemOk, hc u id hid, hl, hid]⟩
    · rename_i hid
      cases h
      exact ⟨⟨u, rfl⟩, fun _ => by simp [elemOk, hl, hid]⟩

theorem decodeLeaf_spec (lookup : Bytes → Option Nat) (nu : Nat → Bytes) (l : Leaf) :
    Dec (decodeLeaf lookup l) fun v => Coherent lookup nu → leafHasType lookup nu l v = true := by
  intro bs v rest h
  revert h
  fun_cases decodeLeaf lookup l bs <;> intro h
  case case2 b bs' => -- bool
    cases h
    exact ⟨⟨[b], rfl⟩, fun _ => rfl⟩
  case case4 x r hs => -- float
    cases h
    obtain ⟨rfl, hx⟩ := splitAt?_eq_some hs
    exact ⟨⟨x, rfl⟩, fun _ => by simpa [leafHasType] using leNat_lt_of_length hx⟩
  case case6 x r hs => -- double
    cases h
    obtain ⟨rfl, hx⟩ := splitAt?_eq_some hs
    exact ⟨⟨x, rfl⟩, fun _ => by simpa [leafHasType] using leNat_lt_of_length hx⟩
  case case9 x r sb r' hs' s hu hs => -- string
    cases h
    obtain ⟨rfl, hx⟩ := splitAt?_eq_some hs
    obtain ⟨rfl, hsb⟩ := splitAt?_eq_some hs'
    refine ⟨⟨x ++ sb, by rw [List.append_assoc]⟩, fun _ => ?_⟩
    simp only [leafHasType, decide_eq_true_eq, fromUTF8?_toUTF8 hu, byteArray_toList, hsb]
    simpa using leNat_lt_of_length hx
  case case11 => exact decodeElem_spec lookup nu _ _ _ h -- UUID
  case case13 e r1 x r hs he => -- Offset
    cases h
    obtain ⟨⟨u, rfl⟩, hok⟩ := decodeElem_spec lookup nu _ _ _ he
    obtain ⟨rfl, hx⟩ := splitAt?_eq_some hs
    refine ⟨⟨u ++ x, by rw [List.append_assoc]⟩, fun hc => ?_⟩
    simp only [leafHasType, hok hc, Bool.true_and, decide_eq_true_eq]
    simpa using leNat_lt_of_length hx
  case case20 x r _ _ _ _ _ _ hs => -- the integers
    cases h
    obtain ⟨rfl, hx⟩ := splitAt?_eq_some hs
    have hl : l.isInt = true := by cases l <;> simp_all [Leaf.isInt]
    refine ⟨⟨x, rfl⟩, fun _ => ?_⟩
    simp [leafHasType, hl,
      decodeIntBytes_inRange l.signed l.width x (Leaf.width_pos_of_isInt l hl) hx]
  all_goals cases h

theorem decodeMany_spec {g : Bytes → Res (Val × Bytes)} {P : Val → Prop} (hg : Dec g P) :
    ∀ {n : Nat} {bs : Bytes} {vs : List Val} {rest : Bytes},
      decodeMany g n bs = .ok (vs, rest) →
        (∃ used, bs = used ++ rest) ∧ vs.length = n ∧ ∀ v ∈ vs, P v
  | 0, _, _, _, rfl => ⟨⟨[], rfl⟩, rfl, by simp⟩
  | n + 1, bs, vs, rest, h => by
    simp only [decodeMany] at h
    split at h
    · rename_i v r hv
      obtain ⟨⟨u, rfl⟩, hp⟩ := hg _ _ _ hv
      split at h
      · rename_i vs' r' hvs
        obtain ⟨⟨u', rfl⟩, hl, hall⟩ := decodeMany_spec hg hvs
        cases h
        exact ⟨⟨u ++ u', by rw [List.append_assoc]⟩, by simp [hl], by simpa [hp] using hall⟩
      all_goals cases h
    all_goals cases h

theorem decodeManyPairs_spec {f g : Bytes → Res (Val × Bytes)} {P Q : Val → Prop}
    (hf : Dec f P) (hg : Dec g Q) :
    ∀ {n : Nat} {bs : Bytes} {ks vs : List Val} {rest : Bytes},
      decodeManyPairs f g n bs = .ok (ks, vs, rest) →
        (∃ used, bs = used ++ rest) ∧ ks.length = n ∧ vs.length = n ∧
          (∀ k ∈ ks, P k) ∧ ∀ v ∈ vs, Q v
  | 0, _, _, _, _, rfl => ⟨⟨[], rfl⟩, rfl, rfl, by simp, by simp⟩
  | n + 1, bs, ks, vs, rest, h => by
    simp only [decodeManyPairs] at h
    split at h
    · rename_i k r hk
      obtain ⟨⟨u, rfl⟩, hp⟩ := hf _ _ _ hk
      split at h
      · rename_i v r' hv
        obtain ⟨⟨u', rfl⟩, hq⟩ := hg _ _ _ hv
        split at h
        · rename_i ks' vs' r'' hkv
          obtain ⟨⟨u'', rfl⟩, h1, h2, h3, h4⟩ := decodeManyPairs_spec hf hg hkv
          cases h
          exact ⟨⟨u ++ (u' ++ u''), by simp [List.append_assoc]⟩, by simp [h1], by simp [h2],
            by simpa [hp] using h3, by simpa [hq] using h4⟩
        all_goals cases h
      all_goals cases h
    all_goals cases h

section
variable (lookup : Bytes → Option Nat) (nu : Nat → Bytes)

mutual
theorem decode_spec : ∀ t : Ty,
    Dec (decode lookup t) fun v => Coherent lookup nu → hasType lookup nu t v = true
  | .leaf l => fun bs v rest h => decodeLeaf_spec lookup nu l bs v rest h
  | .seq t => fun bs v rest h => by
    simp only [decode] at h
    split at h
    · cases h
    · rename_i x r hs
      obtain ⟨rfl, hx⟩ := splitAt?_eq_some hs
      split at h
      · rename_i vs r' hm
        obtain ⟨⟨u, rfl⟩, hl, hall⟩ := decodeMany_spec (decode_spec t) hm
        cases h
        refine ⟨⟨x ++ u, by rw [List.append_assoc]⟩, fun hc => ?_⟩
        simp only [hasType, allMany_iff.2 fun v hv => hall v hv hc, Bool.true_and,
          decide_eq_true_eq, hl]
        simpa using leNat_lt_of_length hx
      all_goals cases h
  | .set t => fun bs v rest h => by
    simp only [decode] at h
    split at h
    · cases h
    · rename_i x r hs
      obtain ⟨rfl, hx⟩ := splitAt?_eq_some hs
      split at h
      · rename_i vs r' hm
        obtain ⟨⟨u, rfl⟩, hl, hall⟩ := decodeMany_spec (decode_spec t) hm
        cases h
        refine ⟨⟨x ++ u, by rw [List.append_assoc]⟩, fun hc => ?_⟩
        obtain ⟨d1, d2, d3⟩ := dedup_inv (hasType lookup nu t) vs
          (allMany_iff.2 fun v hv => hall v hv hc)
        have := leNat_lt_of_length hx
        simp only [hasType, d1, d2, Bool.true_and, Bool.and_true, decide_eq_true_eq]
        have h8 : (256 : Nat) ^ 8 = 2 ^ 64 := by decide
        omega
      all_goals cases h
  | .map kt vt => fun bs v rest h => by
    simp only [decode] at h
    split at h
    · cases h
    · rename_i x r hs
      obtain ⟨rfl, hx⟩ := splitAt?_eq_some hs
      split at h
      · rename_i ks vs r' hm
        obtain ⟨⟨u, rfl⟩, hl, _, hk, hv⟩ :=
          decodeManyPairs_spec (decode_spec kt) (decode_spec vt) hm
        generalize hkv : mapBuild ks vs = kv at h
        obtain ⟨ks', vs'⟩ := kv
        cases h
        refine ⟨⟨x ++ u, by rw [List.append_assoc]⟩, fun hc => ?_⟩
        obtain ⟨⟨m1, m2, m3, m4⟩, m5⟩ := mapBuild_inv (hasType lookup nu kt) (hasType lookup nu vt)
          ks vs (allMany_iff.2 fun v h => hk v h hc) (allMany_iff.2 fun v h => hv v h hc)
        rw [hkv] at m1 m2 m3 m4 m5
        have := leNat_lt_of_length hx
        have h8 : (256 : Nat) ^ 8 = 2 ^ 64 := by decide
        simp only [hasType, m1, m2, m4, Bool.true_and, Bool.and_true, Bool.and_eq_true,
          beq_iff_eq, decide_eq_true_eq]
        simp only at m3 m5
        exact ⟨m3, by omega⟩
      all_goals cases h
  | .tuple ts => fun bs v rest h => by
    simp only [decode] at h
    split at h
    · rename_i vs r hm
      cases h
      exact decodeTuple_spec ts _ _ _ hm
    all_goals cases h
  | .variant ts => fun bs v rest h => by
    simp only [decode] at h
    split at h
    · cases h
    · rename_i x r hs
      obtain ⟨rfl, hx⟩ := splitAt?_eq_some hs
      split at h
      · rename_i w r' hm
        obtain ⟨⟨u, rfl⟩, hn⟩ := decodeNth_spec ts _ _ _ _ hm
        cases h
        refine ⟨⟨x ++ u, by rw [List.append_assoc]⟩, fun hc => ?_⟩
        simp only [hasType, hn hc, Bool.and_true, decide_eq_true_eq]
        simpa using leNat_lt_of_length hx
      all_goals cases h
  | .unknown _ _ => fun _ _ _ h => nomatch h
  | .badArity _ _ => fun _ _ _ h => nomatch h
theorem decodeTuple_spec : ∀ (ts : List Ty) (bs rest : Bytes) (vs : List Val),
    decodeTuple lookup ts bs = .ok (vs, rest) →
      (∃ used, bs = used ++ rest) ∧ (Coherent lookup nu → hasTypeTuple lookup nu ts vs = true)
  | [], _, _, _, rfl => ⟨⟨[], rfl⟩, fun _ => rfl⟩
  | t :: ts, bs, rest, vs, h => by
    simp only [decodeTuple] at h
    split at h
    · rename_i v r hv
      obtain ⟨⟨u, rfl⟩, h1⟩ := decode_spec t _ _ _ hv
      split at h
      · rename_i vs' r' hvs
        obtain ⟨⟨u', rfl⟩, h2⟩ := decodeTuple_spec ts _ _ _ hvs
        cases h
        exact ⟨⟨u ++ u', by rw [List.append_assoc]⟩, fun hc => by simp [hasTypeTuple, h1 hc, h2 hc]⟩
      all_goals cases h
    all_goals cases h
theorem decodeNth_spec : ∀ (ts : List Ty) (i : Nat) (bs rest : Bytes) (v : Val),
    decodeNth lookup ts i bs = .ok (v, rest) →
      (∃ used, bs = used ++ rest) ∧ (Coherent lookup nu → hasTypeNth lookup nu ts i v = true)
  | [], _, _, _, _, h => nomatch h
  | t :: _, 0, bs, rest, v, h => decode_spec t bs v rest h
  | _ :: ts, i + 1, bs, rest, v, h => decodeNth_spec ts i bs rest v h
end
end

section
variable (lookup : Bytes → Option Nat)

/-! The suffix half of `decode_spec` does not look at `nu` (only the typing half, under `Coherent`,
does), so any `nu` serves. -/

theorem decode_suffix : ∀ (t : Ty) (bs rest : Bytes) (v : Val),
    decode lookup t bs = .ok (v, rest) → ∃ used, bs = used ++ rest :=
  fun t bs rest v h => (decode_spec lookup (fun _ => []) t bs v rest h).1
theorem decodeTuple_suffix : ∀ (ts : List Ty) (bs rest : Bytes) (vs : List Val),
    decodeTuple lookup ts bs = .ok (vs, rest) → ∃ used, bs = used ++ rest :=
  fun ts bs rest vs h => (decodeTuple_spec lookup (fun _ => []) ts bs rest vs h).1
theorem decodeNth_suffix : ∀ (ts : List Ty) (i : Nat) (bs rest : Bytes) (v : Val),
    decodeNth lookup ts i bs = .ok (v, rest) → ∃ used, bs = used ++ rest :=
  fun ts i bs rest v h => (decodeNth_spec lookup (fun _ => []) ts i bs rest v h).1
end

section
variable (lookup : Bytes → Option Nat) (nu : Nat → Bytes) (hc : Coherent lookup nu)
include hc
set_option linter.unusedSectionVars false

/-- decode-side typing: whatever `decode` returns at `t` (from ANY bytes: non-canonical
encodings, duplicate set elements / mapping keys, any bool byte) is a value of `t`.  In
particular sets / mappings come back de-duplicated, UUIDs naming nodes come back as nodes. -/
theorem decode_hasType : ∀ (t : Ty) (bs rest : Bytes) (v : Val),
    decode lookup t bs = .ok (v, rest) → hasType lookup nu t v = true :=
  fun t bs rest v h => (decode_spec lookup nu t bs v rest h).2 hc
theorem decodeTuple_hasType : ∀ (ts : List Ty) (bs rest : Bytes) (vs : List Val),
    decodeTuple lookup ts bs = .ok (vs, rest) → hasTypeTuple lookup nu ts vs = true :=
  fun ts bs rest vs h => (decodeTuple_spec lookup nu ts bs rest vs h).2 hc
theorem decodeNth_hasType : ∀ (ts : List Ty) (i : Nat) (bs rest : Bytes) (v : Val),
    decodeNth lookup ts i bs = .ok (v, rest) → hasTypeNth lookup nu ts i v = true :=
  fun ts i bs rest v h => (decodeNth_spec lookup nu ts i bs rest v h).2 hc
end

/-- both are the same recursion over the type, `noUnknown` with more `false` leaves -/
theorem arityOk_of_noUnknown_all : (∀ t, noUnknown t = true → arityOk t = true) ∧
    ∀ ts, noUnknownList ts = true → arityOkList ts = true := by
  apply noUnknown.mutual_induct <;> simp_all [noUnknown, noUnknownList, arityOk, arityOkList]

theorem arityOk_of_noUnknown : ∀ t : Ty, noUnknown t = true → arityOk t = true :=
  arityOk_of_noUnknown_all.1
theorem arityOkList_of_noUnknownList : ∀ ts : List Ty, noUnknownList ts = true → arityOkList ts = true :=
  arityOk_of_noUnknown_all.2

theorem hasType_badArity (lookup : Bytes → Option Nat) (nu : Nat → Bytes) (n : String)
    (args : List Ty) (v : Val) : hasType lookup nu (.badArity n args) v = false := by
  cases v <;> simp [hasType]

theorem encode_badArity (nu : Nat → Bytes) (n : String) (args : List Ty) (v : Val) :
    encode nu (.badArity n args) v = none := by
  cases v <;> simp [encode]

theorem decode_badArity (lookup : Bytes → Option Nat) (n : String) (args : List Ty) (bs : Bytes) :
    decode lookup (.badArity n args) bs = .badArity := by
  simp [decode]

/-- a known head with a rejected arity fails only where decoding reaches it: behind an empty
sequence it is never reached -/
example : decode (fun _ => none) (.seq (.badArity "string" [.leaf .i8])) (u64 0) =
    .ok (.seq [], []) := by rfl
example : decode (fun _ => none) (.seq (.badArity "string" [.leaf .i8])) (u64 1) = .badArity := by rfl
/-- an unknown head in front of it wins -/
example : decode (fun _ => none) (.tuple [.unknown "foo" [], .badArity "string" [.leaf .i8]]) [1, 2] =
    .unknownCodec "foo" := by rfl
example : encode (fun _ => []) (.variant [.leaf .i8, .badArity "string" [.leaf .i8]])
    (.variant 0 (.int 5)) = some [0, 0, 0, 0, 0, 0, 0, 0, 5] := by decide
example : encode (fun _ => []) (.variant [.leaf .i8, .badArity "string" [.leaf .i8]])
    (.variant 1 (.str "a")) = none := by decide

/-- `decode_hasType` on non-canonical bytes: a set listing 5 twice, a bool byte 2 -/
example : decode (fun _ => none) (.tuple [.set (.leaf .u8), .leaf .bool]) (u64 2 ++ [5, 5] ++ [2]) =
    .ok (.tuple [.set [.int 5], .bool true], []) := by rfl
example : hasType (fun _ => none) (fun _ => []) (.tuple [.set (.leaf .u8), .leaf .bool])
    (.tuple [.set [.int 5], .bool true]) = true :=
  decode_hasType (fun _ => none) (fun _ => []) (fun _ _ h => by cases h) _
    (u64 2 ++ [5, 5] ++ [2]) [] _ (by rfl)
/-- `decode_suffix` with trailing bytes -/
example : ∃ used, (u64 2 ++ [5, 5] ++ [2, 9, 9] : Bytes) = used ++ [9, 9] :=
  decode_suffix (fun _ => none) (.tuple [.set (.leaf .u8), .leaf .bool]) _ _
    (.tuple [.set [.int 5], .bool true]) (by rfl)

end Gtirb.Codec
