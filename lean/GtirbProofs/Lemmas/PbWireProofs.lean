import GtirbModel.PbWire
namespace Gtirb.Pb
open Gtirb

theorem encVarint_lt (n : Nat) (h : n < 128) : encVarint n = [UInt8.ofNat n] := by
  rw [encVarint]; simp [h]

theorem encVarint_ge (n : Nat) (h : ¬ n < 128) :
    encVarint n = UInt8.ofNat (n % 128 + 128) :: encVarint (n / 128) := by
  rw [encVarint]; simp [h]

/-- a byte with the continuation bit: the low seven bits of `n`, plus 128 -/
theorem toNat_contByte (n : Nat) : (UInt8.ofNat (n % 128 + 128)).toNat = n % 128 + 128 :=
  UInt8.toNat_ofNat_of_lt' (Nat.add_lt_add_right (Nat.mod_lt _ (by decide)) 128)

theorem encVarint_ne_nil (n : Nat) : encVarint n ≠ [] := by
  by_cases h : n < 128
  · rw [encVarint_lt n h]; simp
  · rw [encVarint_ge n h]; simp

theorem encVarint_length_le_pow (k : Nat) : ∀ n : Nat, n < 128 ^ (k + 1) →
    (encVarint n).length ≤ k + 1 := by
  induction k with
  | zero =>
    intro n h
    have h' : n < 128 := by simpa using h
    rw [encVarint_lt n h']; simp
  | succ k ih =>
    intro n h
    by_cases h' : n < 128
    · rw [encVarint_lt n h']; simp
    · rw [encVarint_ge n h']
      have hlt : n / 128 < 128 ^ (k + 1) := by
        rw [Nat.div_lt_iff_lt_mul (by omega)]; rw [Nat.pow_succ] at h; exact h
      have := ih _ hlt
      simp only [List.length_cons]; omega

theorem encVarint_length_le (n : Nat) (h : n < 2 ^ 64) : (encVarint n).length ≤ 10 := by
  have h10 : n < 128 ^ (9 + 1) := by
    have : (2:Nat) ^ 64 ≤ 128 ^ (9 + 1) := by decide
    omega
  exact encVarint_length_le_pow 9 n h10

theorem decVarintAux_encVarint (n : Nat) : ∀ (fuel : Nat) (rest : Bytes),
    (encVarint n).length ≤ fuel → decVarintAux fuel (encVarint n ++ rest) = some (n, rest) := by
  induction n using Nat.strongRecOn with
  | _ n ih =>
    intro fuel rest hf
    obtain ⟨fuel, rfl⟩ : ∃ f, fuel = f + 1 :=
      ⟨fuel - 1, by have := List.length_pos_iff.2 (encVarint_ne_nil n); omega⟩
    by_cases h' : n < 128
    · rw [encVarint_lt n h']
      simp [decVarintAux, UInt8.toNat_ofNat_of_lt' (show n < 256 by omega), h']
    · rw [encVarint_ge n h'] at hf ⊢
      rw [List.cons_append, decVarintAux, toNat_contByte, if_neg (Nat.not_lt.2 (Nat.le_add_left ..)),
        ih (n / 128) (by omega) fuel rest (by simpa using hf), Nat.add_sub_cancel]
      simp only [Nat.mod_add_div]

theorem decVarint_encVarint (n : Nat) (h : n < 2 ^ 64) (rest : Bytes) :
    decVarint (encVarint n ++ rest) = some (n, rest) := by
  unfold decVarint
  rw [decVarintAux_encVarint n 10 rest (encVarint_length_le n h)]
  simp only
  rw [Nat.mod_eq_of_lt h]

theorem encField_ne_nil (f : Nat × WVal) : encField f ≠ [] := by
  unfold encField
  simp [encVarint_ne_nil]

theorem decField_encField (f : Nat × WVal) (h : fieldWf f = true) (rest : Bytes) :
    decField (encField f ++ rest) = some (f, rest) := by
  obtain ⟨fno, v⟩ := f
  simp only [fieldWf, Bool.and_eq_true, decide_eq_true_eq] at h
  obtain ⟨⟨h0, h29⟩, hv⟩ := h
  have hwt : wireType v < 8 := by cases v <;> simp [wireType]
  have htag : fno * 8 + wireType v < 2 ^ 64 := by omega
  have hdiv : (fno * 8 + wireType v) / 8 = fno := by
    rw [Nat.mul_comm, Nat.mul_add_div (by decide), Nat.div_eq_of_lt hwt, Nat.add_zero]
  have hmod : (fno * 8 + wireType v) % 8 = wireType v := by
    rw [Nat.mul_comm, Nat.mul_add_mod, Nat.mod_eq_of_lt hwt]
  have hne : ¬ fno = 0 := Nat.ne_of_gt h0
  unfold decField encField
  simp only [List.append_assoc]
  rw [decVarint_encVarint _ htag]
  simp only [hdiv, hmod, hne, if_false]
  cases v with
  | varint n =>
    simp only [WVal.wf, decide_eq_true_eq] at hv
    simp only [wireType, encVal]
    rw [decVarint_encVarint _ hv]
  | i64 bs =>
    simp only [WVal.wf, beq_iff_eq] at hv
    simp only [wireType, encVal]
    have : ¬ (bs ++ rest).length < 8 := by simp [hv]
    simp only [this, if_false]
    rw [← hv, List.take_left, List.drop_left]
  | len bs =>
    simp only [WVal.wf, decide_eq_true_eq] at hv
    simp only [wireType, encVal, List.append_assoc]
    rw [decVarint_encVarint _ hv]
    have : ¬ (bs ++ rest).length < bs.length := by simp
    simp only [this, if_false]
    rw [List.take_left, List.drop_left]
  | i32 bs =>
    simp only [WVal.wf, beq_iff_eq] at hv
    simp only [wireType, encVal]
    have : ¬ (bs ++ rest).length < 4 := by simp [hv]
    simp only [this, if_false]
    rw [← hv, List.take_left, List.drop_left]

theorem ofInt64_lt (i : Int) : ofInt64 i < 2 ^ 64 := by
  unfold ofInt64
  have h1 : 0 ≤ i % (2 ^ 64 : Int) := Int.emod_nonneg _ (by decide)
  have h2 : i % (2 ^ 64 : Int) < (2 ^ 64 : Int) := Int.emod_lt_of_pos _ (by decide)
  omega

theorem toInt64_ofInt64 (i : Int) (h : -(2 ^ 63 : Int) ≤ i ∧ i < (2 ^ 63 : Int)) :
    toInt64 (ofInt64 i) = i := by
  unfold toInt64 ofInt64
  split <;> omega

theorem ofInt64_toInt64 (n : Nat) (h : n < 2 ^ 64) : ofInt64 (toInt64 n) = n := by
  unfold toInt64 ofInt64
  split <;> omega


/-- the canonical form: the continuation bit is set on every byte but the last, and the last
byte of a non-zero number is non-zero (no redundant trailing zero group) -/
theorem encVarint_canonical (n : Nat) :
    ∃ init last, encVarint n = init ++ [last] ∧ last.toNat < 128 ∧
      (∀ b ∈ init, 128 ≤ b.toNat) ∧ (0 < n → 0 < last.toNat) := by
  induction n using Nat.strongRecOn with
  | _ n ih =>
    by_cases h' : n < 128
    · refine ⟨[], UInt8.ofNat n, ?_, ?_, ?_, ?_⟩
      · rw [encVarint_lt n h']; rfl
      · rw [UInt8.toNat_ofNat_of_lt' (show n < 256 by omega)]; exact h'
      · intro b hb; cases hb
      · rw [UInt8.toNat_ofNat_of_lt' (show n < 256 by omega)]; exact id
    · obtain ⟨init, last, he, hl, hi, h0⟩ := ih (n / 128) (by omega)
      refine ⟨UInt8.ofNat (n % 128 + 128) :: init, last, ?_, hl, ?_, fun _ => h0 (by omega)⟩
      · rw [encVarint_ge n h', he]; rfl
      · intro b hb
        rcases List.mem_cons.mp hb with rfl | hb
        · rw [toNat_contByte]; exact Nat.le_add_left ..
        · exact hi b hb

theorem encVarint_minimal (n : Nat) :
    ∃ init last, encVarint n = init ++ [last] ∧ last.toNat < 128 ∧
      ∀ b ∈ init, 128 ≤ b.toNat :=
  let ⟨init, last, he, hl, hi, _⟩ := encVarint_canonical n
  ⟨init, last, he, hl, hi⟩

theorem encVarint_last_ne_zero (n : Nat) (h : 128 ≤ n) :
    ∃ init last, encVarint n = init ++ [last] ∧ 0 < last.toNat ∧ last.toNat < 128 :=
  let ⟨init, last, he, hl, _, h0⟩ := encVarint_canonical n
  ⟨init, last, he, h0 (by omega), hl⟩

/-- `p` read `x` off the front of `a` and left `r`: it consumed a non-empty prefix `c`, and reads
the same from `c` whatever follows. (Both "the rest is shorter" and "appending to the input
appends to the rest" follow.) -/
def Takes {α : Type} (p : Bytes → Option (α × Bytes)) (a : Bytes) (x : α) (r : Bytes) : Prop :=
  ∃ c, c ≠ [] ∧ a = c ++ r ∧ ∀ b, p (c ++ b) = some (x, b)

theorem Takes.append {α : Type} {p : Bytes → Option (α × Bytes)} {a r : Bytes} {x : α}
    (h : Takes p a x r) (b : Bytes) : p (a ++ b) = some (x, r ++ b) := by
  obtain ⟨c, -, rfl, hc⟩ := h
  rw [List.append_assoc, hc]

theorem Takes.length_lt {α : Type} {p : Bytes → Option (α × Bytes)} {a r : Bytes} {x : α}
    (h : Takes p a x r) : r.length < a.length := by
  obtain ⟨c, hne, rfl, -⟩ := h
  have := List.length_pos_iff.2 hne
  simp only [List.length_append]; omega

theorem decVarintAux_takes : ∀ (k : Nat) (a : Bytes) (n : Nat) (r : Bytes),
    decVarintAux k a = some (n, r) → Takes (decVarintAux k) a n r
  | 0, _, _, _, h => by simp [decVarintAux] at h
  | _ + 1, [], _, _, h => by simp [decVarintAux] at h
  | k + 1, c :: cs, n, r, h => by
    rw [decVarintAux] at h
    split at h
    · next hc =>
      cases h
      exact ⟨[c], by simp, rfl, fun b => by simp [decVarintAux, hc]⟩
    · next hc =>
      split at h
      · next hi r' hd =>
        cases h
        obtain ⟨c', -, rfl, h'⟩ := decVarintAux_takes k cs hi r hd
        exact ⟨c :: c', by simp, rfl, fun b => by simp [decVarintAux, hc, h']⟩
      · cases h

theorem decVarint_takes (a : Bytes) (n : Nat) (r : Bytes) (h : decVarint a = some (n, r)) :
    Takes decVarint a n r := by
  unfold decVarint at h
  split at h
  · next m r' hd =>
    cases h
    obtain ⟨c, hne, rfl, h'⟩ := decVarintAux_takes 10 a m r hd
    exact ⟨c, hne, rfl, fun b => by simp [decVarint, h']⟩
  · cases h

/-- a payload of `n` bytes taken off `rest` -/
theorem take_drop_prefix {rest : Bytes} {n : Nat} (h : ¬ rest.length < n) (b : Bytes) :
    ¬ (rest.take n ++ b).length < n ∧ (rest.take n ++ b).take n = rest.take n ∧
      (rest.take n ++ b).drop n = b := by
  have hl : (rest.take n).length = n :=
    List.length_take.trans (Nat.min_eq_left (Nat.le_of_not_lt h))
  exact ⟨by rw [List.length_append, hl]; exact Nat.not_lt.2 (Nat.le_add_right ..),
    List.take_left' hl, List.drop_left' hl⟩

theorem decField_takes (a : Bytes) (f : Nat × WVal) (r : Bytes) (h : decField a = some (f, r)) :
    Takes decField a f r := by
  unfold decField at h
  split at h
  · cases h
  · next tag rest hd =>
    obtain ⟨c, hne, rfl, hc⟩ := decVarint_takes _ tag rest hd
    have hne' : ∀ c', c ++ c' ≠ [] := fun c' => by simp [hne]
    simp only at h
    split at h
    · cases h
    · next h0 =>
      split at h
      · -- varint
        split at h
        · next n r' hv =>
          cases h
          obtain ⟨c', -, rfl, hc'⟩ := decVarint_takes _ n r hv
          exact ⟨c ++ c', hne' _, by simp, fun b => by simp [decField, *]⟩
        · cases h
      · -- 64-bit
        split at h
        · cases h
        · next hl =>
          cases h
          have hp := take_drop_prefix hl
          exact ⟨c ++ rest.take 8, hne' _, by simp, fun b => by
            simp only [decField, List.append_assoc, if_false, *, (hp b).1, (hp b).2.1, (hp b).2.2]⟩
      · -- length-delimited
        split at h
        · next n r' hv =>
          obtain ⟨c', -, rfl, hc'⟩ := decVarint_takes _ n r' hv
          split at h
          · cases h
          · next hl =>
            cases h
            have hp := take_drop_prefix hl
            exact ⟨c ++ (c' ++ r'.take n), hne' _, by simp, fun b => by
              simp only [decField, List.append_assoc, if_false, *, (hp b).1, (hp b).2.1, (hp b).2.2]⟩
        · cases h
      · -- 32-bit
        split at h
        · cases h
        · next hl =>
          cases h
          have hp := take_drop_prefix hl
          exact ⟨c ++ rest.take 4, hne' _, by simp, fun b => by
            simp only [decField, List.append_assoc, if_false, *, (hp b).1, (hp b).2.1, (hp b).2.2]⟩
      · cases h

theorem decodeWAux_fuel_irrel : ∀ (fuel₁ fuel₂ : Nat) (bs : Bytes),
    bs.length ≤ fuel₁ → bs.length ≤ fuel₂ → decodeWAux fuel₁ bs = decodeWAux fuel₂ bs
  | 0, 0, [], _, _ | 0, _ + 1, [], _, _ | _ + 1, 0, [], _, _ | _ + 1, _ + 1, [], _, _ => rfl
  | 0, _, _ :: _, h, _ | _, 0, _ :: _, _, h => nomatch h
  | fuel₁ + 1, fuel₂ + 1, c :: cs, h1, h2 => by
    rw [decodeWAux, decodeWAux]
    cases hd : decField (c :: cs) with
    | none => rfl
    | some p =>
      have hl := Nat.le_of_lt_succ (decField_takes _ p.1 p.2 hd).length_lt
      simp only
      rw [decodeWAux_fuel_irrel fuel₁ fuel₂ p.2 (Nat.le_trans hl (Nat.le_of_succ_le_succ h1))
        (Nat.le_trans hl (Nat.le_of_succ_le_succ h2))]

/-- `decodeW` never fails for lack of fuel -/
theorem decodeWAux_fuel_enough (fuel : Nat) (bs : Bytes) (h : bs.length ≤ fuel) :
    decodeWAux fuel bs = decodeW bs :=
  decodeWAux_fuel_irrel fuel bs.length bs h (Nat.le_refl _)

/-- the parser's recursion, without fuel -/
theorem decodeW_cons (b : UInt8) (bs : Bytes) :
    decodeW (b :: bs) =
      match decField (b :: bs) with
      | none => none
      | some (f, rest) =>
        match decodeW rest with
        | some fs => some (f :: fs)
        | none => none := by
  unfold decodeW
  simp only [List.length_cons]
  rw [decodeWAux]
  cases hd : decField (b :: bs) with
  | none => rfl
  | some p =>
    obtain ⟨f, rest⟩ := p
    have hl := (decField_takes _ f rest hd).length_lt
    simp only [List.length_cons] at hl
    simp only
    rw [decodeWAux_fuel_irrel bs.length rest.length rest (by omega) (Nat.le_refl _)]
    cases decodeWAux rest.length rest <;> rfl

theorem decodeW_encodeW (m : WMsg) (h : m.wf = true) : decodeW (encodeW m) = some m := by
  induction m with
  | nil => rfl
  | cons f m ih =>
    simp only [WMsg.wf, List.all_cons, Bool.and_eq_true] at h
    have henc : encodeW (f :: m) = encField f ++ encodeW m := List.flatMap_cons ..
    cases hef : encField f with
    | nil => exact absurd hef (encField_ne_nil f)
    | cons b bs =>
      rw [henc, hef, List.cons_append, decodeW_cons, ← List.cons_append, ← hef,
        decField_encField f h.1]
      simp only [ih h.2]

theorem encodeW_injective (a b : WMsg) (ha : a.wf = true) (hb : b.wf = true)
    (h : encodeW a = encodeW b) : a = b := by
  have h1 := decodeW_encodeW a ha
  rw [h, decodeW_encodeW b hb] at h1
  exact (Option.some.inj h1).symm

/-- protobuf's merge by concatenation -/
theorem decodeW_append (a b : Bytes) (x y : WMsg)
    (ha : decodeW a = some x) (hb : decodeW b = some y) :
    decodeW (a ++ b) = some (x ++ y) := by
  induction x generalizing a with
  | nil =>
    cases a with
    | nil => exact hb
    | cons c cs =>
      rw [decodeW_cons] at ha
      split at ha
      · cases ha
      · split at ha <;> cases ha
  | cons f fs ih =>
    cases a with
    | nil => cases ha
    | cons c cs =>
      rw [decodeW_cons] at ha
      rw [List.cons_append, decodeW_cons, ← List.cons_append]
      split at ha
      · cases ha
      · next f' rest hd =>
        split at ha
        · next fs' hr =>
          cases ha
          rw [(decField_takes _ _ _ hd).append b]
          simp only [ih rest hr, List.cons_append]
        · cases ha

end Gtirb.Pb
