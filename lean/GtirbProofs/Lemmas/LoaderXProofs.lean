import GtirbModel.LoaderX
import GtirbProofs.Lemmas.LoaderDecoders
import GtirbProofs.Lemmas.ProtoProofs
import GtirbProofs.Lemmas.LoaderMiss
import GtirbProofs.Lemmas.NoHit
import GtirbProofs.Lemmas.ListLemmas
/-! Lemmas about `GtirbModel/LoaderX.lean` (the staged decoder with the symbolic-expression pass over
interval objects): erasure onto `Loader.load`, the analysis of runs in which every table lookup of
`Node._from_protobuf` misses, and `skelOf` as the flat projection of `skelOfX`. -/
namespace Gtirb.Loader
open Gtirb.Forest
open Gtirb.Msg (All2)

def eraseP (r : Except LErr (G × Nat × Pend)) : Except LErr (G × Nat) :=
  match r with
  | .ok (g, v, _) => .ok (g, v)
  | .error e => .error e

def eraseA (r : Except LErr (G × Pend)) : Except LErr G :=
  match r with
  | .ok (g, _) => .ok g
  | .error e => .error e

theorem eraseP_ok {r : Except LErr (G × Nat × Pend)} {g : G} {v : Nat} {pend : Pend} (h : r = .ok (g, v, pend)) :
    eraseP r = .ok (g, v) := by rw [h]; rfl

theorem eraseP_eq_ok {r : Except LErr (G × Nat × Pend)} {g : G} {v : Nat} (h : eraseP r = .ok (g, v)) :
    ∃ pend, r = .ok (g, v, pend) := by
  cases r with
  | error e => cases h
  | ok p => obtain ⟨g', v', pend⟩ := p; cases h; exact ⟨pend, rfl⟩

theorem eraseP_eq_error {r : Except LErr (G × Nat × Pend)} {e : LErr} (h : eraseP r = .error e) : r = .error e := by
  cases r with
  | error e' => cases h; rfl
  | ok p => cases h

theorem eraseA_eq_ok {r : Except LErr (G × Pend)} {g : G} (h : eraseA r = .ok g) : ∃ pend, r = .ok (g, pend) := by
  cases r with
  | error e => cases h
  | ok p => obtain ⟨g', pend⟩ := p; cases h; exact ⟨pend, rfl⟩

theorem eraseA_eq_error {r : Except LErr (G × Pend)} {e : LErr} (h : eraseA r = .error e) : r = .error e := by
  cases r with
  | error e' => cases h; rfl
  | ok p => cases h

theorem decodeIntervalX_eq (g : G) (pend : Pend) (ir : Nat) (x : XInterval) :
    decodeIntervalX g pend ir x =
      match decodeInterval g ir x.core with
      | .error e => .error e
      | .ok (g', v) => .ok (g', v, if (g.cache ir x.core.uuid).isNone then (v, x.exprSyms) :: pend else pend) := by
  unfold decodeIntervalX decodeInterval fromProto
  cases g.cache ir x.core.uuid with
  | some n => by_cases hk : g.kind n = Kind.interval <;> simp [hk]
  | none =>
    simp only [Bool.not_true, Bool.false_eq_true, if_false, Option.isNone_none, if_true]
    cases decodeBlocks ir (alloc g .interval x.core.uuid).1 x.core.blocks with
    | error e => rfl
    | ok r2 =>
      obtain ⟨g2, bs⟩ := r2
      dsimp only
      cases liftE (blkUpdate g2 (alloc g .interval x.core.uuid).2 bs) <;> rfl

theorem decodeIntervalX_erase (g : G) (pend : Pend) (ir : Nat) (x : XInterval) :
    eraseP (decodeIntervalX g pend ir x) = decodeInterval g ir x.core := by
  rw [decodeIntervalX_eq]
  cases decodeInterval g ir x.core <;> rfl

theorem decodeAttachX_erase {α β : Type} {decX : G → Pend → Nat → α → Except LErr (G × Nat × Pend)}
    {dec : G → Nat → β → Except LErr (G × Nat)} {c : α → β} {ir : Nat} (p : Nat) (s : Slot)
    (h : ∀ g pend a, eraseP (decX g pend ir a) = dec g ir (c a)) :
    ∀ (as : List α) (g : G) (pend : Pend),
      eraseA (decodeAttachX decX ir p s g pend as) = decodeAttach dec ir p s g (as.map c)
  | [], g, pend => rfl
  | a :: as, g, pend => by
    simp only [decodeAttachX, List.map_cons, decodeAttach]
    rw [← h g pend a]
    cases decX g pend ir a with
    | error e => rfl
    | ok r =>
      obtain ⟨g1, v, pend1⟩ := r
      simp only [eraseP]
      cases liftE (setAdd g1 p s v) with
      | error e => rfl
      | ok g2 => exact decodeAttachX_erase p s h as g2 pend1

theorem decodeSectionX_erase (g : G) (pend : Pend) (ir : Nat) (s : XSection) :
    eraseP (decodeSectionX g pend ir s) = decodeSection g ir s.core := by
  unfold decodeSectionX decodeSection
  dsimp only [XSection.core]
  cases fromProto g ir .section s.uuid with
  | error e => rfl
  | ok r =>
    obtain ⟨g1, v, fresh⟩ := r
    cases fresh with
    | false => rfl
    | true =>
      simp only [Bool.not_true, Bool.false_eq_true, if_false]
      rw [← decodeAttachX_erase (ir := ir) v .bis (fun g pend a => decodeIntervalX_erase g pend ir a) s.intervals
        (cacheSet g1 ir s.uuid v) pend]
      cases decodeAttachX decodeIntervalX ir v .bis (cacheSet g1 ir s.uuid v) pend s.intervals <;> rfl

theorem decodeSectionX_cases {g g' : G} {pend pend' : Pend} {ir v : Nat} {s : XSection}
    (h : decodeSectionX g pend ir s = .ok (g', v, pend')) :
    (g' = g ∧ pend' = pend ∧ g.cache ir s.uuid = some v) ∨
    (g.cache ir s.uuid = none ∧ v = g.n ∧
      decodeAttachX decodeIntervalX ir g.n .bis (cacheSet (alloc g .section s.uuid).1 ir s.uuid g.n) pend s.intervals
        = .ok (g', pend')) := by
  unfold decodeSectionX fromProto at h
  cases hc : g.cache ir s.uuid with
  | some n =>
    rw [hc] at h
    by_cases hk : g.kind n = .section
    · simp only [hk, if_true, Bool.not_false] at h
      cases h; exact .inl ⟨rfl, rfl, rfl⟩
    · simp only [hk, if_false] at h
      cases h
  | none =>
    rw [hc] at h
    simp only [Bool.not_true, Bool.false_eq_true, if_false] at h
    split at h
    · cases h
    · rename_i g4 pend4 ha
      cases h; exact .inr ⟨rfl, rfl, ha⟩

/-- `decodeModuleX` without the final pass: state, module node, pending map, fresh? -/
def moduleBuildX (g : G) (pend : Pend) (ir : Nat) (m : XModule) : Except LErr (G × Nat × Pend × Bool) :=
  match fromProto g ir .module m.uuid with
  | .error e => .error e
  | .ok (g1, v, fresh) =>
    if !fresh then .ok (g1, v, pend, false) else
    let g2 := cacheSet g1 ir m.uuid v
    match decodeAttach decodeProxy ir v .proxies g2 m.proxies with
    | .error e => .error e
    | .ok g4 =>
      match decodeAttachX decodeSectionX ir v .secs g4 pend m.sections with
      | .error e => .error e
      | .ok (g6, pend6) =>
        match (match m.entry with
               | none => (.ok () : Except LErr Unit)
               | some u => refKind g6 ir (fun k => k == Kind.code) u) with
        | .error e => .error e
        | .ok _ =>
          match decodeAttach decodeSymbol ir v .syms g6 m.symbols with
          | .error e => .error e
          | .ok g8 => .ok (g8, v, pend6, true)

theorem decodeModuleX_eq_build (g : G) (pend : Pend) (ir : Nat) (m : XModule) :
    decodeModuleX g pend ir m =
      match moduleBuildX g pend ir m with
      | .error e => .error (.core e)
      | .ok (g8, v, pend6, fresh) =>
        if fresh then
          match symExprs g8 ir pend6 (intervalsUnder g8 v) with
          | .error e => .error e
          | .ok pend8 => .ok (g8, v, pend8)
        else .ok (g8, v, pend6) := by
  unfold decodeModuleX moduleBuildX
  cases fromProto g ir .module m.uuid with
  | error e => rfl
  | ok r =>
    obtain ⟨g1, v, fresh⟩ := r
    cases fresh with
    | false => rfl
    | true =>
      simp only [Bool.not_true, Bool.false_eq_true, if_false]
      cases decodeAttach decodeProxy ir v .proxies (cacheSet g1 ir m.uuid v) m.proxies with
      | error e => rfl
      | ok g4 =>
        dsimp only
        cases decodeAttachX decodeSectionX ir v .secs g4 pend m.sections with
        | error e => rfl
        | ok r6 =>
          obtain ⟨g6, pend6⟩ := r6
          dsimp only
          cases m.entry with
          | none =>
            dsimp only
            cases decodeAttach decodeSymbol ir v .syms g6 m.symbols <;> rfl
          | some u =>
            dsimp only
            cases refKind g6 ir (fun k => k == Kind.code) u with
            | error e => rfl
            | ok _ =>
              dsimp only
              cases decodeAttach decodeSymbol ir v .syms g6 m.symbols <;> rfl

theorem moduleBuildX_cases {g g8 : G} {pend pend6 : Pend} {ir v : Nat} {m : XModule} {fresh : Bool}
    (h : moduleBuildX g pend ir m = .ok (g8, v, pend6, fresh)) :
    (fresh = false ∧ g8 = g ∧ pend6 = pend ∧ g.cache ir m.uuid = some v) ∨
    (fresh = true ∧ g.cache ir m.uuid = none ∧ v = g.n ∧ ∃ g4 g6,
      decodeAttach decodeProxy ir g.n .proxies (cacheSet (alloc g .module m.uuid).1 ir m.uuid g.n) m.proxies = .ok g4 ∧
      decodeAttachX decodeSectionX ir g.n .secs g4 pend m.sections = .ok (g6, pend6) ∧
      decodeAttach decodeSymbol ir g.n .syms g6 m.symbols = .ok g8) := by
  unfold moduleBuildX fromProto at h
  cases hc : g.cache ir m.uuid with
  | some n =>
    rw [hc] at h
    by_cases hk : g.kind n = .module
    · simp only [hk, if_true, Bool.not_false] at h
      cases h; exact .inl ⟨rfl, rfl, rfl, rfl⟩
    · simp only [hk, if_false] at h
      cases h
  | none =>
    rw [hc] at h
    simp only [Bool.not_true, Bool.false_eq_true, if_false] at h
    split at h
    · cases h
    · rename_i g4 hp4
      split at h
      · cases h
      · rename_i g6 p6 hp6
        split at h
        · cases h
        · split at h
          · cases h
          · rename_i g8' hp8
            cases h; exact .inr ⟨rfl, rfl, rfl, g4, g6, hp4, hp6, hp8⟩

theorem decodeModule_eq_buildX (g : G) (pend : Pend) (ir : Nat) (m : XModule) (l : List Nat) :
    decodeModule g ir { m.core with exprSyms := l } =
      match moduleBuildX g pend ir m with
      | .error e => .error e
      | .ok (g8, v, _, fresh) =>
        if fresh then
          match checkAll g8 ir (fun k => k == Kind.symbol) l with
          | .error e => .error e
          | .ok _ => .ok (g8, v)
        else .ok (g8, v) := by
  unfold moduleBuildX decodeModule
  dsimp only [XModule.core]
  cases fromProto g ir .module m.uuid with
  | error e => rfl
  | ok r =>
    obtain ⟨g1, v, fresh⟩ := r
    cases fresh with
    | false => rfl
    | true =>
      simp only [Bool.not_true, Bool.false_eq_true, if_false]
      cases decodeAttach decodeProxy ir v .proxies (cacheSet g1 ir m.uuid v) m.proxies with
      | error e => rfl
      | ok g4 =>
        dsimp only
        rw [← decodeAttachX_erase (ir := ir) v .secs (fun g pend a => decodeSectionX_erase g pend ir a) m.sections g4 pend]
        cases decodeAttachX decodeSectionX ir v .secs g4 pend m.sections with
        | error e => rfl
        | ok r6 =>
          obtain ⟨g6, pend6⟩ := r6
          dsimp only [eraseA]
          cases m.entry with
          | none =>
            dsimp only
            cases decodeAttach decodeSymbol ir v .syms g6 m.symbols <;> rfl
          | some u =>
            dsimp only
            cases refKind g6 ir (fun k => k == Kind.code) u with
            | error e => rfl
            | ok _ =>
              dsimp only
              cases decodeAttach decodeSymbol ir v .syms g6 m.symbols <;> rfl

theorem decodeModuleX_ok_core {g g' : G} {pend pend' : Pend} {ir v : Nat} {m : XModule}
    (h : decodeModuleX g pend ir m = .ok (g', v, pend')) : decodeModule g ir m.core = .ok (g', v) := by
  rw [decodeModuleX_eq_build] at h
  rw [show m.core = { m.core with exprSyms := [] } from rfl, decodeModule_eq_buildX g pend]
  cases hb : moduleBuildX g pend ir m with
  | error e => rw [hb] at h; cases h
  | ok r =>
    obtain ⟨g8, v8, pend6, fresh⟩ := r
    rw [hb] at h
    cases fresh with
    | false =>
      simp only [Bool.false_eq_true, if_false] at h ⊢
      cases h; rfl
    | true =>
      simp only [if_true, checkAll] at h ⊢
      cases hs : symExprs g8 ir pend6 (intervalsUnder g8 v8) with
      | error e => rw [hs] at h; cases h
      | ok p8 => rw [hs] at h; cases h; rfl

theorem decodeModulesX_ok_core {ir : Nat} : ∀ (ms : List XModule) (g g' : G) (pend : Pend),
    decodeModulesX ir g pend ms = .ok g' → decodeModules ir g (ms.map XModule.core) = .ok g'
  | [], g, g', pend, h => by cases h; rfl
  | m :: ms, g, g', pend, h => by
    simp only [decodeModulesX] at h
    simp only [List.map_cons, decodeModules]
    cases hm : decodeModuleX g pend ir m with
    | error e => rw [hm] at h; cases h
    | ok r =>
      obtain ⟨g1, v, pend1⟩ := r
      rw [hm] at h
      rw [decodeModuleX_ok_core hm]
      simp only [] at h ⊢
      cases ha : liftE (modAppend g1 ir v) with
      | error e => rw [ha] at h; cases h
      | ok g2 =>
        rw [ha] at h
        simp only [] at h ⊢
        exact decodeModulesX_ok_core ms g2 g' pend1 h

theorem loadX_ok_load {g g' : G} {mx : XIR} {ir : Nat} (h : loadX g mx = .ok (g', ir)) :
    load g mx.core = .ok (g', ir) := by
  unfold loadX at h
  unfold load
  dsimp only [XIR.core] at h ⊢
  cases hm : decodeModulesX g.n (mkIR g mx.uuid) [] mx.modules with
  | error e => rw [hm] at h; cases h
  | ok g2 =>
    rw [hm] at h
    rw [decodeModulesX_ok_core mx.modules _ _ _ hm]
    dsimp only at h ⊢
    cases hc : checkAll g2 g.n (fun k => k == Kind.code || k == Kind.proxy) (mx.edges.flatMap fun e => [e.1, e.2]) with
    | error e => rw [hc] at h; cases h
    | ok _ => rw [hc] at h; cases h; rfl

/-! ### runs in which every table lookup of `Node._from_protobuf` misses

No node is re-used or moved: every message node becomes one new, detached node that is appended to the collection
of the node under construction. `K` as in `LoaderMiss`. -/

/-- the state of such a run -/
structure FS (ir : Nat) (K : Nat → Prop) (g : G) : Prop where
  lt : ir < g.n
  keys : ∀ u n, g.cache ir u = some n → K u
  wf : ∀ y, ir ≤ y → y < g.n → ∀ s c, c ∈ g.kids y s → c < g.n
  up : ∀ y, ir ≤ y → y < g.n → ∀ s c, c ∈ g.kids y s → y < c
  kp : ∀ y, ir ≤ y → y < g.n → ∀ s c, c ∈ g.kids y s → g.par c = some y
  nd : ∀ y, ir ≤ y → y < g.n → ∀ s, (g.kids y s).Nodup

theorem FS.mono {ir : Nat} {K K' : Nat → Prop} {g : G} (h : FS ir K g) (hK : ∀ u, K u → K' u) : FS ir K' g :=
  ⟨h.lt, fun u n hc => hK u (h.keys u n hc), h.wf, h.up, h.kp, h.nd⟩

theorem FS.alloc {ir : Nat} {K : Nat → Prop} {g : G} (h : FS ir K g) (k : Kind) (u : Nat) :
    FS ir K (alloc g k u).1 := by
  refine ⟨Nat.lt_succ_of_lt h.lt, h.keys, ?_, ?_, ?_, ?_⟩
  · intro y hy hlt s c hc
    simp only [alloc_kids] at hc
    split at hc
    · cases hc
    · rename_i hne
      exact Nat.lt_succ_of_lt (h.wf y hy (by simp only [alloc_n] at hlt; omega) s c hc)
  · intro y hy hlt s c hc
    simp only [alloc_kids] at hc
    split at hc
    · cases hc
    · rename_i hne
      exact h.up y hy (by simp only [alloc_n] at hlt; omega) s c hc
  · intro y hy hlt s c hc
    simp only [alloc_kids] at hc
    split at hc
    · cases hc
    · rename_i hne
      have hyn : y < g.n := by simp only [alloc_n] at hlt; omega
      have hcn := h.wf y hy hyn s c hc
      simp only [alloc_par, if_neg (Nat.ne_of_lt hcn)]
      exact h.kp y hy hyn s c hc
  · intro y hy hlt s
    simp only [alloc_kids]
    split
    · exact List.nodup_nil
    · rename_i hne
      exact h.nd y hy (by simp only [alloc_n] at hlt; omega) s

theorem FS.of_cache {ir : Nat} {K : Nat → Prop} {g g' : G} (h : FS ir K g) (hn : g'.n = g.n)
    (hk : g'.kids = g.kids) (hp : g'.par = g.par) (hc : ∀ u n, g'.cache ir u = some n → K u) : FS ir K g' :=
  ⟨by rw [hn]; exact h.lt, hc,
   fun y hy hlt s c hm => by rw [hn] at hlt ⊢; rw [hk] at hm; exact h.wf y hy hlt s c hm,
   fun y hy hlt s c hm => by rw [hn] at hlt; rw [hk] at hm; exact h.up y hy hlt s c hm,
   fun y hy hlt s c hm => by rw [hn] at hlt; rw [hk] at hm; rw [hp]; exact h.kp y hy hlt s c hm,
   fun y hy hlt s => by rw [hn] at hlt; rw [hk]; exact h.nd y hy hlt s⟩

theorem FS.cacheSet {ir : Nat} {K : Nat → Prop} {g : G} (h : FS ir K g) (u v : Nat) :
    FS ir (fun w => K w ∨ w = u) (cacheSet g ir u v) := by
  refine (h.mono (fun w hw => Or.inl hw)).of_cache rfl rfl rfl ?_
  intro u' n hc
  simp only [cacheSet_cache] at hc
  split at hc
  · rename_i hh; exact .inr hh.2
  · exact .inl (h.keys u' n hc)

theorem FS.setAll {ir : Nat} {K : Nat → Prop} {g : G} (h : FS ir K g) (L : List Nat)
    (hL : ∀ y, y ∈ L → K (g.uuid y)) : FS ir K (cache_setAll g ir L) := by
  have ho := cache_setAll_only ir L g
  refine h.of_cache ho.n ho.kids ho.par ?_
  intro u n hc
  rcases setAll_cases ir L g ir u with ⟨y, hy, hyu, _, _⟩ | ⟨he, _⟩
  · rw [← hyu]; exact hL y hy
  · rw [he] at hc; exact h.keys u n hc

theorem FS.attached {ir : Nat} {K : Nat → Prop} {g g' : G} {p : Nat} {s : Slot} {xs : List Nat} (h : FS ir K g)
    (a : Attached g g' p s xs) (hp : ir ≤ p) (hpn : p < g.n)
    (hxs : ∀ x, x ∈ xs → p < x ∧ x < g.n ∧ g.par x = none) (hnd : xs.Nodup) : FS ir K g' := by
  refine ⟨by rw [a.n]; exact h.lt, by rw [a.cache]; exact h.keys, ?_, ?_, ?_, ?_⟩
  · intro y hy hlt s' c hc
    rw [a.n] at hlt ⊢
    rw [a.kids] at hc
    split at hc
    · rcases List.mem_append.1 hc with hc | hc
      · exact h.wf p hp hpn s c hc
      · exact (hxs c hc).2.1
    · exact h.wf y hy hlt s' c hc
  · intro y hy hlt s' c hc
    rw [a.n] at hlt
    rw [a.kids] at hc
    split at hc
    · rename_i hh
      rw [hh.1]
      rcases List.mem_append.1 hc with hc | hc
      · exact h.up p hp hpn s c hc
      · exact (hxs c hc).1
    · exact h.up y hy hlt s' c hc
  · intro y hy hlt s' c hc
    rw [a.n] at hlt
    rw [a.kids] at hc
    rw [a.par]
    split at hc
    · rename_i hh
      rw [hh.1]
      rcases List.mem_append.1 hc with hc | hc
      · have := h.kp p hp hpn s c hc
        split
        · rfl
        · exact this
      · rw [if_pos hc]
    · have hpc := h.kp y hy hlt s' c hc
      split
      · rename_i hcx
        rw [(hxs c hcx).2.2] at hpc; cases hpc
      · exact hpc
  · intro y hy hlt s'
    rw [a.n] at hlt
    rw [a.kids]
    split
    · rw [List.nodup_append]
      refine ⟨h.nd p hp hpn s, hnd, ?_⟩
      intro c hc d hd hcd
      subst hcd
      have := h.kp p hp hpn s c hc
      rw [(hxs c hd).2.2] at this; cases this
    · exact h.nd y hy hlt s'

theorem cache_miss {ir : Nat} {K : Nat → Prop} {g : G} (h : FS ir K g) {u : Nat} (hu : ¬ K u) : g.cache ir u = none := by
  cases hc : g.cache ir u with
  | none => rfl
  | some n => exact absurd (h.keys _ _ hc) hu

theorem MissList.anti {α : Type} {miss : (Nat → Prop) → α → Prop} {U : α → List Nat}
    (hmiss : ∀ (K K' : Nat → Prop) a, (∀ u, K' u → K u) → miss K a → miss K' a) :
    ∀ (as : List α) (K K' : Nat → Prop), (∀ u, K' u → K u) → MissList miss U K as → MissList miss U K' as
  | [], _, _, _, _ => trivial
  | a :: as, K, K', hK, h => ⟨hmiss K K' a hK h.1, MissList.anti hmiss as _ _ (fun u hu => by
      rcases hu with hu | hu
      · exact .inl (hK u hu)
      · exact .inr hu) h.2⟩

def NodesIn (ir : Nat) (K : Nat → Prop) (g : G) : Prop := ∀ y, ir ≤ y → y < g.n → K (g.uuid y)

/-- the state of a run without hits between two elements (`attach_gen`'s invariant). It does not hold while an
interval is under construction: the interval registers itself after its blocks. -/
def FSN (ir : Nat) (K : Nat → Prop) (g : G) : Prop := FS ir K g ∧ NodesIn ir K g

theorem FSN.keeps (ir : Nat) : Keeps ir (FSN ir) where
  kids_lt h := h.1.wf
  attached h a hip hpv hv hpar :=
    ⟨h.1.attached a hip (Nat.lt_trans hpv hv) (fun x hx => by rw [List.mem_singleton.1 hx]; exact ⟨hpv, hv, hpar⟩)
      (by simp), fun y h1 h2 => by rw [a.uuid]; exact h.2 y h1 (by rw [a.n] at h2; exact h2)⟩

theorem FSN.mono {ir : Nat} {K K' : Nat → Prop} {g : G} (h : FSN ir K g) (hK : ∀ u, K u → K' u) : FSN ir K' g :=
  ⟨h.1.mono hK, fun y h1 h2 => hK _ (h.2 y h1 h2)⟩

/-- a fresh node `g.n` that registers itself at once (block, proxy, symbol; first step of section, module): `g1` is
the state after the allocation, up to fields the invariant does not look at -/
theorem FSN.reg {ir : Nat} {K : Nat → Prop} {g g1 : G} (h : FSN ir K g) (k : Kind) (u : Nat)
    (hn : g1.n = g.n + 1) (hk : g1.kids = (alloc g k u).1.kids) (hp : g1.par = (alloc g k u).1.par)
    (hc : g1.cache = (alloc g k u).1.cache) (hu : g1.uuid = (alloc g k u).1.uuid) :
    FSN ir (fun w => K w ∨ w ∈ [u]) (cacheSet g1 ir u g.n) := by
  refine ⟨((((h.1.alloc k u).of_cache hn hk hp (by rw [hc]; exact (h.1.alloc k u).keys)).cacheSet u g.n).mono
    (fun w hw => hw.imp id (fun e => by rw [e]; exact List.mem_singleton_self _))), fun y h1 h2 => ?_⟩
  have hy : (cacheSet g1 ir u g.n).uuid y = (alloc g k u).1.uuid y := by rw [← hu]; rfl
  rw [hy, alloc_uuid]
  split
  · exact .inr (List.mem_singleton_self _)
  · rename_i hne
    exact .inl (h.2 y h1 (by have : (cacheSet g1 ir u g.n).n = g.n + 1 := hn; omega))

theorem blocks_fresh {ir : Nat} : ∀ (bs : List (Nat × Bool)) (K : Nat → Prop) (g : G), FS ir K g → MissBlocks K bs →
    ∃ g' vs, decodeBlocks ir g bs = .ok (g', vs) ∧ FS ir (fun u => K u ∨ u ∈ bs.map (·.1)) g' ∧ FreshList g g' vs
  | [], K, g, h, _ => ⟨g, [], rfl, h.mono (fun u hu => .inl hu), FreshList.nil g⟩
  | b :: bs, K, g, h, hm => by
    obtain ⟨hb, hm'⟩ := hm
    have e1 : decodeBlock g ir b =
        .ok (cacheSet (alloc g (if b.2 then .code else .data) b.1).1 ir b.1 g.n, g.n) := by
      rw [decodeBlock_eq, decodeLeaf_miss _ (cache_miss h hb)]
    obtain ⟨g2, vs, e2, h2, fl⟩ := blocks_fresh bs _ _ ((h.alloc _ _).cacheSet _ _) hm'
    exact ⟨g2, g.n :: vs, by simp only [decodeBlocks, e1, e2],
      h2.mono (fun u hu => by simpa only [List.map_cons, List.mem_cons, or_assoc] using hu),
      FreshList.cons (Fresh.reg g (if b.2 then .code else .data) b.1 ir) fl⟩

/-- the nodes a decoder creates carry UUIDs of the message part it consumed, whatever the message (an instance of
`Trace`, beside `Uq` and `Made`) -/
def Named (L : List Nat) (g g' : G) : Prop := Grows g g' ∧ ∀ x, g.n ≤ x → x < g'.n → g'.uuid x ∈ L

theorem Named.trace : Trace (fun _ => True) Named where
  stable h := ⟨h.grows, fun x h1 h2 => by rw [h.n] at h2; omega⟩
  alloc g k u _ := ⟨grows_alloc g k u, fun x h1 h2 => by
    have : x = g.n := by simp only [alloc_n] at h2; omega
    subst this; simp⟩
  append := by
    intro L1 L2 a b c h1 h2
    refine ⟨h1.1.trans h2.1, fun x hx hlt => List.mem_append.2 ?_⟩
    by_cases hb : x < b.n
    · left; rw [(h2.1.2 x hb).2]; exact h1.2 x hx hb
    · exact .inr (h2.2 x (by omega) hlt)
  skip L h := ⟨h.1, fun x h1 h2 => nomatch h.2 x h1 h2⟩

theorem intervalX_fsn {ir : Nat} (K : Nat → Prop) (g : G) (pend : Pend) (x : XInterval) (h : FSN ir K g)
    (hm : MissI K x.core) :
    ∃ g', decodeIntervalX g pend ir x = .ok (g', g.n, (g.n, x.exprSyms) :: pend) ∧ Fresh g g' g.n ∧
      FSN ir (fun u => K u ∨ u ∈ x.core.nodeUuids) g' := by
  obtain ⟨hu, hb⟩ := hm
  have hmiss := cache_miss h.1 hu
  obtain ⟨g2, vs, e2, h2, fl⟩ := blocks_fresh x.core.blocks K _ (h.1.alloc .interval x.core.uuid) hb
  have m2 : ∀ w, w ∈ vs → g.n + 1 ≤ w ∧ w < g2.n ∧ g2.par w = none := fl.mem
  have le2 : g.n + 1 ≤ g2.n := fl.le
  obtain ⟨g3, e, a3, _, _, _, hfr⟩ := interval_build hmiss e2 fl
  have ho := cache_setAll_only ir (g.n :: vs) g3
  have h3 : FS ir (fun u => K u ∨ u ∈ x.core.blocks.map (·.1)) g3 :=
    h2.attached a3 (Nat.le_of_lt h.1.lt) (by omega)
      (fun w hw => by obtain ⟨a, b, c⟩ := m2 w hw; exact ⟨by omega, b, c⟩) fl.nodup
  have hN : NodesIn ir (fun u => K u ∨ u ∈ x.core.nodeUuids) (cache_setAll g3 ir (g.n :: vs)) := by
    intro y h1 h2
    by_cases hy : y < g.n
    · rw [(hfr.same y hy).2.1]; exact .inl (h.2 y h1 hy)
    · exact .inr ((Named.trace.interval (fun _ _ => trivial) e).2 y (by omega) h2)
  refine ⟨_, by rw [decodeIntervalX_eq, e]; simp only [hmiss, Option.isNone_none, if_true], hfr, ?_, hN⟩
  refine (h3.mono (fun u hu' => hu'.imp id (List.mem_cons_of_mem _))).setAll _ (fun y hy => ?_)
  rw [← ho.uuid]
  refine hN y ?_ ?_
  · rcases List.mem_cons.1 hy with rfl | hy
    · exact Nat.le_of_lt h.1.lt
    · have := (m2 y hy).1; have := h.1.lt; omega
  · rw [ho.n, a3.n]
    rcases List.mem_cons.1 hy with rfl | hy
    · omega
    · exact (m2 y hy).2.1

def QI (x : XInterval) (_ : G) (pend : Pend) (v : Nat) : Prop := pend.lookup v = some x.exprSyms

/-- the section node holds one interval node per interval message, in order, each with its message -/
def QS (s : XSection) (g : G) (pend : Pend) (v : Nat) : Prop :=
  ∃ vs, g.kids v .bis = vs ∧ (∀ x, x ∈ vs → x < g.n) ∧
    All2 (fun x (xm : XInterval) => pend.lookup x = some xm.exprSyms) vs s.intervals

theorem QS.stable {ir : Nat} (K : Nat → Prop) (a : XSection) (p : Nat) (g : G) (pend : Pend) (g' : G) (pend' : Pend)
    (v : Nat) (_ : FSN ir K g) (_ : ir ≤ p) (hpv : p < v) (hv : v < g.n) (k : Kept p g g') (hp : PExt g.n pend pend')
    (hq : QS a g pend v) : QS a g' pend' v := by
  obtain ⟨vs, h1, h2, h3⟩ := hq
  refine ⟨vs, by rw [(k.eq v hv).2.2.2.2 (by omega)]; exact h1, fun x hx => Nat.lt_of_lt_of_le (h2 x hx) k.le, ?_⟩
  exact All2.imp_mem h3 (fun x xm hx hl => by rw [hp x (h2 x hx)]; exact hl)

/-! `MissS` / `MissM` of the projections, in terms of the message with per-interval expression symbols: the
projections only rename fields, and `MissM` does not read `exprSyms`, so `flat` and `core` miss alike. -/

theorem missS_core {K : Nat → Prop} {s : XSection} : MissS K s.core ↔ ¬ K s.uuid ∧
    MissList MissI SkInterval.nodeUuids (fun u => K u ∨ u ∈ [s.uuid]) (s.intervals.map (·.core)) := Iff.rfl

theorem missM_core {K : Nat → Prop} {m : XModule} : MissM K m.core ↔ ¬ K m.uuid ∧
    MissList (fun K (u : Nat) => ¬ K u) (fun u => [u]) (fun u => K u ∨ u ∈ [m.uuid]) m.proxies ∧
    MissList MissS SkSection.nodeUuids
      (fun u => (K u ∨ u ∈ [m.uuid]) ∨ u ∈ m.proxies.flatMap (fun u => [u])) (m.sections.map XSection.core) ∧
    MissList (fun K (y : SkSymbol) => ¬ K y.uuid) (fun y => [y.uuid])
      (fun u => ((K u ∨ u ∈ [m.uuid]) ∨ u ∈ m.proxies.flatMap (fun u => [u])) ∨
        u ∈ (m.sections.map XSection.core).flatMap SkSection.nodeUuids) m.symbols := Iff.rfl

theorem missIR_core_of_flat {mx : XIR} (h : MissIR mx.flat) : MissIR mx.core := by
  have : ∀ (ms : List XModule) (K : Nat → Prop), MissList MissM SkModule.nodeUuids K (ms.map XModule.flat) →
      MissList MissM SkModule.nodeUuids K (ms.map XModule.core) := by
    intro ms
    induction ms with
    | nil => intro K hh; exact hh
    | cons a as ih => intro K hh; exact ⟨hh.1, ih _ hh.2⟩
  exact this _ _ h

theorem sectionX_fsn {ir : Nat} (K : Nat → Prop) (g : G) (pend : Pend) (s : XSection) (h : FSN ir K g)
    (hm : MissS K s.core) :
    ∃ g' pend', decodeSectionX g pend ir s = .ok (g', g.n, pend') ∧ Fresh g g' g.n ∧
      FSN ir (fun u => K u ∨ u ∈ s.core.nodeUuids) g' ∧ PExt g.n pend pend' ∧ QS s g' pend' g.n := by
  obtain ⟨hu, hl⟩ := missS_core.1 hm
  obtain ⟨r, ha, fr, h4, px, _, vs, c1, _, c10, c11⟩ := (attach_gen (FSN.keeps ir) (dec := decodeIntervalX) (Q := QI)
    (B := False) (slot := .bis)
    (fun K x K' g pend hT hI => by
      obtain ⟨hmx, rfl⟩ := hT
      obtain ⟨g', e, fr, hI'⟩ := intervalX_fsn K g pend x hI hmx
      exact .of_exists ⟨_, e, fr, hI', fun y hy => by rw [List.lookup_cons, beq_false_of_ne (Nat.ne_of_lt hy)],
        List.lookup_cons_self⟩)
    (fun _ a _ g pend g' pend' v _ _ _ hv _ hp hq => by
      unfold QI at hq ⊢
      rw [hp v hv]; exact hq)
    s.intervals _ _ g _ pend g.n (MissList.thread_map (·.core) s.intervals _ hl) (Fresh.reg g .section s.uuid ir)
    (h.reg .section s.uuid rfl rfl rfl rfl rfl) (Nat.le_of_lt h.1.lt) (by rw [reg_kind]; decide)).exists
  obtain ⟨g4, pend4⟩ := r
  dsimp only at fr h4 px c1 c10 c11
  have e : decodeSectionX g pend ir s = .ok (g4, g.n, pend4) := by
    unfold decodeSectionX fromProto
    rw [cache_miss h.1 hu]
    show (match decodeAttachX decodeIntervalX ir g.n .bis (cacheSet (alloc g .section s.uuid).1 ir s.uuid g.n) pend
      s.intervals with
      | .error e => Except.error e
      | .ok (g4, pend4) => Except.ok (g4, g.n, pend4)) = _
    rw [ha]
  refine ⟨g4, pend4, e, fr, h4.mono (fun u hu' => ?_), px.mono (Nat.le_succ _), vs, by rw [c1, reg_kids]; rfl,
    fun x hx => (c11 x hx).2, c10⟩
  show K u ∨ u ∈ s.uuid :: (s.intervals.map (·.core)).flatMap SkInterval.nodeUuids
  simpa only [List.mem_singleton, List.not_mem_nil, or_false, List.mem_cons, or_assoc] using hu'

theorem moduleBuildX_fsn {ir : Nat} {K : Nat → Prop} {g : G} {pend : Pend} {m : XModule} {g8 : G} {v : Nat}
    {pend6 : Pend} {fresh : Bool} (h : FSN ir K g) (hm : MissM K m.core)
    (e : moduleBuildX g pend ir m = .ok (g8, v, pend6, fresh)) :
    fresh = true ∧ Fresh g g8 v ∧ FSN ir (fun u => K u ∨ u ∈ m.core.nodeUuids) g8 ∧ g8.kind v = .module ∧
    ∃ ss, g8.kids v .secs = ss ∧ All2 (fun s sm => QS sm g8 pend6 s) ss m.sections := by
  obtain ⟨hu, hmp, hms, hmy⟩ := missM_core.1 hm
  have hir : ir ≤ g.n := Nat.le_of_lt h.1.lt
  rcases moduleBuildX_cases e with ⟨_, _, _, hc⟩ | ⟨rfl, _, rfl, g4, g6, hp4, hp6, hp8⟩
  · rw [cache_miss h.1 hu] at hc; cases hc
  have hk2 := reg_kind g .module m.uuid ir
  have hkids2 := reg_kids g .module m.uuid ir
  have p4 := (attach_gen (FSN.keeps ir) (dec := liftDec decodeProxy)
    (Q := fun _ _ _ _ => True) (B := True) (slot := .proxies)
    (fun K u K' g pend hT hI => by
      obtain ⟨hmu, rfl⟩ := hT
      exact .of_exists ⟨(cacheSet (alloc g .proxy u).1 ir u g.n, g.n, pend),
        by unfold liftDec; rw [decodeProxy_eq, decodeLeaf_miss _ (cache_miss hI.1 hmu)],
        Fresh.reg g .proxy u ir, hI.reg .proxy u rfl rfl rfl rfl rfl, PExt.refl _ _, trivial⟩)
    (fun _ _ _ _ _ _ _ _ _ _ _ _ _ _ _ => trivial)
    m.proxies _ _ g _ pend g.n (MissList.thread _ _ hmp) (Fresh.reg g .module m.uuid ir)
    (h.reg .module m.uuid rfl rfl rfl rfl rfl) hir (by rw [hk2]; decide)).of_ok
    (g' := (g4, pend)) (by rw [decodeAttach_lift, hp4])
  dsimp only at p4
  obtain ⟨fr4, h4, _, kp4, _, _, a2, _, _⟩ := p4
  have k4 : g4.kind g.n = .module := by rw [(kp4.eq g.n (Nat.lt_succ_self _)).1]; exact hk2
  have p6 := (attach_gen (FSN.keeps ir) (dec := decodeSectionX) (Q := QS)
    (B := True) (slot := .secs)
    (fun K s K' g pend hT hI => by
      obtain ⟨hms', rfl⟩ := hT
      obtain ⟨g', pend', e, fr, hI', px, q⟩ := sectionX_fsn K g pend s hI hms'
      exact .of_exists ⟨_, e, fr, hI', px, q⟩)
    QS.stable
    m.sections _ _ g g4 pend g.n (MissList.thread_map XSection.core m.sections _ hms) fr4 h4 hir
    (by rw [k4]; decide)).of_ok hp6
  dsimp only at p6
  obtain ⟨fr6, h6, _, kp6, ss, b1, _, b10, b11⟩ := p6
  have k6 : g6.kind g.n = .module := by rw [(kp6.eq g.n fr4.lt).1]; exact k4
  have p8 := (attach_gen (FSN.keeps ir) (dec := liftDec decodeSymbol)
    (Q := fun _ _ _ _ => True) (B := True) (slot := .syms)
    (fun K y K' g pend hT hI => by
      obtain ⟨hmy', rfl⟩ := hT
      refine .of_success (fun r er => ?_)
      unfold liftDec at er
      cases hd : decodeSymbol g ir y with
      | error e' => rw [hd] at er; cases er
      | ok r1 =>
        rw [hd] at er
        cases er
        rcases decodeSymbol_cases hd with ⟨_, hc, _⟩ | ⟨_, hv, pl, _, hg⟩
        · rw [cache_miss hI.1 hmy'] at hc; cases hc
        · obtain ⟨g1, v1⟩ := r1
          cases hv
          cases hg
          exact ⟨Fresh.symState _ _ _ _ _, hI.reg .symbol y.uuid rfl rfl rfl rfl rfl, PExt.refl _ _, trivial⟩)
    (fun _ _ _ _ _ _ _ _ _ _ _ _ _ _ _ => trivial)
    m.symbols _ _ g g6 pend6 g.n (MissList.thread _ _ hmy) fr6 h6 hir (by rw [k6]; decide)).of_ok
    (g' := (g8, pend6)) (by rw [decodeAttach_lift, hp8])
  dsimp only at p8
  obtain ⟨fr8, h8, _, kp8, _, _, c2, _, _⟩ := p8
  refine ⟨rfl, fr8, h8.mono (fun u hu' => ?_), by rw [(kp8.eq g.n fr6.lt).1]; exact k6, ss, ?_, ?_⟩
  · show K u ∨ u ∈ m.uuid :: (m.proxies ++ ((m.sections.map XSection.core).flatMap SkSection.nodeUuids ++
      m.symbols.map (·.uuid)))
    simpa only [← List.map_eq_flatMap, List.map_id', List.mem_append, List.mem_cons, List.not_mem_nil, or_false,
      or_assoc] using hu'
  · show g8.kids g.n .secs = ss
    rw [c2 .secs (by decide), b1, a2 .secs (by decide), hkids2]; rfl
  · refine All2.imp_mem b10 (fun s sm hs hq => ?_)
    obtain ⟨s1, s2⟩ := b11 s hs
    exact QS.stable _ sm g.n g6 pend6 g8 pend6 s h6 hir (by have := fr4.lt; omega) s2 kp8 (PExt.refl _ _) hq

theorem checkAll_append (g : G) (ir : Nat) (ok : Kind → Bool) : ∀ (a b : List Nat),
    checkAll g ir ok (a ++ b) =
      match checkAll g ir ok a with
      | .error e => .error e
      | .ok _ => checkAll g ir ok b
  | [], b => rfl
  | u :: a, b => by
    simp only [List.cons_append, checkAll]
    cases refKind g ir ok u with
    | error e => rfl
    | ok _ => exact checkAll_append g ir ok a b

theorem symExprs_shape (g : G) (ir : Nat) : ∀ (vs : List Nat) (xs : List XInterval) (pend : Pend), vs.Nodup →
    All2 (fun x (xm : XInterval) => pend.lookup x = some xm.exprSyms) vs xs →
    ∃ pend', symExprs g ir pend vs =
      match checkAll g ir (fun k => k == Kind.symbol) (xs.flatMap (·.exprSyms)) with
      | .error e => .error (.core e)
      | .ok _ => .ok pend'
  | [], [], pend, _, _ => ⟨pend, rfl⟩
  | [], _ :: _, _, _, h => by cases h
  | _ :: _, [], _, _, h => by cases h
  | v :: vs, x :: xs, pend, hnd, h => by
    cases h with
    | cons h1 h2 =>
      rw [List.nodup_cons] at hnd
      have h2' : All2 (fun y (xm : XInterval) => (pend.filter fun e => e.1 != v).lookup y = some xm.exprSyms) vs xs :=
        All2.imp_mem h2 (fun y xm hy hl => by
          rw [List.lookup_filter_ne pend (fun hh : y = v => hnd.1 (hh ▸ hy))]; exact hl)
      obtain ⟨pend', ih⟩ := symExprs_shape g ir vs xs _ hnd.2 h2'
      refine ⟨pend', ?_⟩
      simp only [symExprs, h1, List.flatMap_cons]
      rw [checkAll_append]
      cases checkAll g ir (fun k => k == Kind.symbol) x.exprSyms with
      | error e => rfl
      | ok _ => exact ih

theorem all2_flatMap_QS {g : G} {pend : Pend} : ∀ {ss : List Nat} {secs : List XSection},
    All2 (fun s sm => QS sm g pend s) ss secs →
    All2 (fun x (xm : XInterval) => pend.lookup x = some xm.exprSyms)
      (ss.flatMap fun s => g.kids s .bis) (secs.flatMap (·.intervals))
  | _, _, .nil => .nil
  | _, _, .cons hq hr => by
    obtain ⟨vs, h1, _, h3⟩ := hq
    rw [List.flatMap_cons, List.flatMap_cons, h1]
    exact All2.append h3 (all2_flatMap_QS hr)

theorem FS.nodup_intervalsUnder {ir : Nat} {K : Nat → Prop} {g : G} (h : FS ir K g) {v : Nat} (hv : ir ≤ v)
    (hvn : v < g.n) : (intervalsUnder g v).Nodup := by
  unfold intervalsUnder
  have hs : ∀ s, s ∈ g.kids v .secs → ir ≤ s ∧ s < g.n := fun s hs =>
    ⟨by have := h.up v hv hvn _ s hs; omega, h.wf v hv hvn _ s hs⟩
  refine List.nodup_flatMap_of (h.nd v hv hvn _) (fun s hs' => h.nd s (hs s hs').1 (hs s hs').2 _) ?_
  intro s s' c hs1 hs2 hc1 hc2
  have e1 := h.kp s (hs s hs1).1 (hs s hs1).2 _ c hc1
  have e2 := h.kp s' (hs s' hs2).1 (hs s' hs2).2 _ c hc2
  rw [e1] at e2
  exact Option.some.inj e2

def liftR {α : Type} (r : Except LErr α) : Except XErr α :=
  match r with
  | .ok a => .ok a
  | .error e => .error (.core e)

def dropP (r : Except XErr (G × Nat × Pend)) : Except XErr (G × Nat) :=
  match r with
  | .ok (g, v, _) => .ok (g, v)
  | .error e => .error e

theorem decodeModuleX_fresh {ir : Nat} {K : Nat → Prop} {g : G} (pend : Pend) {m : XModule} (h : FSN ir K g)
    (hm : MissM K m.core) :
    dropP (decodeModuleX g pend ir m) = liftR (decodeModule g ir m.flat) ∧
    ∀ g' v pend', decodeModuleX g pend ir m = .ok (g', v, pend') →
      FSN ir (fun u => K u ∨ u ∈ m.core.nodeUuids) g' ∧ Fresh g g' v ∧ g'.kind v = .module := by
  rw [decodeModuleX_eq_build, show m.flat = { m.core with exprSyms := m.flat.exprSyms } from rfl,
    decodeModule_eq_buildX g pend]
  cases hb : moduleBuildX g pend ir m with
  | error e => exact ⟨rfl, fun g' v pend' hh => by cases hh⟩
  | ok r =>
    obtain ⟨g8, v, pend6, fresh⟩ := r
    obtain ⟨hfr, fr, h8, hk, ss, hss, hq⟩ := moduleBuildX_fsn h hm hb
    subst hfr
    simp only [if_true]
    have hv : v = g.n := fr.v_eq
    have hnd : (intervalsUnder g8 v).Nodup :=
      h8.1.nodup_intervalsUnder (by rw [hv]; exact Nat.le_of_lt h.1.lt) (by rw [hv]; exact fr.lt)
    have hall := all2_flatMap_QS hq
    have hiv : intervalsUnder g8 v = ss.flatMap fun s => g8.kids s .bis := by unfold intervalsUnder; rw [hss]
    rw [← hiv] at hall
    obtain ⟨pend8, hse⟩ := symExprs_shape g8 ir _ _ pend6 hnd hall
    have hflat : (m.sections.flatMap (·.intervals)).flatMap (·.exprSyms) = m.flat.exprSyms := by
      rw [List.flatMap_assoc]; rfl
    rw [hflat] at hse
    rw [hse]
    cases hc : checkAll g8 ir (fun k => k == Kind.symbol) m.flat.exprSyms with
    | error e => exact ⟨rfl, fun g' v' pend' hh => by cases hh⟩
    | ok _ =>
      refine ⟨rfl, ?_⟩
      intro g' v' pend' hh
      cases hh
      exact ⟨h8, fr, hk⟩

theorem decodeModulesX_fresh {ir : Nat} : ∀ (ms : List XModule) (K : Nat → Prop) (g : G) (pend : Pend),
    FSN ir K g → MissList MissM SkModule.nodeUuids K (ms.map XModule.core) →
    decodeModulesX ir g pend ms = liftR (decodeModules ir g (ms.map XModule.flat))
  | [], _, _, _, _, _ => rfl
  | m :: ms, K, g, pend, h, hmiss => by
    obtain ⟨hm1, hm2⟩ := hmiss
    obtain ⟨heq, hok⟩ := decodeModuleX_fresh pend h hm1
    simp only [decodeModulesX, List.map_cons, decodeModules]
    cases hd : decodeModuleX g pend ir m with
    | error e =>
      rw [hd] at heq
      cases hf : decodeModule g ir m.flat with
      | error e' => rw [hf] at heq; simp only [dropP, liftR] at heq; cases heq; rfl
      | ok r => rw [hf] at heq; simp only [dropP, liftR] at heq; cases heq
    | ok r =>
      obtain ⟨g1, v, pend1⟩ := r
      rw [hd] at heq
      cases hf : decodeModule g ir m.flat with
      | error e' => rw [hf] at heq; simp only [dropP, liftR] at heq; cases heq
      | ok r' =>
        rw [hf] at heq
        simp only [dropP, liftR] at heq
        cases heq
        obtain ⟨f1, ⟨hv, hlt, _, hpar⟩, hkind⟩ := hok g1 v pend1 hd
        obtain ⟨gm, g2, e2, hA, ho2, c2⟩ := modAppend_new (i := ir) hpar hkind
        simp only [e2, liftE]
        have hirv : ir < v := by rw [hv]; exact h.1.lt
        have hvlt : v < g1.n := by rw [hv]; exact hlt
        refine decodeModulesX_fresh ms _ _ pend1 ⟨?_, ?_⟩ hm2
        · refine (f1.1.attached hA (Nat.le_refl _) (Nat.lt_trans hirv hvlt)
            (fun x hx => by rw [List.mem_singleton.1 hx]; exact ⟨hirv, hvlt, hpar⟩) (by simp)).of_cache
            ho2.n ho2.kids ho2.par ?_
          intro u n hc
          rw [c2] at hc
          rcases setAll_cases ir (cache_walkM g1.kids v) (setPar g1 v (some ir)) ir u with ⟨y, hy, hyu, _, _⟩ | ⟨he, _⟩
          · obtain ⟨r1, r2⟩ := walkM_range f1.1.wf f1.1.up ⟨Nat.le_of_lt hirv, hvlt⟩ hy
            rw [← hyu]
            exact f1.2 y r1 r2
          · rw [he] at hc; exact f1.1.keys u n hc
        · intro y h1 h2
          rw [ho2.uuid, hA.uuid]
          exact f1.2 y h1 (by rw [ho2.n, hA.n] at h2; exact h2)

theorem loadX_fresh (g : G) (mx : XIR) (hm : MissIR mx.core) : loadX g mx = liftR (load g mx.flat) := by
  have hn1 : (mkIR g mx.uuid).n = g.n + 1 := rfl
  have hnew : ∀ y, g.n ≤ y → y < (mkIR g mx.uuid).n → y = g.n := fun y h1 h2 => by rw [hn1] at h2; omega
  have hkids1 : ∀ y, g.n ≤ y → y < (mkIR g mx.uuid).n → ∀ s c, c ∉ (mkIR g mx.uuid).kids y s := by
    intro y h1 h2 s c hc
    rw [hnew y h1 h2] at hc
    have : c ∈ (alloc g .ir mx.uuid).1.kids g.n s := hc
    simp at this
  have hfs : FS g.n (fun u => u = mx.uuid) (mkIR g mx.uuid) := by
    refine ⟨by rw [hn1]; omega, ?_, fun y h1 h2 s c hc => absurd hc (hkids1 y h1 h2 s c),
      fun y h1 h2 s c hc => absurd hc (hkids1 y h1 h2 s c), fun y h1 h2 s c hc => absurd hc (hkids1 y h1 h2 s c), ?_⟩
    · intro u n hc
      rw [mkIR_cache] at hc
      split at hc
      · rename_i hh; exact hh.2
      · simp at hc
    · intro y h1 h2 s
      rw [hnew y h1 h2]
      show ((alloc g .ir mx.uuid).1.kids g.n s).Nodup
      simp
  have hN : NodesIn g.n (fun u => u = mx.uuid) (mkIR g mx.uuid) := by
    intro y h1 h2
    rw [hnew y h1 h2]
    show (alloc g .ir mx.uuid).1.uuid g.n = _
    simp
  have hdm := decodeModulesX_fresh mx.modules _ _ [] ⟨hfs, hN⟩ hm
  unfold loadX load
  dsimp only [XIR.flat]
  rw [hdm]
  cases decodeModules g.n (mkIR g mx.uuid) (mx.modules.map XModule.flat) with
  | error e => rfl
  | ok g2 =>
    dsimp only [liftR]
    cases checkAll g2 g.n (fun k => k == Kind.code || k == Kind.proxy) (mx.edges.flatMap fun e => [e.1, e.2]) <;> rfl

theorem allSome_map_map {α β γ : Type} (f : α → Option β) (h : β → γ) : ∀ (l : List α),
    allSome (l.map fun x => (f x).map h) = (allSome (l.map f)).map (List.map h)
  | [] => rfl
  | a :: l => by
    simp only [List.map_cons]
    cases hf : f a with
    | none => rfl
    | some b =>
      simp only [Option.map_some, allSome]
      rw [allSome_map_map f h l]
      cases allSome (l.map f) with
      | none => rfl
      | some bs => rfl

open Gtirb.Msg in
theorem skSection_eq_X (s : MSection) :
    skSection s = (skSectionX s).map fun sx => (sx.core, sx.intervals.flatMap (·.exprSyms)) := by
  unfold skSection skSectionX
  by_cases hu : uOk s.uuid
  · simp only [hu, Bool.not_true, Bool.false_eq_true, if_false]
    have : allSome (s.byteIntervals.map skIntervalX) =
        (allSome (s.byteIntervals.map skInterval)).map (List.map fun p => (⟨p.1, p.2⟩ : XInterval)) :=
      allSome_map_map skInterval _ s.byteIntervals
    rw [this]
    cases allSome (s.byteIntervals.map skInterval) with
    | none => rfl
    | some xs =>
      simp only [Option.map_some, XSection.core, List.map_map, List.flatMap_def]
      rfl
  · simp only [hu, Bool.not_false, if_true]
    rfl

open Gtirb.Msg in
theorem skModule_eq_X (names : List String) (m : MModule) :
    skModule names m = (skModuleX names m).map XModule.flat := by
  unfold skModule skModuleX
  split
  · rfl
  · have h1 : allSome (m.sections.map skSection) =
        (allSome (m.sections.map skSectionX)).map
          (List.map fun sx => (sx.core, sx.intervals.flatMap (·.exprSyms))) := by
      have : m.sections.map skSection = m.sections.map fun s => (skSectionX s).map
          fun sx => (sx.core, sx.intervals.flatMap (·.exprSyms)) :=
        List.map_congr_left (fun s _ => skSection_eq_X s)
      rw [this]
      exact allSome_map_map skSectionX _ m.sections
    rw [h1]
    cases allSome (m.sections.map skSectionX) with
    | none => rfl
    | some sxs =>
      simp only [Option.map_some]
      cases allSome (m.symbols.map (skSymbol names)) with
      | none => rfl
      | some ys =>
        simp only [Option.map_some, XModule.flat, XModule.flatSyms, List.map_map, List.flatMap_def]
        rfl

theorem skelOf_eq_X (m : Msg.MIR) : skelOf m = (skelOfX m).map XIR.flat := by
  unfold skelOf skelOfX
  simp only []
  split
  · rfl
  · have h1 : allSome (m.modules.map (skModule (m.modules.flatMap fun md => md.symbols.map (·.name)))) =
        (allSome (m.modules.map (skModuleX (m.modules.flatMap fun md => md.symbols.map (·.name))))).map
          (List.map XModule.flat) := by
      have : m.modules.map (skModule (m.modules.flatMap fun md => md.symbols.map (·.name))) =
          m.modules.map fun md => (skModuleX (m.modules.flatMap fun md => md.symbols.map (·.name)) md).map
            XModule.flat :=
        List.map_congr_left (fun md _ => skModule_eq_X _ md)
      rw [this]
      exact allSome_map_map _ _ m.modules
    rw [h1]
    cases allSome (m.modules.map (skModuleX (m.modules.flatMap fun md => md.symbols.map (·.name)))) with
    | none => rfl
    | some ms => rfl

end Gtirb.Loader
