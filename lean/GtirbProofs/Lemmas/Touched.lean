import GtirbModel.Forest
/-! The nodes an operation of model C names or selects (the frame clause of C04 is about all the others). -/
namespace Gtirb.Forest

def listAt (g : G) (i : Nat) (k : Int) : List Nat :=
  match pyIndex (g.kids i .mods).length k with
  | some idx => ((g.kids i .mods)[idx]?).toList
  | none => []

/-- the nodes an operation may move in the forest: those it names (arguments; for the constructor of a
non-IR node also the new node `g.n`) or selects (the element at an index; the members of the collection for
`clear`; the members that `&=` drops). `mkIR`, `reverse` and the attribute setters change no back-pointer and
no membership: nothing, although the setters name a node (`C04_frame` excepts that node by hand). -/
def touched (g : G) : Op → List Nat
  | .mkIR _ => []
  | .mk _ _ kids _ => g.n :: kids.flatMap (·.2)
  | .mkSym _ _ _ _ => [g.n]
  | .setParent c _ => [c]
  | .add _ _ v | .discard _ _ v | .remove _ _ v | .pop _ _ v => [v]
  | .clear p s _ => g.kids p s
  | .update _ _ vs | .isub _ _ vs | .ixor _ _ vs => vs
  | .iand p s vs _ => (g.kids p s).filter (fun x => !(x ∈ vs))
  | .insert _ _ v | .append _ v | .listRemove _ v => [v]
  | .extend _ vs => vs
  | .delItem i k | .listPop i k => listAt g i k
  | .setItem i k v => v :: listAt g i k
  | .listClear i => g.kids i .mods
  | .reverse _ | .setName _ _ | .setPayload _ _ => []

end Gtirb.Forest
