import GtirbModel.Forest
/-! The two table functions in normal form: `cacheAdd` / `cacheRemove` are one fold of `cacheSet` / `cacheDel` over
the walked list of the node (`cache_cacheAdd_eq`, `cache_cacheRemove_eq`); what such a fold does to a row.
The loop of `ByteInterval._BlockSet.update` with its body under a name (`cache_blkStep`, `cache_blkUpdate_eq`),
for the modules that follow the table through that loop step by step. Reads the model only. -/
namespace Gtirb.Forest

/-- only the UUID table changed. `OnlyCache` of `ForestFrame` says the same in one equation (`CacheOnly.onlyCache`);
this module precedes it and reads the fields one by one -/
structure CacheOnly (g g' : G) : Prop where
  n : g'.n = g.n
  kind : g'.kind = g.kind
  uuid : g'.uuid = g.uuid
  par : g'.par = g.par
  kids : g'.kids = g.kids
  name : g'.name = g.name
  payload : g'.payload = g.payload
  nameIdx : g'.nameIdx = g.nameIdx
  refIdx : g'.refIdx = g.refIdx

theorem CacheOnly.rfl' (g : G) : CacheOnly g g := ⟨rfl, rfl, rfl, rfl, rfl, rfl, rfl, rfl, rfl⟩

theorem CacheOnly.trans {a b c : G} (h1 : CacheOnly a b) (h2 : CacheOnly b c) : CacheOnly a c :=
  ⟨h2.n.trans h1.n, h2.kind.trans h1.kind, h2.uuid.trans h1.uuid, h2.par.trans h1.par,
   h2.kids.trans h1.kids, h2.name.trans h1.name, h2.payload.trans h1.payload,
   h2.nameIdx.trans h1.nameIdx, h2.refIdx.trans h1.refIdx⟩

theorem cache_cacheSet_only (g : G) (i u v : Nat) : CacheOnly g (cacheSet g i u v) :=
  ⟨rfl, rfl, rfl, rfl, rfl, rfl, rfl, rfl, rfl⟩

theorem cache_cacheDel_only {g g' : G} {i u : Nat} (h : cacheDel g i u = .ok g') : CacheOnly g g' := by
  unfold cacheDel at h
  split at h
  · cases h
  · cases h; exact ⟨rfl, rfl, rfl, rfl, rfl, rfl, rfl, rfl, rfl⟩

def cache_setAll (g : G) (i : Nat) (L : List Nat) : G :=
  L.foldl (fun g x => cacheSet g i (g.uuid x) x) g

def cache_delAll (g : G) (i : Nat) (L : List Nat) : Except Exc G :=
  foldE (fun g x => cacheDel g i (g.uuid x)) L g

theorem cache_setAll_only (i : Nat) : ∀ (L : List Nat) (g : G), CacheOnly g (cache_setAll g i L)
  | [], g => CacheOnly.rfl' g
  | x :: L, g => (cache_cacheSet_only g i (g.uuid x) x).trans (cache_setAll_only i L _)

theorem cache_setAll_append (g : G) (i : Nat) (L1 L2 : List Nat) :
    cache_setAll g i (L1 ++ L2) = cache_setAll (cache_setAll g i L1) i L2 := by
  simp [cache_setAll, List.foldl_append]

theorem cache_foldE_append (f : G → Nat → Except Exc G) : ∀ (L1 L2 : List Nat) (g : G),
    foldE f (L1 ++ L2) g = bindE (foldE f L1 g) (foldE f L2)
  | [], L2, g => rfl
  | x :: L1, L2, g => by
    simp only [List.cons_append, foldE]
    cases f g x with
    | ok g' => exact cache_foldE_append f L1 L2 g'
    | error e => rfl

theorem cache_delAll_append (g : G) (i : Nat) (L1 L2 : List Nat) :
    cache_delAll g i (L1 ++ L2) = bindE (cache_delAll g i L1) (fun g1 => cache_delAll g1 i L2) :=
  cache_foldE_append _ L1 L2 g

theorem cache_delAll_only (i : Nat) : ∀ (L : List Nat) (g g' : G), cache_delAll g i L = .ok g' → CacheOnly g g'
  | [], g, g', h => by cases h; exact CacheOnly.rfl' g
  | x :: L, g, g', h => by
    simp only [cache_delAll, foldE] at h
    cases h1 : cacheDel g i (g.uuid x) with
    | ok g1 => rw [h1] at h; exact (cache_cacheDel_only h1).trans (cache_delAll_only i L g1 g' h)
    | error e => rw [h1] at h; cases h

/-- the walks take the table of children, not the state: a step that writes only the UUID table leaves it literally
the same, so the list being walked is visibly the same before and after (`W g.kids` in `cache_setAll_flatMap`) -/
def cache_walkI (k : Nat → Slot → List Nat) (v : Nat) : List Nat := v :: k v .blocks
def cache_walkS (k : Nat → Slot → List Nat) (v : Nat) : List Nat :=
  v :: (k v .bis).flatMap (cache_walkI k)
def cache_walkM (k : Nat → Slot → List Nat) (v : Nat) : List Nat :=
  v :: (k v .proxies ++ ((k v .secs).flatMap (cache_walkS k) ++ k v .syms))
def cache_walk (k : Nat → Slot → List Nat) (kd : Kind) (v : Nat) : List Nat :=
  match kd with
  | .module => cache_walkM k v
  | .section => cache_walkS k v
  | .interval => cache_walkI k v
  | _ => [v]

theorem cache_setAll_kids (g : G) (i : Nat) (L : List Nat) : (cache_setAll g i L).kids = g.kids :=
  (cache_setAll_only i L g).kids

theorem cache_cacheSet_kids (g : G) (i u v : Nat) : (cacheSet g i u v).kids = g.kids := rfl

theorem cache_setAll_flatMap {F : G → Nat → G} {W : (Nat → Slot → List Nat) → Nat → List Nat} (i : Nat)
    (hF : ∀ g b, F g b = cache_setAll g i (W g.kids b)) : ∀ (L : List Nat) (g : G),
    L.foldl F g = cache_setAll g i (L.flatMap (W g.kids))
  | [], _ => rfl
  | b :: L, g => by
    rw [List.foldl_cons, cache_setAll_flatMap i hF L, List.flatMap_cons, cache_setAll_append, hF,
      cache_setAll_kids]

theorem cache_addInterval_eq (g : G) (i v : Nat) :
    cacheAddInterval g i v = cache_setAll g i (cache_walkI g.kids v) := rfl

theorem cache_addSection_eq (g : G) (i v : Nat) :
    cacheAddSection g i v = cache_setAll g i (cache_walkS g.kids v) := by
  unfold cacheAddSection
  rw [cache_setAll_flatMap i (fun g b => cache_addInterval_eq g i b)]
  rfl

theorem cache_addLeaves_eq (g : G) (i : Nat) (L : List Nat) :
    L.foldl (fun g b => cacheAddLeaf g i b) g = cache_setAll g i L := rfl

theorem cache_addModule_eq (g : G) (i v : Nat) :
    cacheAddModule g i v = cache_setAll g i (cache_walkM g.kids v) := by
  unfold cacheAddModule
  simp only []
  rw [cache_addLeaves_eq, cache_setAll_flatMap i (fun g b => cache_addSection_eq g i b), cache_addLeaves_eq]
  simp only [cache_setAll_kids, cache_cacheSet_kids]
  unfold cache_walkM
  show _ = cache_setAll (cacheSet g i (g.uuid v) v) i _
  rw [cache_setAll_append, cache_setAll_append]

theorem cache_cacheAdd_eq (g : G) (i v : Nat) :
    cacheAdd g i v = cache_setAll g i (cache_walk g.kids (g.kind v) v) := by
  unfold cacheAdd cache_walk
  cases g.kind v <;> simp only [cache_addModule_eq, cache_addSection_eq, cache_addInterval_eq] <;> rfl

theorem cache_delAll_cons (g : G) (i x : Nat) (L : List Nat) :
    cache_delAll g i (x :: L) = bindE (cacheDel g i (g.uuid x)) (fun g1 => cache_delAll g1 i L) := by
  simp only [cache_delAll, foldE, bindE]

theorem cache_delAll_flatMap {F : G → Nat → Except Exc G} {W : (Nat → Slot → List Nat) → Nat → List Nat}
    (i : Nat) (hF : ∀ g b, F g b = cache_delAll g i (W g.kids b)) : ∀ (L : List Nat) (g : G),
    foldE F L g = cache_delAll g i (L.flatMap (W g.kids))
  | [], _ => rfl
  | b :: L, g => by
    rw [List.flatMap_cons, cache_delAll_append]
    simp only [foldE]
    rw [hF]
    cases h : cache_delAll g i (W g.kids b) with
    | error e => rfl
    | ok g1 =>
      simp only [bindE]
      rw [cache_delAll_flatMap i hF L g1, (cache_delAll_only i _ g g1 h).kids]

theorem cache_delInterval_eq (g : G) (i v : Nat) :
    cacheDelInterval g i v = cache_delAll g i (cache_walkI g.kids v) := by
  unfold cacheDelInterval cache_walkI
  rw [cache_delAll_cons]
  cases cacheDel g i (g.uuid v) <;> rfl

theorem cache_delSection_eq (g : G) (i v : Nat) :
    cacheDelSection g i v = cache_delAll g i (cache_walkS g.kids v) := by
  unfold cacheDelSection cache_walkS
  rw [cache_delAll_cons]
  cases h : cacheDel g i (g.uuid v) with
  | error e => rfl
  | ok g1 =>
    simp only [bindE]
    rw [cache_delAll_flatMap i (fun g b => cache_delInterval_eq g i b), (cache_cacheDel_only h).kids]

theorem cache_delLeaves_eq (g : G) (i : Nat) (L : List Nat) :
    foldE (fun g b => cacheDelLeaf g i b) L g = cache_delAll g i L := rfl

theorem cache_delModule_eq (g : G) (i v : Nat) :
    cacheDelModule g i v = cache_delAll g i (cache_walkM g.kids v) := by
  unfold cacheDelModule cache_walkM
  rw [cache_delAll_cons]
  cases h : cacheDel g i (g.uuid v) with
  | error e => rfl
  | ok g1 =>
    simp only [bindE]
    rw [cache_delAll_append, cache_delLeaves_eq]
    cases h2 : cache_delAll g1 i (g.kids v .proxies) with
    | error e => rfl
    | ok g2 =>
      simp only [bindE]
      rw [cache_delAll_append, cache_delAll_flatMap i (fun g b => cache_delSection_eq g i b),
        (cache_delAll_only i _ g1 g2 h2).kids, (cache_cacheDel_only h).kids]
      cases h3 : cache_delAll g2 i (List.flatMap (cache_walkS g.kids) (g.kids v .secs)) with
      | error e => rfl
      | ok g3 => rfl

theorem cache_cacheRemove_eq (g : G) (i v : Nat) :
    cacheRemove g i v = cache_delAll g i (cache_walk g.kids (g.kind v) v) := by
  unfold cacheRemove cache_walk
  cases g.kind v <;> simp only [cache_delModule_eq, cache_delSection_eq, cache_delInterval_eq] <;>
    simp [cacheDelLeaf, cache_delAll, foldE] <;> cases cacheDel g i (g.uuid v) <;> rfl

theorem cache_setAll_other (i : Nat) : ∀ (L : List Nat) (g : G) (i' u' : Nat),
    ¬ (i' = i ∧ ∃ y, y ∈ L ∧ g.uuid y = u') → (cache_setAll g i L).cache i' u' = g.cache i' u'
  | [], g, i', u', _ => rfl
  | x :: L, g, i', u', h => by
    show (cache_setAll (cacheSet g i (g.uuid x) x) i L).cache i' u' = _
    rw [cache_setAll_other i L]
    · show (if i' = i ∧ u' = g.uuid x then some x else g.cache i' u') = _
      rw [if_neg]
      intro hh; exact h ⟨hh.1, x, List.mem_cons_self, hh.2.symm⟩
    · intro hh
      obtain ⟨h1, y, hy, hyu⟩ := hh
      exact h ⟨h1, y, List.mem_cons_of_mem _ hy, hyu⟩

theorem cache_delAll_spec (i : Nat) : ∀ (L : List Nat) (g : G),
    (L.map g.uuid).Nodup → (∀ y, y ∈ L → g.cache i (g.uuid y) ≠ none) →
    ∃ g', cache_delAll g i L = .ok g' ∧
      (∀ i' u', (i' = i ∧ ∃ y, y ∈ L ∧ g.uuid y = u') → g'.cache i' u' = none) ∧
      (∀ i' u', ¬ (i' = i ∧ ∃ y, y ∈ L ∧ g.uuid y = u') → g'.cache i' u' = g.cache i' u')
  | [], g, _, _ => ⟨g, rfl, fun i' u' h => (by obtain ⟨_, y, hy, _⟩ := h; cases hy), fun _ _ _ => rfl⟩
  | x :: L, g, hnd, hpres => by
    rw [cache_delAll_cons]
    rw [List.map_cons, List.nodup_cons] at hnd
    have hx := hpres x List.mem_cons_self
    unfold cacheDel
    cases hcx : g.cache i (g.uuid x) with
    | none => exact absurd hcx hx
    | some w =>
      simp only [bindE]
      obtain ⟨g', hg', h1, h2⟩ := cache_delAll_spec i L
        { g with cache := fun i' u' => if i' = i ∧ u' = g.uuid x then none else g.cache i' u' }
        hnd.2 (by
          intro y hy
          show (if i = i ∧ g.uuid y = g.uuid x then none else g.cache i (g.uuid y)) ≠ none
          rw [if_neg]
          · exact hpres y (List.mem_cons_of_mem _ hy)
          · intro hh; exact hnd.1 (hh.2 ▸ List.mem_map_of_mem hy))
      refine ⟨g', hg', ?_, ?_⟩
      · intro i' u' hh
        obtain ⟨hi, y, hy, hyu⟩ := hh
        by_cases hyL : ∃ z, z ∈ L ∧ g.uuid z = u'
        · exact h1 i' u' ⟨hi, hyL⟩
        · rw [h2 i' u' (fun hh => hyL hh.2)]
          rcases List.mem_cons.1 hy with h | h
          · subst h
            show (if i' = i ∧ u' = g.uuid y then none else g.cache i' u') = none
            rw [if_pos ⟨hi, hyu.symm⟩]
          · exact absurd ⟨y, h, hyu⟩ hyL
      · intro i' u' hh
        rw [h2 i' u' (fun hh' => hh ⟨hh'.1, by
          obtain ⟨z, hz, hzu⟩ := hh'.2; exact ⟨z, List.mem_cons_of_mem _ hz, hzu⟩⟩)]
        show (if i' = i ∧ u' = g.uuid x then none else g.cache i' u') = _
        rw [if_neg]
        intro h; exact hh ⟨h.1, x, List.mem_cons_self, h.2.symm⟩

theorem cache_cacheAdd_only (g : G) (i v : Nat) : CacheOnly g (cacheAdd g i v) := by
  rw [cache_cacheAdd_eq]; exact cache_setAll_only i _ g

def cache_blkTail (ir : Option Nat) (g2 : G) (v : Nat) : G :=
  match ir with
  | some i => cacheAdd g2 i v
  | none => g2

/-- one step of the loop of `ByteInterval._BlockSet.update` -/
def cache_blkStep (ir : Option Nat) (p : Nat) (g : G) (v : Nat) : Except Exc G :=
  match (match g.par v with
         | some q => setDiscard g q .blocks v
         | none => .ok g) with
  | .error e => .error e
  | .ok g1 => .ok (cache_blkTail ir (setPar g1 v (some p)) v)

theorem cache_blkStep_of {ir : Option Nat} {p : Nat} {g g1 : G} {v : Nat}
    (h : (match g.par v with
      | some q => setDiscard g q .blocks v
      | none => .ok g) = .ok g1) :
    cache_blkStep ir p g v = .ok (cache_blkTail ir (setPar g1 v (some p)) v) := by
  unfold cache_blkStep; rw [h]

theorem cache_blkTail_only (ir : Option Nat) (g2 : G) (v : Nat) : CacheOnly g2 (cache_blkTail ir g2 v) := by
  unfold cache_blkTail
  split
  · exact cache_cacheAdd_only _ _ _
  · exact CacheOnly.rfl' _

/-- the same list as `blkNew` of `ForestFrame` (by `rfl`), which cannot be named here -/
def cache_blkNew (g : G) (p : Nat) (vs : List Nat) : List Nat :=
  (vs.eraseDups).filter (fun v => !(v ∈ g.kids p .blocks))

theorem cache_blkUpdate_eq (g : G) (p : Nat) (vs : List Nat) :
    blkUpdate g p vs =
      match foldE (cache_blkStep (irOf g p) p) (cache_blkNew g p vs) g with
      | .error e => .error e
      | .ok g' => .ok ((cache_blkNew g p vs).foldl (fun g v => kidsInsert g p .blocks v) g') := rfl

/-- of several elements of `L` with one UUID the last one is registered -/
theorem setAll_hit (i : Nat) : ∀ (L : List Nat) (g : G) (y : Nat), y ∈ L →
    ∃ y', y' ∈ L ∧ g.uuid y' = g.uuid y ∧ (cache_setAll g i L).cache i (g.uuid y) = some y'
  | [], _, y, hy => by cases hy
  | x :: L, g, y, hy => by
    show ∃ y', y' ∈ x :: L ∧ g.uuid y' = g.uuid y ∧
      (cache_setAll (cacheSet g i (g.uuid x) x) i L).cache i (g.uuid y) = some y'
    by_cases hL : ∃ z, z ∈ L ∧ g.uuid z = g.uuid y
    · obtain ⟨z, hz, hzu⟩ := hL
      obtain ⟨y', hy', hu', hc⟩ := setAll_hit i L (cacheSet g i (g.uuid x) x) z hz
      refine ⟨y', List.mem_cons_of_mem _ hy', ?_, ?_⟩
      · exact hu'.trans hzu
      · have : (cacheSet g i (g.uuid x) x).uuid z = g.uuid y := hzu
        rw [this] at hc; exact hc
    · have hxu : g.uuid x = g.uuid y := by
        rcases List.mem_cons.1 hy with rfl | hy
        · rfl
        · exact absurd ⟨y, hy, rfl⟩ hL
      refine ⟨x, List.mem_cons_self, hxu, ?_⟩
      rw [cache_setAll_other i L]
      · show (if i = i ∧ g.uuid y = g.uuid x then some x else g.cache i (g.uuid y)) = _
        simp [hxu]
      · rintro ⟨_, z, hz, hzu⟩
        exact hL ⟨z, hz, hzu⟩

theorem cache_setAll_hit (i : Nat) (L : List Nat) (g : G)
    (hinj : ∀ a, a ∈ L → ∀ b, b ∈ L → g.uuid a = g.uuid b → a = b) (y : Nat) (hy : y ∈ L) :
    (cache_setAll g i L).cache i (g.uuid y) = some y := by
  obtain ⟨y', hy', hu, hc⟩ := setAll_hit i L g y hy
  rw [hinj y' hy' y hy hu] at hc
  exact hc

theorem setAll_cases (i : Nat) (L : List Nat) (g : G) (i' u' : Nat) :
    (∃ y, y ∈ L ∧ g.uuid y = u' ∧ i' = i ∧ (cache_setAll g i L).cache i' u' = some y) ∨
    ((cache_setAll g i L).cache i' u' = g.cache i' u' ∧ ¬ (i' = i ∧ ∃ y, y ∈ L ∧ g.uuid y = u')) := by
  by_cases h : i' = i ∧ ∃ y, y ∈ L ∧ g.uuid y = u'
  · obtain ⟨rfl, y, hy, rfl⟩ := h
    obtain ⟨y', hy', hu', hc⟩ := setAll_hit i' L g y hy
    exact .inl ⟨y', hy', hu', rfl, hc⟩
  · exact .inr ⟨cache_setAll_other i L g i' u' h, h⟩

theorem mkIR_cache (g : G) (u i' u' : Nat) :
    (mkIR g u).cache i' u' = if i' = g.n ∧ u' = u then some g.n else if i' = g.n then none else g.cache i' u' := rfl

theorem mkIR_new (g : G) (u : Nat) {x : Nat} (h1 : g.n ≤ x) (h2 : x < (mkIR g u).n) :
    x = g.n ∧ (mkIR g u).kind x = .ir ∧ (mkIR g u).uuid x = u := by
  have : (mkIR g u).n = g.n + 1 := rfl
  have hx : x = g.n := by omega
  subst hx
  exact ⟨rfl, if_pos rfl, if_pos rfl⟩

end Gtirb.Forest
