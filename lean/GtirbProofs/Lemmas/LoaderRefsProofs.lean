import GtirbModel.LoaderRefs
import GtirbProofs.Lemmas.LoaderProofs
/-! What a resolving step of the loader records (`GtirbModel/LoaderRefs.lean`): `resolve` / `resolveAll` /
`resolveEdges` are the checks `refKind` / `checkAll` followed by what the table answers (`answer`), and a node the
table answered in the middle of a load is, at the end, a node this load created and attached (`IsLoaded`). -/
namespace Gtirb.Loader
open Gtirb.Forest

/-- what the table of IR `ir` answers for `u` (node 0 where it has no entry) -/
def answer (g : G) (ir u : Nat) : Nat := (g.cache ir u).getD 0

theorem RefResolves.answer {g : G} {ir : Nat} {ok : Kind → Bool} {u : Nat} (h : RefResolves g ir ok u) :
    g.cache ir u = some (answer g ir u) ∧ ok (g.kind (answer g ir u)) = true := by
  obtain ⟨n, hc, hk⟩ := h
  unfold Loader.answer
  rw [hc]
  exact ⟨rfl, hk⟩

theorem resolve_eq (g : G) (ir : Nat) (ok : Kind → Bool) (u : Nat) :
    resolve g ir ok u = (refKind g ir ok u).map fun _ => answer g ir u := by
  unfold resolve refKind answer
  cases g.cache ir u with
  | none => rfl
  | some n =>
    simp only []
    cases ok (g.kind n) <;> rfl

theorem resolveAll_eq (g : G) (ir : Nat) (ok : Kind → Bool) : ∀ us : List Nat,
    resolveAll g ir ok us = (checkAll g ir ok us).map fun _ => us.map (answer g ir)
  | [] => rfl
  | u :: us => by
    rw [resolveAll, checkAll, resolve_eq, resolveAll_eq g ir ok us]
    cases refKind g ir ok u with
    | error e => rfl
    | ok _ => cases checkAll g ir ok us <;> rfl

theorem resolveEdges_eq (g : G) (ir : Nat) (ok : Kind → Bool) : ∀ es : List (Nat × Nat),
    resolveEdges g ir ok es = (checkAll g ir ok (es.flatMap fun e => [e.1, e.2])).map fun _ =>
      es.map fun e => (answer g ir e.1, answer g ir e.2)
  | [] => rfl
  | e :: es => by
    rw [resolveEdges, resolve_eq, resolve_eq, resolveEdges_eq g ir ok es]
    simp only [List.flatMap_cons, List.cons_append, List.nil_append, checkAll]
    cases refKind g ir ok e.1 with
    | error x => rfl
    | ok _ =>
      cases refKind g ir ok e.2 with
      | error x => rfl
      | ok _ => cases checkAll g ir ok (es.flatMap fun e => [e.1, e.2]) <;> rfl

/-- `g`: the state before the load, `g'`: the loaded state; node `g.n` is the loaded IR -/
structure IsLoaded (g g' : G) (K : Kind → Prop) (u n : Nat) : Prop where
  new : g.n ≤ n
  lt : n < g'.n
  kind : K (g'.kind n)
  uuid : g'.uuid n = u
  att : irOf g' n = some g.n

theorem IsLoaded.of_new {g g' : G} {K : Kind → Prop} {u n : Nat} (ha : AllAtt g g') (h : New g g' K u n) :
    IsLoaded g g' K u n := ⟨h.1, h.2.1, h.2.2.1, h.2.2.2, ha n h.1 h.2.1⟩

end Gtirb.Loader
