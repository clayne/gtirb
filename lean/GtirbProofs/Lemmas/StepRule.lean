import GtirbProofs.Lemmas.ForestFrame
/-! One rule for the public operations of model C.

Every operation except the constructors, `reverse` and the attribute setters is a guard followed by a sequence of
primitive steps of seven kinds (discard, add, block update, list remove / insert / delItem / setItem) on the nodes it
names or selects. `PrimRule ok T I E` says of these steps that, issued on nodes in `T` within the typing contract `ok` from a
state with `I`, they end in a state with `I` or raise an exception with `E`; `step_rule` concludes the same of the
operation, up to the exceptions of its own guard (`wr_builtinError`). For the parent setter that predicate is `True`, so
`step_rule` says nothing of its exceptions; `PrimRule.setParent` states them. An invariant, a frame, the class of the
exceptions are instances; the constructor of a non-IR node is the same after its allocation (`mk_rule`). -/
namespace Gtirb.Forest

/-- `e` is the exception the built-in operation raises on the same content (or the marker of an
input the model does not follow: `outside` = known finding K1, `badOp` = the reported iteration
order does not fit); `False` for the operations whose built-in counterpart never raises; `True`
(no statement) for constructors, the parent setter and the attribute setters, which are not
collection operations -/
def wr_builtinError (g : G) : Op → Exc → Prop
  | .remove p s v, e => e = .keyError ∧ v ∉ g.kids p s
  | .pop p s v, e => (e = .keyError ∧ g.kids p s = []) ∨ (e = .badOp ∧ g.kids p s ≠ [] ∧ v ∉ g.kids p s)
  | .clear p s order, e => e = .badOp ∧ sameMembers order (g.kids p s) = false
  | .iand p s vs order, e =>
    e = .badOp ∧ sameMembers order ((g.kids p s).filter (fun x => !(x ∈ vs))) = false
  | .listRemove i v, e => e = .valueError ∧ v ∉ g.kids i .mods
  | .delItem i k, e => e = .indexError ∧ pyIndex (g.kids i .mods).length k = none
  | .listPop i k, e => e = .indexError ∧ pyIndex (g.kids i .mods).length k = none
  | .setItem i k v, e =>
    (e = .indexError ∧ pyIndex (g.kids i .mods).length k = none) ∨
    (e = .outside ∧ ∃ idx old, pyIndex (g.kids i .mods).length k = some idx ∧
      (g.kids i .mods)[idx]? = some old ∧ v ∈ g.kids i .mods ∧ v ≠ old)
  | .add _ _ _, _ | .discard _ _ _, _ | .update _ _ _, _ | .isub _ _ _, _ | .ixor _ _ _, _ => False
  | .insert _ _ _, _ | .append _ _, _ | .extend _ _, _ | .reverse _, _ | .listClear _, _ => False
  | .mkIR _, _ | .mk _ _ _ _, _ | .mkSym _ _ _ _, _ | .setParent _ _, _ | .setName _ _, _
  | .setPayload _ _, _ => True

def Op.Plain : Op → Prop
  | .mkIR _ | .mk _ _ _ _ | .mkSym _ _ _ _ | .reverse _ | .setName _ _ | .setPayload _ _ => False
  | _ => True

theorem Op.plain_or (op : Op) :
    op.Plain ∨ (∃ u, op = .mkIR u) ∨ (∃ k u kids parent, op = .mk k u kids parent) ∨
    (∃ u nm pl parent, op = .mkSym u nm pl parent) ∨ (∃ i, op = .reverse i) ∨ (∃ v nm, op = .setName v nm) ∨
    (∃ v pl, op = .setPayload v pl) := by
  cases op
  case mkIR u => exact .inr (.inl ⟨u, rfl⟩)
  case mk k u kids parent => exact .inr (.inr (.inl ⟨k, u, kids, parent, rfl⟩))
  case mkSym u nm pl parent => exact .inr (.inr (.inr (.inl ⟨u, nm, pl, parent, rfl⟩)))
  case reverse i => exact .inr (.inr (.inr (.inr (.inl ⟨i, rfl⟩))))
  case setName v nm => exact .inr (.inr (.inr (.inr (.inr (.inl ⟨v, nm, rfl⟩)))))
  case setPayload v pl => exact .inr (.inr (.inr (.inr (.inr (.inr ⟨v, pl, rfl⟩)))))
  all_goals exact .inl trivial

structure PrimRule (ok : Nat → Slot → Nat → Prop) (T : Nat → Prop) (I : G → Prop) (E : Exc → Prop) : Prop where
  discard : ∀ {g q s v}, T v → I g → Ends (setDiscard g q s v) I E
  add : ∀ {g p s v}, ok p s v → T v → I g → Ends (setAdd g p s v) I E
  blk : ∀ {g p vs}, (∀ v ∈ vs, ok p .blocks v ∧ T v) → I g → Ends (blkUpdate g p vs) I E
  listRemove : ∀ {g i v}, T v → v ∈ g.kids i .mods → I g → Ends (modListRemove g i v) I E
  insert : ∀ {g i k v}, ok i .mods v → T v → I g → Ends (modInsert g i k v) I E
  delItem : ∀ {g i k idx old}, pyIndex (g.kids i .mods).length k = some idx → (g.kids i .mods)[idx]? = some old →
    T old → I g → Ends (modDelItem g i k) I E
  setItem : ∀ {g i k v idx old}, ok i .mods v → T v → pyIndex (g.kids i .mods).length k = some idx →
    (g.kids i .mods)[idx]? = some old → ¬(v ∈ g.kids i .mods ∧ v ≠ old) → T old → I g → Ends (modSetItem g i k v) I E

namespace PrimRule
variable {ok : Nat → Slot → Nat → Prop} {T : Nat → Prop} {I : G → Prop} {E : Exc → Prop}

theorem nodeSetAdd (R : PrimRule ok T I E) {g : G} {p : Nat} {s : Slot} {v : Nat} (ho : ok p s v) (hv : T v)
    (hI : I g) : Ends (nodeSetAdd g p s v) I E := by
  unfold Forest.nodeSetAdd
  split
  · rename_i hb
    subst hb
    exact R.blk (fun x hx => by rw [List.mem_singleton.1 hx]; exact ⟨ho, hv⟩) hI
  · exact R.add ho hv hI

/-- `del self[k]` with its guard -/
theorem delItem_any (R : PrimRule ok T I E) {g : G} {i : Nat} {k : Int}
    (hT : ∀ idx old, pyIndex (g.kids i .mods).length k = some idx → (g.kids i .mods)[idx]? = some old → T old)
    (hI : I g) :
    Ends (modDelItem g i k) I (fun e => E e ∨ (e = .indexError ∧ pyIndex (g.kids i .mods).length k = none)) := by
  cases hk : pyIndex (g.kids i .mods).length k with
  | none =>
    unfold modDelItem
    rw [hk]
    exact .inr ⟨rfl, rfl⟩
  | some idx =>
    obtain ⟨old, hold⟩ := pyIndex_getElem hk
    exact (R.delItem hk hold (hT idx old hk hold) hI).inl

theorem setParent (R : PrimRule ok T I E) {g : G} {c : Nat} {p : Option Nat} (hc : T c)
    (ho : ∀ q s, p = some q → slotOf (g.kind c) = some s → ok q s c) (hI : I g) :
    Ends (setParent g c p) I (fun e => E e ∨ (e = .badOp ∧ slotOf (g.kind c) = none) ∨
      (e = .valueError ∧ ∃ q, g.par c = some q ∧ c ∉ g.kids q .mods)) := by
  unfold Forest.setParent
  split
  · rename_i hslot
    exact .inr (.inl ⟨rfl, hslot⟩)
  · rename_i s hslot
    have e1 : Ends (match g.par c with
        | some q => if s = Slot.mods then modListRemove g q c else setDiscard g q s c
        | none => .ok g) I (fun e => E e ∨ (e = .badOp ∧ slotOf (g.kind c) = none) ∨
          (e = .valueError ∧ ∃ q, g.par c = some q ∧ c ∉ g.kids q .mods)) := by
      split
      · rename_i q hq
        split
        · by_cases hm : c ∈ g.kids q .mods
          · exact (R.listRemove hc hm hI).inl
          · unfold modListRemove
            rw [if_neg hm]
            exact .inr (.inr ⟨rfl, q, hq, hm⟩)
        · exact (R.discard hc hI).inl
      · exact hI
    refine e1.bind' fun g1 h1 => ?_
    split
    · exact h1
    · rename_i p'
      split
      · rename_i hm
        subst hm
        exact (R.insert (ho p' _ rfl hslot) hc h1).inl
      · exact (R.nodeSetAdd (ho p' s rfl hslot) hc h1).inl

end PrimRule

/-- The typing contract enters as the premise `OpOK g op →` inside `ok`, not as a hypothesis of the rule: an
instance that does not look at `ok` (`primRule_stable`, the frame) gives its conclusion for ill-typed operations too. -/
theorem step_rule {g : G} {op : Op} {I : G → Prop} {E : Exc → Prop}
    (R : PrimRule (fun p s v => OpOK g op → ChildOK g p s v) (· ∈ touched g op) I E) (hk : op.Plain) (hI : I g) :
    Ends (step g op) I (fun e => E e ∨ wr_builtinError g op e) := by
  cases op with
  | mkIR u => exact hk.elim
  | mk k u kids parent => exact hk.elim
  | mkSym u nm pl parent => exact hk.elim
  | reverse i => exact hk.elim
  | setName v nm => exact hk.elim
  | setPayload v pl => exact hk.elim
  | setParent c p =>
    exact (R.setParent List.mem_cons_self
      (fun q s hq hslot hop => ⟨(hop.2.2 q hq).1, hop.1, hslot, (hop.2.2 q hq).2⟩) hI).weaken
      fun _ he => he.imp id fun _ => trivial
  | add p s v => exact (R.nodeSetAdd (fun hop => hop.2) List.mem_cons_self hI).inl
  | discard p s v => exact (R.discard List.mem_cons_self hI).inl
  | remove p s v =>
    simp only [step]
    split
    · exact (R.discard List.mem_cons_self hI).inl
    · rename_i hv
      exact .inr ⟨rfl, hv⟩
  | pop p s v =>
    simp only [step]
    split
    · rename_i he
      exact .inr (.inl ⟨rfl, List.isEmpty_iff.1 he⟩)
    · rename_i he
      split
      · exact (R.discard List.mem_cons_self hI).inl
      · rename_i hv
        exact .inr (.inr ⟨rfl, fun hh => he (List.isEmpty_iff.2 hh), hv⟩)
  | clear p s order =>
    simp only [step]
    split
    · rename_i hsm
      exact (ends_foldE order g (fun _ y hy h1 => R.discard ((sameMembers_mem hsm y).1 hy) h1) hI).inl
    · rename_i hsm
      exact .inr ⟨rfl, Bool.eq_false_iff.2 hsm⟩
  | update p s vs =>
    simp only [step]
    split
    · rename_i hb
      subst hb
      exact (R.blk (fun v hv => ⟨fun hop => hop.2.2 v hv, hv⟩) hI).inl
    · exact (ends_foldE vs g (fun _ y hy h1 => R.add (fun hop => hop.2.2 y hy) hy h1) hI).inl
  | isub p s vs => exact (ends_foldE vs g (fun _ y hy h1 => R.discard hy h1) hI).inl
  | iand p s vs order =>
    simp only [step]
    split
    · rename_i hsm
      exact (ends_foldE order g (fun _ y hy h1 => R.discard ((sameMembers_mem hsm y).1 hy) h1) hI).inl
    · rename_i hsm
      exact .inr ⟨rfl, Bool.eq_false_iff.2 hsm⟩
  | ixor p s vs =>
    refine (ends_foldE vs g (fun g1 y hy h1 => ?_) hI).inl
    split
    · exact R.discard hy h1
    · exact R.nodeSetAdd (fun hop => hop.2.2 y hy) hy h1
  | insert i k v => exact (R.insert id List.mem_cons_self hI).inl
  | append i v => exact (R.insert id List.mem_cons_self hI).inl
  | extend i vs => exact (ends_foldE vs g (fun _ y hy h1 => R.insert (fun hop => hop.2.2 y hy) hy h1) hI).inl
  | delItem i k => exact R.delItem_any (fun idx old h1 h2 => mem_listAt h1 h2) hI
  | listPop i k =>
    simp only [step]
    split
    · rename_i hn
      exact .inr ⟨rfl, hn⟩
    · exact R.delItem_any (fun idx old h1 h2 => mem_listAt h1 h2) hI
  | setItem i k v =>
    simp only [step]
    cases hidx : pyIndex (g.kids i .mods).length k with
    | none =>
      unfold modSetItem
      rw [hidx]
      exact .inr (.inl ⟨rfl, hidx⟩)
    | some idx =>
      obtain ⟨old, hold⟩ := pyIndex_getElem hidx
      by_cases hne : v ∈ g.kids i .mods ∧ v ≠ old
      · unfold modSetItem
        rw [hidx]
        simp only [hold, if_pos hne]
        exact .inr (.inr ⟨rfl, idx, old, hidx, hold, hne⟩)
      · exact (R.setItem id List.mem_cons_self hidx hold hne (List.mem_cons_of_mem _ (mem_listAt hidx hold)) hI).inl
  | listRemove i v =>
    simp only [step]
    by_cases hm : v ∈ g.kids i .mods
    · exact (R.listRemove List.mem_cons_self hm hI).inl
    · unfold modListRemove
      rw [if_neg hm]
      exact .inr ⟨rfl, hm⟩
  | listClear i =>
    -- `del self[-1]` once per element: the list shrinks in step with the loop, so the index is always in range
    -- (`orKeyError_modClear` follows the contents of the collections through the same loop)
    refine ((ends_foldE_list (fun xs g1 => I g1 ∧ xs.length = (g1.kids i .mods).length ∧
        ∀ x ∈ g1.kids i .mods, x ∈ g.kids i .mods) ?_ _ g ⟨hI, rfl, fun _ h => h⟩).mono fun _ h => h.1).inl
    rintro _ xs g1 ⟨h1, hl, hsub⟩
    rw [List.length_cons] at hl
    have hidx := pyIndex_of_neg (len := (g1.kids i .mods).length) (k := -1) (by decide) (by omega)
    obtain ⟨old, hold⟩ := pyIndex_getElem hidx
    have hr := R.delItem hidx hold (hsub _ (List.mem_of_getElem? hold)) h1
    refine .of_cases (fun g2 h12 => ?_) fun e he => hr.of_error he
    obtain ⟨idx', old', _, e2, hc⟩ := (ends_modDelItem _ _ _).of_ok h12
    have hk : g2.kids i .mods = (g1.kids i .mods).eraseIdx idx' := by
      rw [kids_of_core hc, kidsSet_kids, if_pos ⟨rfl, rfl⟩]
    refine ⟨hr.of_ok h12, ?_, fun x hx => hsub x ((List.eraseIdx_sublist _ _).subset (hk ▸ hx))⟩
    rw [hk, List.length_eraseIdx, if_pos (List.getElem?_eq_some_iff.1 e2).1]
    omega

theorem primRule_stable (ok : Nat → Slot → Nat → Prop) (T : Nat → Prop) (g0 : G) :
    PrimRule ok T (Stable g0) (fun _ => True) where
  discard := fun _ h => .of_success fun _ e => h.trans (setDiscard_stable e)
  add := fun _ _ h => .of_success fun _ e => h.trans (setAdd_stable e)
  blk := fun _ h => .of_success fun _ e => h.trans (blkUpdate_stable e)
  listRemove := fun _ _ h => .of_success fun _ e => h.trans (modListRemove_stable e)
  insert := fun _ _ h => .of_success fun _ e => h.trans (modInsert_stable e)
  delItem := fun _ _ _ h => .of_success fun _ e => h.trans (modDelItem_stable e)
  setItem := fun _ _ _ _ _ _ h => .of_success fun _ e => h.trans (modSetItem_stable e)

theorem setParent_stable {g g' : G} {c : Nat} {p : Option Nat} (h : setParent g c p = .ok g') : Stable g g' :=
  ((primRule_stable (fun _ _ _ => True) (fun _ => True) g).setParent trivial (fun _ _ _ _ => trivial)
    (.refl g)).of_ok h

theorem step_stable {g g' : G} {op : Op} (hs : step g op = .ok g') (hk : op.Plain) : Stable g g' :=
  (step_rule (primRule_stable _ _ g) hk (.refl g)).of_ok hs

theorem step_mk_eq (g : G) (k : Kind) (u : Nat) (kids : List (Slot × List Nat)) (parent : Option Nat) :
    step g (.mk k u kids parent) =
      if k = .ir ∨ k = .symbol then .error .badOp
      else bindE (kids.foldl (fun acc sv => bindE acc fun g0 =>
          if sv.1 = .blocks then blkUpdate g0 g.n sv.2 else foldE (fun g0 x => setAdd g0 g.n sv.1 x) sv.2 g0)
          (.ok (alloc g k u).1))
        fun g2 => match parent with
          | some p => setParent g2 g.n (some p)
          | none => .ok g2 := rfl

theorem step_mkSym_eq (g : G) (u nm : Nat) (pl : Payload) (parent : Option Nat) :
    step g (.mkSym u nm pl parent) =
      match parent with
      | some p => setParent { (alloc g .symbol u).1 with
          name := fun x => if x = g.n then nm else g.name x,
          payload := fun x => if x = g.n then pl else g.payload x } g.n (some p)
      | none => .ok { (alloc g .symbol u).1 with
          name := fun x => if x = g.n then nm else g.name x,
          payload := fun x => if x = g.n then pl else g.payload x } := rfl

theorem childOK_alloc_child {g : G} {k : Kind} {u : Nat} {s : Slot} {y : Nat} (hy : y < g.n)
    (h1 : slotOf (g.kind y) = some s) (h2 : parentKind (g.kind y) = some k) :
    ChildOK (alloc g k u).1 g.n s y := by
  refine ⟨Nat.lt_succ_self _, Nat.lt_succ_of_lt hy, ?_, ?_⟩
  · rw [alloc_kind, if_neg (Nat.ne_of_lt hy)]; exact h1
  · rw [alloc_kind, alloc_kind, if_neg (Nat.ne_of_lt hy), if_pos rfl]; exact h2

theorem childOK_alloc_parent {g : G} {k : Kind} {u : Nat} {s : Slot} {q : Nat} (hq : q < g.n)
    (h1 : slotOf k = some s) (h2 : parentKind k = some (g.kind q)) :
    ChildOK (alloc g k u).1 q s g.n := by
  refine ⟨Nat.lt_succ_of_lt hq, Nat.lt_succ_self _, ?_, ?_⟩
  · rw [alloc_kind, if_pos rfl]; exact h1
  · rw [alloc_kind, alloc_kind, if_pos rfl, if_neg (Nat.ne_of_lt hq)]; exact h2

/-- a loop over arguments of any type; the invariant records which arguments are done -/
theorem ends_foldl_bindE {α : Type} {E : Exc → Prop} (J : List α → G → Prop) (body : G → α → Except Exc G)
    (l : List α) (hstep : ∀ done a, a ∈ l → ∀ g, J done g → Ends (body g a) (J (a :: done)) E) :
    ∀ (done : List α) (acc : Except Exc G), Ends acc (J done) E →
      Ends (l.foldl (fun acc a => bindE acc fun g => body g a) acc)
        (fun g' => ∃ done', (∀ a, a ∈ l ∨ a ∈ done → a ∈ done') ∧ J done' g') E := by
  induction l with
  | nil =>
    intro done acc h
    exact h.mono fun g' hg => ⟨done, fun a ha => ha.resolve_left List.not_mem_nil, hg⟩
  | cons a as ih =>
    intro done acc h
    rw [List.foldl_cons]
    refine (ih (fun done b hb => hstep done b (List.mem_cons_of_mem _ hb)) (a :: done) _
      (h.bind fun g0 h0 => hstep done a List.mem_cons_self g0 h0)).mono ?_
    rintro g' ⟨done', hd, hJ⟩
    refine ⟨done', fun b hb => hd b ?_, hJ⟩
    rcases hb with hb | hb
    · rcases List.mem_cons.1 hb with rfl | hb
      · exact .inr List.mem_cons_self
      · exact .inl hb
    · exact .inr (List.mem_cons_of_mem _ hb)

/-- The constructor after the allocation (`a` is the state then, `n` the new node): every children argument is an
`update` of that collection of `n`, then comes the parent setter. `J` is any further fact to be carried along the
children arguments, indexed by those already processed; the result names the state `g2` between the two phases.
`(generalizing := false)`: `hp` mentions `parent`, and the `match` would otherwise be abstracted over `hp` and no
longer be the `match` of `step`. -/
theorem mk_rule {ok : Nat → Slot → Nat → Prop} {T : Nat → Prop} {I : G → Prop} {E : Exc → Prop}
    (R : PrimRule ok T I E) {a : G} {n : Nat} {kids : List (Slot × List Nat)} {parent : Option Nat}
    (hk : ∀ sv ∈ kids, ∀ y ∈ sv.2, ok n sv.1 y ∧ T y) (hn : T n)
    (hp : ∀ p s, parent = some p → slotOf (a.kind n) = some s → ok p s n)
    (J : List (Slot × List Nat) → G → Prop) (hJ0 : J [] a)
    (hJ : ∀ done sv, sv ∈ kids → ∀ ga gb, I ga → J done ga → step ga (.update n sv.1 sv.2) = .ok gb →
      J (sv :: done) gb)
    (hI : I a) :
    Ends (bindE (kids.foldl (fun acc sv => bindE acc fun g0 => step g0 (.update n sv.1 sv.2)) (.ok a))
        fun g2 => match (generalizing := false) parent with
          | some p => setParent g2 n (some p)
          | none => .ok g2)
      (fun g' => I g' ∧ ∃ g2 done, I g2 ∧ (∀ sv ∈ kids, sv ∈ done) ∧ J done g2 ∧
        (match (generalizing := false) parent with
          | some p => setParent g2 n (some p)
          | none => .ok g2) = .ok g')
      (fun e => E e ∨ e = .badOp ∨ e = .valueError) := by
  have h1 := ends_foldl_bindE (E := E) (fun done g1 => I g1 ∧ Stable a g1 ∧ J done g1)
    (fun g0 (sv : Slot × List Nat) => step g0 (.update n sv.1 sv.2)) kids
    (fun done sv hsv ga hga => by
      have hb : Ends (step ga (.update n sv.1 sv.2)) I E := by
        show Ends (if sv.1 = .blocks then blkUpdate ga n sv.2
          else foldE (fun g0 x => setAdd g0 n sv.1 x) sv.2 ga) I E
        split
        · rename_i hb
          exact R.blk (fun y hy => by rw [← hb]; exact hk sv hsv y hy) hga.1
        · exact ends_foldE sv.2 ga (fun _ y hy h1 => R.add (hk sv hsv y hy).1 (hk sv hsv y hy).2 h1) hga.1
      exact .of_cases (fun gb hgb => ⟨hb.of_ok hgb, hga.2.1.trans (step_stable hgb trivial),
        hJ done sv hsv ga gb hga.1 hga.2.2 hgb⟩) fun e he => hb.of_error he)
    [] (.ok a) ⟨hI, .refl a, hJ0⟩
  refine h1.inl.bind ?_
  rintro g2 ⟨done, hd, h2, hst, hJ2⟩
  cases parent with
  | none => exact ⟨h2, g2, done, h2, fun sv hsv => hd sv (.inl hsv), hJ2, rfl⟩
  | some p =>
    have hr := R.setParent hn (fun q s hq hs => hp q s hq (hst.kind ▸ hs)) h2
    refine .of_cases (fun g' hg' => ⟨hr.of_ok hg', g2, done, h2, fun sv hsv => hd sv (.inl hsv), hJ2, hg'⟩)
      fun e he => (hr.of_error he).imp id fun h => ?_
    exact h.elim (fun h => .inl h.1) fun h => .inr h.1

theorem step_mk_rule {g : G} {k : Kind} {u : Nat} {kids : List (Slot × List Nat)} {parent : Option Nat}
    {I : G → Prop} {E : Exc → Prop}
    (R : PrimRule (fun p s v => OpOK g (.mk k u kids parent) → ChildOK (alloc g k u).1 p s v)
      (· ∈ touched g (.mk k u kids parent)) I E)
    (J : List (Slot × List Nat) → G → Prop) (hJ0 : J [] (alloc g k u).1)
    (hJ : ∀ done sv, sv ∈ kids → ∀ ga gb, I ga → J done ga → step ga (.update g.n sv.1 sv.2) = .ok gb →
      J (sv :: done) gb)
    (hI : I (alloc g k u).1) :
    Ends (step g (.mk k u kids parent))
      (fun g' => I g' ∧ ∃ g2 done, I g2 ∧ (∀ sv ∈ kids, sv ∈ done) ∧ J done g2 ∧
        (match parent with
          | some p => setParent g2 g.n (some p)
          | none => .ok g2) = .ok g')
      (fun e => E e ∨ e = .badOp ∨ e = .valueError) := by
  rw [step_mk_eq]
  split
  · exact .inr (.inl rfl)
  · refine mk_rule R (fun sv hsv y hy => ⟨fun hop => ?_, List.mem_cons_of_mem _ (List.mem_flatMap.2 ⟨sv, hsv, hy⟩)⟩)
      List.mem_cons_self (fun p s hq hslot hop => ?_) J hJ0 hJ hI
    · have := hop.2.2.1 sv hsv y hy
      exact childOK_alloc_child this.1 this.2.1 this.2.2
    · rw [alloc_kind, if_pos rfl] at hslot
      exact childOK_alloc_parent (hop.2.2.2 p hq).1 hslot (hop.2.2.2 p hq).2

theorem step_grows {g g' : G} {op : Op} (hs : step g op = .ok g') : Grows g g' := by
  rcases op.plain_or with hk | ⟨u, rfl⟩ | ⟨k, u, kids, parent, rfl⟩ | ⟨u, nm, pl, parent, rfl⟩ | ⟨i, rfl⟩ |
    ⟨v, nm, rfl⟩ | ⟨v, pl, rfl⟩
  · exact (step_stable hs hk).grows
  · cases hs
    exact grows_alloc g .ir u
  · exact (grows_alloc g k u).trans ((step_mk_rule (primRule_stable _ _ _) (fun _ _ => True)
      trivial (fun _ _ _ _ _ _ _ _ => trivial) (.refl _)).of_ok hs).1.grows
  · rw [step_mkSym_eq] at hs
    have hg : Grows g { (alloc g .symbol u).1 with
        name := fun x => if x = g.n then nm else g.name x,
        payload := fun x => if x = g.n then pl else g.payload x } := grows_alloc g .symbol u
    split at hs
    · exact hg.trans (setParent_stable hs).grows
    · cases hs; exact hg
  · cases hs; exact (modReverse_stable g i).grows
  · cases hs; exact (setName_stable g v nm).grows
  · cases hs; exact (setPayload_stable g v pl).grows

end Gtirb.Forest
