import GtirbProofs.Lemmas.ForestDefs
import GtirbProofs.Lemmas.ListLemmas
/-! The derived accessors of model C under `ForestInv`: every owning collection, every aggregate
iterator (`secBlocks`, `modBlocks`, `irBlocks`, `irCfgNodes`, ... in ForestDriver.lean) and the scan
`reachable` hold, each once, exactly the nodes of the right kinds whose chained back-pointer accessor
(`par`, `moduleOf`, `irOf`) names the root. That is one predicate, `Collects`, kept by `flatMap`,
`filter` and `++`, which is all the aggregates are made of. -/
namespace Gtirb.Forest

theorem nodup_append_of {l1 l2 : List Nat} {P : Nat → Prop} (h1 : l1.Nodup) (h2 : l2.Nodup)
    (hp1 : ∀ x ∈ l1, ¬ P x) (hp2 : ∀ x ∈ l2, P x) : (l1 ++ l2).Nodup := by
  rw [List.nodup_append]
  refine ⟨h1, h2, ?_⟩
  intro x hx y hy hxy
  subst hxy
  exact hp1 x hx (hp2 x hy)

theorem irOf_ir {g : G} {x : Nat} (hk : g.kind x = .ir) : irOf g x = some x := by rw [irOf, hk]
theorem irOf_module {g : G} {x : Nat} (hk : g.kind x = .module) : irOf g x = g.par x := by rw [irOf, hk]
theorem irOf_section {g : G} {x : Nat} (hk : g.kind x = .section) : irOf g x = (g.par x).bind g.par := by
  rw [irOf, hk]
theorem irOf_symbol {g : G} {x : Nat} (hk : g.kind x = .symbol) : irOf g x = (g.par x).bind g.par := by
  rw [irOf, hk]
theorem irOf_proxy {g : G} {x : Nat} (hk : g.kind x = .proxy) : irOf g x = (g.par x).bind g.par := by
  rw [irOf, hk]
theorem irOf_interval {g : G} {x : Nat} (hk : g.kind x = .interval) :
    irOf g x = ((g.par x).bind g.par).bind g.par := by rw [irOf, hk]
theorem irOf_block {g : G} {x : Nat} (hk : g.kind x = .code ∨ g.kind x = .data) :
    irOf g x = (((g.par x).bind g.par).bind g.par).bind g.par := by
  rcases hk with hk | hk <;> rw [irOf, hk]

theorem moduleOf_mid {g : G} {x : Nat} (hk : g.kind x = .section ∨ g.kind x = .symbol ∨ g.kind x = .proxy) :
    moduleOf g x = g.par x := by
  rcases hk with hk | hk | hk <;> rw [moduleOf, hk]
theorem moduleOf_interval {g : G} {x : Nat} (hk : g.kind x = .interval) :
    moduleOf g x = (g.par x).bind g.par := by rw [moduleOf, hk]
theorem moduleOf_block {g : G} {x : Nat} (hk : g.kind x = .code ∨ g.kind x = .data) :
    moduleOf g x = ((g.par x).bind g.par).bind g.par := by
  rcases hk with hk | hk <;> rw [moduleOf, hk]

theorem irOf_eq_moduleOf_bind {g : G} {x : Nat} (h1 : g.kind x ≠ .ir) (h2 : g.kind x ≠ .module) :
    irOf g x = (moduleOf g x).bind g.par := by
  unfold irOf moduleOf
  revert h1 h2
  generalize g.kind x = k
  cases k <;> intro h1 h2 <;> first | rfl | contradiction

section
variable {g : G} (h : ForestInv g)
include h

theorem ForestInv.kind_par {x p : Nat} {k : Kind} (hp : g.par x = some p) (hk : parentKind (g.kind x) = some k) :
    g.kind p = k :=
  Option.some.inj ((h.kind_ok x p hp).symm.trans hk)

theorem ForestInv.kind_par_module {x p : Nat} (hp : g.par x = some p) (hk : g.kind x = .module) :
    g.kind p = .ir :=
  h.kind_par hp (by rw [hk]; rfl)

theorem ForestInv.par_ir {x : Nat} (hk : g.kind x = .ir) : g.par x = none := by
  cases hp : g.par x with
  | none => rfl
  | some p => exact nomatch (hk ▸ h.kind_ok x p hp : parentKind .ir = some (g.kind p))

end

/-- `l` holds, each once, exactly the nodes with a kind in `K` whose owner `w` (the back-pointer, or a
chain of them: `moduleOf`, `irOf`) is `r`; and `r`, if it owns anything, has a kind in `R`. Every owning
collection and every aggregate iterator of the driver is of this form, and the form is kept by the
operations the aggregates are built with. -/
structure Collects (g : G) (K : Kind → Prop) (w : Nat → Option Nat) (R : Kind → Prop) (r : Nat)
    (l : List Nat) : Prop where
  mem : ∀ x, x ∈ l ↔ K (g.kind x) ∧ w x = some r
  nodup : l.Nodup
  root : ∀ x ∈ l, R (g.kind r)

namespace Collects
variable {g : G} {K K' Q R : Kind → Prop} {w w' u : Nat → Option Nat} {r i : Nat} {l l' L : List Nat}

/-- the pieces `f m` of the owners `m` in `L`: the owner of an element is found by going up twice. The kind
of `m` needs no hypothesis: it is the root kind of its piece. -/
theorem flatMap {f : Nat → List Nat} (hL : Collects g Q u R i L) (hf : ∀ m, Collects g K w Q m (f m)) :
    Collects g K (fun x => (w x).bind u) R i (L.flatMap f) where
  mem x := by
    rw [List.mem_flatMap]
    constructor
    · rintro ⟨m, hm, hx⟩
      obtain ⟨hk, hw⟩ := ((hf m).mem x).1 hx
      exact ⟨hk, by rw [hw]; exact ((hL.mem m).1 hm).2⟩
    · rintro ⟨hk, hb⟩
      obtain ⟨m, hw, hu⟩ := Option.bind_eq_some_iff.1 hb
      have hx := ((hf m).mem x).2 ⟨hk, hw⟩
      exact ⟨m, (hL.mem m).2 ⟨(hf m).root x hx, hu⟩, hx⟩
  nodup := List.nodup_flatMap_of hL.nodup (fun m _ => (hf m).nodup) fun m m' x _ _ hx hx' =>
    Option.some.inj ((((hf m).mem x).1 hx).2.symm.trans (((hf m').mem x).1 hx').2)
  root x hx := by
    obtain ⟨m, hm, _⟩ := List.mem_flatMap.1 hx
    exact hL.root m hm

theorem filter (h : Collects g K w R r l) (K' : Kind → Prop) [DecidablePred K'] (hK : ∀ k, K' k → K k) :
    Collects g K' w R r (l.filter fun x => K' (g.kind x)) where
  mem x := by
    rw [List.mem_filter, h.mem, decide_eq_true_eq]
    exact ⟨fun ⟨⟨_, hw⟩, hk⟩ => ⟨hk, hw⟩, fun ⟨hk, hw⟩ => ⟨⟨hK _ hk, hw⟩, hk⟩⟩
  nodup := h.nodup.sublist List.filter_sublist
  root x hx := h.root x (List.mem_filter.1 hx).1

theorem append (h : Collects g K w R r l) (h' : Collects g K' w R r l') (hd : ∀ k, K' k → ¬ K k) :
    Collects g (fun k => K k ∨ K' k) w R r (l ++ l') where
  mem x := by rw [List.mem_append, h.mem, h'.mem, or_and_right]
  nodup := nodup_append_of (P := fun x => K' (g.kind x)) h.nodup h'.nodup
    (fun x hx hk => hd _ hk ((h.mem x).1 hx).1) (fun x hx => ((h'.mem x).1 hx).1)
  root x hx := (List.mem_append.1 hx).elim (h.root x) (h'.root x)

theorem congr (h : Collects g K w R r l) (hw : ∀ x, K (g.kind x) → w' x = w x) : Collects g K w' R r l :=
  { h with mem := fun x => (h.mem x).trans (and_congr_right fun hk => by rw [hw x hk]) }

end Collects

section
variable {g : G} (h : ForestInv g)
include h

/-- an owning collection: `mem_iff`, `nodup` and `kind_ok` at one slot, given the slot's row of the
kind table -/
theorem ForestInv.collects_kids {s : Slot} {K : Kind → Prop} {q : Kind} (hK : ∀ k, slotOf k = some s ↔ K k)
    (hq : ∀ k, K k → parentKind k = some q) (p : Nat) : Collects g K g.par (· = q) p (g.kids p s) where
  mem x := (h.mem_iff x p s).trans (and_comm.trans (and_congr_left' (hK _)))
  nodup := h.nodup p s
  root x hx := h.kind_par ((h.mem_iff x p s).1 hx).1 (hq _ ((hK _).1 ((h.mem_iff x p s).1 hx).2))

theorem ForestInv.collects_mods (i : Nat) : Collects g (· = .module) g.par (· = .ir) i (g.kids i .mods) :=
  h.collects_kids (by intro k; cases k <;> decide) (by rintro _ rfl; rfl) i

theorem ForestInv.collects_secs (m : Nat) : Collects g (· = .section) g.par (· = .module) m (g.kids m .secs) :=
  h.collects_kids (by intro k; cases k <;> decide) (by rintro _ rfl; rfl) m

theorem ForestInv.collects_syms (m : Nat) : Collects g (· = .symbol) g.par (· = .module) m (g.kids m .syms) :=
  h.collects_kids (by intro k; cases k <;> decide) (by rintro _ rfl; rfl) m

theorem ForestInv.collects_proxies (m : Nat) :
    Collects g (· = .proxy) g.par (· = .module) m (g.kids m .proxies) :=
  h.collects_kids (by intro k; cases k <;> decide) (by rintro _ rfl; rfl) m

theorem ForestInv.collects_bis (s : Nat) : Collects g (· = .interval) g.par (· = .section) s (g.kids s .bis) :=
  h.collects_kids (by intro k; cases k <;> decide) (by rintro _ rfl; rfl) s

theorem ForestInv.collects_blocks (b : Nat) :
    Collects g (fun k => k = .code ∨ k = .data) g.par (· = .interval) b (g.kids b .blocks) :=
  h.collects_kids (by intro k; cases k <;> decide) (by rintro _ (rfl | rfl) <;> rfl) b

theorem ForestInv.collects_secBlocks (s : Nat) :
    Collects g (fun k => k = .code ∨ k = .data) (fun x => (g.par x).bind g.par) (· = .section) s (secBlocks g s) :=
  (h.collects_bis s).flatMap h.collects_blocks

theorem ForestInv.collects_secCode (s : Nat) :
    Collects g (· = .code) (fun x => (g.par x).bind g.par) (· = .section) s (secCode g s) :=
  (h.collects_secBlocks s).filter (· = .code) fun _ => .inl

theorem ForestInv.collects_secData (s : Nat) :
    Collects g (· = .data) (fun x => (g.par x).bind g.par) (· = .section) s (secData g s) :=
  (h.collects_secBlocks s).filter (· = .data) fun _ => .inr

theorem ForestInv.collects_modBis (m : Nat) :
    Collects g (· = .interval) (moduleOf g) (· = .module) m (modBis g m) :=
  ((h.collects_secs m).flatMap h.collects_bis).congr fun _ => moduleOf_interval

theorem ForestInv.collects_modBlocks (m : Nat) :
    Collects g (fun k => k = .code ∨ k = .data) (moduleOf g) (· = .module) m (modBlocks g m) :=
  ((h.collects_secs m).flatMap h.collects_secBlocks).congr fun _ => moduleOf_block

theorem ForestInv.collects_modCode (m : Nat) : Collects g (· = .code) (moduleOf g) (· = .module) m (modCode g m) :=
  ((h.collects_secs m).flatMap h.collects_secCode).congr fun _ hk => moduleOf_block (.inl hk)

theorem ForestInv.collects_modData (m : Nat) : Collects g (· = .data) (moduleOf g) (· = .module) m (modData g m) :=
  ((h.collects_secs m).flatMap h.collects_secData).congr fun _ hk => moduleOf_block (.inr hk)

theorem ForestInv.collects_modCfgNodes (m : Nat) :
    Collects g (fun k => k = .code ∨ k = .proxy) (moduleOf g) (· = .module) m (modCfgNodes g m) :=
  (h.collects_modCode m).append ((h.collects_proxies m).congr fun _ hk => moduleOf_mid (.inr (.inr hk)))
    (by rintro _ rfl; decide)

theorem ForestInv.collects_ir {f : Nat → List Nat} {K : Kind → Prop}
    (hf : ∀ m, Collects g K (moduleOf g) (· = .module) m (f m)) (hK : ∀ k, K k → k ≠ .ir ∧ k ≠ .module) (i : Nat) :
    Collects g K (irOf g) (· = .ir) i ((g.kids i .mods).flatMap f) :=
  ((h.collects_mods i).flatMap hf).congr fun _ hk => irOf_eq_moduleOf_bind (hK _ hk).1 (hK _ hk).2

theorem ForestInv.collects_irSecs (i : Nat) : Collects g (· = .section) (irOf g) (· = .ir) i (irSecs g i) :=
  h.collects_ir (fun m => (h.collects_secs m).congr fun _ hk => moduleOf_mid (.inl hk)) (by rintro _ rfl; decide) i

theorem ForestInv.collects_irSyms (i : Nat) : Collects g (· = .symbol) (irOf g) (· = .ir) i (irSyms g i) :=
  h.collects_ir (fun m => (h.collects_syms m).congr fun _ hk => moduleOf_mid (.inr (.inl hk)))
    (by rintro _ rfl; decide) i

theorem ForestInv.collects_irProxies (i : Nat) : Collects g (· = .proxy) (irOf g) (· = .ir) i (irProxies g i) :=
  h.collects_ir (fun m => (h.collects_proxies m).congr fun _ hk => moduleOf_mid (.inr (.inr hk)))
    (by rintro _ rfl; decide) i

theorem ForestInv.collects_irBis (i : Nat) : Collects g (· = .interval) (irOf g) (· = .ir) i (irBis g i) :=
  h.collects_ir h.collects_modBis (by rintro _ rfl; decide) i

theorem ForestInv.collects_irBlocks (i : Nat) :
    Collects g (fun k => k = .code ∨ k = .data) (irOf g) (· = .ir) i (irBlocks g i) :=
  h.collects_ir h.collects_modBlocks (by rintro _ (rfl | rfl) <;> decide) i

theorem ForestInv.collects_irCode (i : Nat) : Collects g (· = .code) (irOf g) (· = .ir) i (irCode g i) :=
  h.collects_ir h.collects_modCode (by rintro _ rfl; decide) i

theorem ForestInv.collects_irData (i : Nat) : Collects g (· = .data) (irOf g) (· = .ir) i (irData g i) :=
  h.collects_ir h.collects_modData (by rintro _ rfl; decide) i

theorem ForestInv.collects_irCfgNodes (i : Nat) :
    Collects g (fun k => k = .code ∨ k = .proxy) (irOf g) (· = .ir) i (irCfgNodes g i) :=
  h.collects_ir h.collects_modCfgNodes (by rintro _ (rfl | rfl) <;> decide) i

end

theorem irBis_eq (g : G) (i : Nat) : irBis g i = (irSecs g i).flatMap (g.kids · .bis) := by
  unfold irBis irSecs modBis
  rw [List.flatMap_assoc]

theorem modBlocks_eq (g : G) (m : Nat) : modBlocks g m = (modBis g m).flatMap (g.kids · .blocks) := by
  unfold modBlocks modBis secBlocks
  rw [List.flatMap_assoc]

theorem irBlocks_eq (g : G) (i : Nat) : irBlocks g i = (irBis g i).flatMap (g.kids · .blocks) := by
  unfold irBlocks irBis
  rw [List.flatMap_assoc]
  congr 1
  funext m
  exact modBlocks_eq g m

theorem reachable_eq (g : G) (i : Nat) :
    reachable g i = i :: g.kids i .mods ++ irProxies g i ++ irSecs g i ++ irSyms g i ++ irBis g i ++ irBlocks g i := by
  rw [irBlocks_eq, irBis_eq]
  rfl

/-- the scan holds, each once, the nodes of every kind whose `.ir` is `i`: its seven pieces hold
different kinds -/
theorem ForestInv.collects_reachable {g : G} (h : ForestInv g) {i : Nat} (hi : g.kind i = .ir) :
    Collects g (fun _ => True) (irOf g) (· = .ir) i (reachable g i) := by
  have h0 : Collects g (· = .ir) (irOf g) (· = .ir) i [i] :=
    { mem := fun x => List.mem_singleton.trans
        ⟨fun e => by subst e; exact ⟨hi, irOf_ir hi⟩, fun ⟨hk, hx⟩ => Option.some.inj ((irOf_ir hk).symm.trans hx)⟩
      nodup := List.pairwise_singleton _ i
      root := fun _ _ => hi }
  have hc := (((((h0.append ((h.collects_mods i).congr fun _ => irOf_module) (by rintro _ rfl; decide)).append
    (h.collects_irProxies i) (by rintro _ rfl; decide)).append
    (h.collects_irSecs i) (by rintro _ rfl; decide)).append
    (h.collects_irSyms i) (by rintro _ rfl; decide)).append
    (h.collects_irBis i) (by rintro _ rfl; decide)).append
    (h.collects_irBlocks i) (by rintro _ (rfl | rfl) <;> decide)
  rw [reachable_eq]
  exact { hc with mem := fun x => (hc.mem x).trans (and_congr_left' (iff_true_intro (by cases g.kind x <;> decide))) }

end Gtirb.Forest
