import GtirbProofs.Lemmas.Codec
/-! What comes back for what was stored.  `resolve lookup nodeUuid : Val → Val` puts at every UUID
position the node its 16 bytes name, if any, else the plain UUID, and rebuilds sets / mappings
by the decoder's own insertion.  `hasType'` is `hasType` without the conditions that tie a value
to the lookup table (known node, unknown plain UUID, distinct elements / keys).
`resolution`: every value of `hasType'` is encoded, and decoding the bytes - whatever follows
them - yields its resolution. -/
namespace Gtirb.Codec

def resolveBytes (lookup : Bytes → Option Nat) (u : Bytes) : Val :=
  match lookup u with
  | some id => .node id
  | none => .uuid u

mutual
def resolve (lookup : Bytes → Option Nat) (nu : Nat → Bytes) : Val → Val
  | .uuid u => resolveBytes lookup u
  | .node id => resolveBytes lookup (nu id)
  | .offset e d => .offset (resolve lookup nu e) d
  | .seq xs => .seq (resolveList lookup nu xs)
  | .set xs => .set (dedup (resolveList lookup nu xs))
  | .map ks vs =>
    .map (mapBuild (resolveList lookup nu ks) (resolveList lookup nu vs)).1
      (mapBuild (resolveList lookup nu ks) (resolveList lookup nu vs)).2
  | .tuple xs => .tuple (resolveList lookup nu xs)
  | .variant i v => .variant i (resolve lookup nu v)
  | .int n => .int n
  | .bool b => .bool b
  | .f32 b => .f32 b
  | .f64 b => .f64 b
  | .str s => .str s
def resolveList (lookup : Bytes → Option Nat) (nu : Nat → Bytes) : List Val → List Val
  | [] => []
  | x :: xs => resolve lookup nu x :: resolveList lookup nu xs
end

theorem resolveList_eq_map (lookup : Bytes → Option Nat) (nu : Nat → Bytes) (xs : List Val) :
    resolveList lookup nu xs = xs.map (resolve lookup nu) := by
  induction xs with
  | nil => rfl
  | cons x xs ih => simp [resolveList, ih]

def elemOk' (nu : Nat → Bytes) : Val → Bool
  | .uuid u => u.length == 16
  | .node id => (nu id).length == 16
  | _ => false

def leafHasType' (nu : Nat → Bytes) : Leaf → Val → Bool
  | .bool, .bool _ => true
  | .f32, .f32 bits => decide (bits < 2 ^ 32)
  | .f64, .f64 bits => decide (bits < 2 ^ 64)
  | .string, .str s => decide (s.toUTF8.toList.length < 2 ^ 64)
  | .uuid, v => elemOk' nu v
  | .offset, .offset e d => elemOk' nu e && decide (d < 2 ^ 64)
  | l, .int n => l.isInt && intInRange l.signed l.width n
  | _, _ => false

mutual
def hasType' (nu : Nat → Bytes) : Ty → Val → Bool
  | .leaf l, v => leafHasType' nu l v
  | .seq t, .seq xs => allMany (hasType' nu t) xs && decide (xs.length < 2 ^ 64)
  | .set t, .set xs => allMany (hasType' nu t) xs && decide (xs.length < 2 ^ 64)
  | .map kt vt, .map ks vs =>
    allMany (hasType' nu kt) ks && allMany (hasType' nu vt) vs &&
      ks.length == vs.length && decide (ks.length < 2 ^ 64)
  | .tuple ts, .tuple xs => hasTypeTuple' nu ts xs
  | .variant ts, .variant i v => decide (i < 2 ^ 64) && hasTypeNth' nu ts i v
  | _, _ => false
def hasTypeTuple' (nu : Nat → Bytes) : List Ty → List Val → Bool
  | [], [] => true
  | t :: ts, x :: xs => hasType' nu t x && hasTypeTuple' nu ts xs
  | _, _ => false
def hasTypeNth' (nu : Nat → Bytes) : List Ty → Nat → Val → Bool
  | [], _, _ => false
  | t :: _, 0, v => hasType' nu t v
  | _ :: ts, i + 1, v => hasTypeNth' nu ts i v
end

theorem decodeElem_append (lookup : Bytes → Option Nat) (u rest : Bytes) (hu : u.length = 16) :
    decodeElem lookup (u ++ rest) = .ok (resolveBytes lookup u, rest) := by
  simp only [decodeElem, splitAt?_append hu, resolveBytes]
  cases lookup u <;> rfl

theorem elem_resolution (lookup : Bytes → Option Nat) {nu : Nat → Bytes} {e : Val}
    (h : elemOk' nu e = true) :
    RT' (resolve lookup nu) (encodeElem nu) (decodeElem lookup) e := by
  revert h
  fun_cases elemOk' nu e <;> intro h
  case case1 u =>
    have h : u.length = 16 := by simpa using h
    exact ⟨u, by simp [encodeElem, h], fun rest => by
      rw [decodeElem_append lookup u rest h, resolve]⟩
  case case2 id =>
    have h : (nu id).length = 16 := by simpa using h
    exact ⟨nu id, by simp [encodeElem, h], fun rest => by
      rw [decodeElem_append lookup _ rest h, resolve]⟩
  case case3 => cases h

/-- along the cases of `leafHasType'`, which are those of `encodeLeaf` and `decodeLeaf` -/
theorem leaf_resolution (lookup : Bytes → Option Nat) {nu : Nat → Bytes} {l : Leaf} {v : Val}
    (h : leafHasType' nu l v = true) :
    RT' (resolve lookup nu) (encodeLeaf nu l) (decodeLeaf lookup l) v := by
  revert h
  fun_cases leafHasType' nu l v <;> intro h
  case case1 b =>
    refine ⟨[if b then 1 else 0], rfl, fun rest => ?_⟩
    cases b <;> simp [decodeLeaf, resolve]
  case case2 bits =>
    refine ⟨leBytes 4 bits, by simpa [encodeLeaf] using h, fun rest => ?_⟩
    simp [decodeLeaf, resolve, splitAt?_leBytes,
      leNat_leBytes_of_lt 4 bits (by simpa using h)]
  case case3 bits =>
    refine ⟨leBytes 8 bits, by simpa [encodeLeaf] using h, fun rest => ?_⟩
    simp [decodeLeaf, resolve, splitAt?_leBytes,
      leNat_leBytes_of_lt 8 bits (by simpa using h)]
  case case4 s =>
    have hs : s.toUTF8.toList.length < 2 ^ 64 := of_decide_eq_true h
    refine ⟨u64 s.toUTF8.toList.length ++ s.toUTF8.toList, ?_, fun rest => ?_⟩
    · simp only [encodeLeaf, hs, if_true]
    · simp only [decodeLeaf, resolve, List.append_assoc, splitAt?_u64, leNat_u64 hs,
        splitAt?_append (a := s.toUTF8.toList) rfl, string_utf8_roundtrip]
  case case5 =>
    exact elem_resolution lookup h
  case case6 e d =>
    simp only [Bool.and_eq_true, decide_eq_true_eq] at h
    obtain ⟨a, ha, hd⟩ := elem_resolution lookup h.1
    refine ⟨a ++ u64 d, by simp [encodeLeaf, ha, h.2], fun rest => ?_⟩
    simp [decodeLeaf, resolve, List.append_assoc, hd, splitAt?_u64, leNat_u64 h.2]
  case case7 n _ =>
    simp only [Bool.and_eq_true] at h
    exact leafInt_roundtrip lookup nu l n h.1 h.2
  case case8 => cases h

section
variable (lookup : Bytes → Option Nat) (nu : Nat → Bytes)

mutual
theorem resolution : ∀ (t : Ty) (v : Val), hasType' nu t v = true →
    RT' (resolve lookup nu) (encode nu t) (decode lookup t) v
  | .leaf l, v, h => leaf_resolution lookup h
  | .seq t, v, h => by
    cases v <;> simp [hasType'] at h
    case seq xs =>
      obtain ⟨bs, hb, hd⟩ := many_roundtrip (resolution t) xs h.1
      refine ⟨u64 xs.length ++ bs, by simp [encode, hb, h.2], fun rest => ?_⟩
      simp [decode, resolve, resolveList_eq_map, List.append_assoc, splitAt?_u64,
        leNat_u64 h.2, hd]
  | .set t, v, h => by
    cases v <;> simp [hasType'] at h
    case set xs =>
      obtain ⟨bs, hb, hd⟩ := many_roundtrip (resolution t) xs h.1
      refine ⟨u64 xs.length ++ bs, by simp [encode, hb, h.2], fun rest => ?_⟩
      simp [decode, resolve, resolveList_eq_map, List.append_assoc, splitAt?_u64,
        leNat_u64 h.2, hd]
  | .map kt vt, v, h => by
    cases v <;> simp [hasType'] at h
    case map ks vs =>
      obtain ⟨⟨⟨hk, hv⟩, hl⟩, hn⟩ := h
      obtain ⟨bs, hb, hd'⟩ := manyPairs_roundtrip (resolution kt) (resolution vt) ks vs hl hk hv
      refine ⟨u64 ks.length ++ bs, by simp [encode, hb, hn], fun rest => ?_⟩
      simp [decode, resolve, resolveList_eq_map, List.append_assoc, splitAt?_u64,
        leNat_u64 hn, hd']
  | .tuple ts, v, h => by
    cases v <;> simp [hasType'] at h
    case tuple xs =>
      obtain ⟨bs, hb, hd⟩ := resolutionTuple ts xs h
      exact ⟨bs, hb, fun rest => by simp [decode, resolve, hd]⟩
  | .variant ts, v, h => by
    cases v <;> simp [hasType'] at h
    case variant i x =>
      obtain ⟨bs, hb, hd⟩ := resolutionNth ts i x h.2
      refine ⟨u64 i ++ bs, by simp [encode, hb, h.1], fun rest => ?_⟩
      simp [decode, resolve, List.append_assoc, splitAt?_u64, leNat_u64 h.1, hd]
  | .unknown _ _, v, h => nomatch v, h
  | .badArity _ _, v, h => nomatch v, h
theorem resolutionTuple : ∀ (ts : List Ty) (xs : List Val), hasTypeTuple' nu ts xs = true →
    ∃ bs, encodeTuple nu ts xs = some bs ∧
      ∀ rest, decodeTuple lookup ts (bs ++ rest) = .ok (resolveList lookup nu xs, rest)
  | [], [], _ => ⟨[], rfl, fun _ => rfl⟩
  | [], _ :: _, h => nomatch h
  | _ :: _, [], h => nomatch h
  | t :: ts, x :: xs, h => by
    simp only [hasTypeTuple', Bool.and_eq_true] at h
    obtain ⟨a, ha, hda⟩ := resolution t x h.1
    obtain ⟨b, hb, hdb⟩ := resolutionTuple ts xs h.2
    refine ⟨a ++ b, by simp [encodeTuple, ha, hb], fun rest => ?_⟩
    simp [decodeTuple, resolveList, List.append_assoc, hda, hdb]
theorem resolutionNth : ∀ (ts : List Ty) (i : Nat) (v : Val), hasTypeNth' nu ts i v = true →
    ∃ bs, encodeNth nu ts i v = some bs ∧
      ∀ rest, decodeNth lookup ts i (bs ++ rest) = .ok (resolve lookup nu v, rest)
  | [], _, _, h => nomatch h
  | t :: _, 0, v, h => resolution t v h
  | _ :: ts, i + 1, v, h => resolutionNth ts i v h
end
end

/-! `canon` involves no bytes: the extra conditions of `hasType` (a node the table knows, a plain UUID it
does not know, distinct elements / keys) are what makes `resolveBytes`, `dedup` and `mapBuild` the
identity. -/

section
variable (lookup : Bytes → Option Nat) (nu : Nat → Bytes)

theorem elemOk_canon {e : Val} (h : elemOk lookup nu e = true) :
    elemOk' nu e = true ∧ resolve lookup nu e = e := by
  cases e <;> simp [elemOk] at h
  case uuid u => simp [elemOk', resolve, resolveBytes, h.1, h.2]
  case node id => simp [elemOk', resolve, resolveBytes, h.1, h.2]

/-- along the cases of `leafHasType`: outside UUID positions the two predicates have the same
clause and `resolve` does nothing -/
theorem leaf_canon {l : Leaf} {v : Val} (h : leafHasType lookup nu l v = true) :
    leafHasType' nu l v = true ∧ resolve lookup nu v = v := by
  revert h
  fun_cases leafHasType lookup nu l v <;> intro h
  case case5 => simpa [leafHasType'] using elemOk_canon lookup nu h
  case case6 e d =>
    simp only [Bool.and_eq_true] at h
    simp [leafHasType', resolve, elemOk_canon lookup nu h.1, h.2]
  case case8 => cases h
  all_goals simp_all [leafHasType', resolve]

theorem allMany_canon {p p' : Val → Bool} {r : Val → Val}
    (ih : ∀ x, p x = true → p' x = true ∧ r x = x) :
    ∀ xs : List Val, allMany p xs = true → allMany p' xs = true ∧ xs.map r = xs
  | [], _ => ⟨rfl, rfl⟩
  | x :: xs, h => by
    simp only [allMany, Bool.and_eq_true] at h
    simp [allMany, ih x h.1, allMany_canon ih xs h.2]

mutual
theorem canon : ∀ (t : Ty) (v : Val), hasType lookup nu t v = true →
    hasType' nu t v = true ∧ resolve lookup nu v = v
  | .leaf l, v, h => by
    rw [hasType'.eq_def]
    exact leaf_canon lookup nu h
  | .seq t, v, h => by
    cases v <;> simp [hasType] at h
    case seq xs =>
      obtain ⟨h1, h2⟩ := allMany_canon (canon t) xs h.1
      simp [hasType', resolve, resolveList_eq_map, h1, h2, h.2]
  | .set t, v, h => by
    cases v <;> simp [hasType] at h
    case set xs =>
      obtain ⟨h1, h2⟩ := allMany_canon (canon t) xs h.1.1
      simp [hasType', resolve, resolveList_eq_map, h1, h2, h.1.2, dedup_of_pairwiseDistinct xs h.2]
  | .map kt vt, v, h => by
    cases v <;> simp [hasType] at h
    case map ks vs =>
      obtain ⟨⟨⟨⟨hk, hv⟩, hl⟩, hn⟩, hd⟩ := h
      obtain ⟨h1, h2⟩ := allMany_canon (canon kt) ks hk
      obtain ⟨h3, h4⟩ := allMany_canon (canon vt) vs hv
      simp [hasType', resolve, resolveList_eq_map, h1, h2, h3, h4, hl, hl ▸ hn,
        mapBuild_of_pairwiseDistinct ks vs hl hd]
  | .tuple ts, v, h => by
    cases v <;> simp [hasType] at h
    case tuple xs =>
      obtain ⟨h1, h2⟩ := canonTuple ts xs h
      simp [hasType', resolve, h1, h2]
  | .variant ts, v, h => by
    cases v <;> simp [hasType] at h
    case variant i x =>
      obtain ⟨h1, h2⟩ := canonNth ts i x h.2
      simp [hasType', resolve, h1, h2, h.1]
  | .unknown _ _, v, h => nomatch v, h
  | .badArity _ _, v, h => nomatch v, h
theorem canonTuple : ∀ (ts : List Ty) (xs : List Val), hasTypeTuple lookup nu ts xs = true →
    hasTypeTuple' nu ts xs = true ∧ resolveList lookup nu xs = xs
  | [], [], _ => ⟨rfl, rfl⟩
  | [], _ :: _, h => nomatch h
  | _ :: _, [], h => nomatch h
  | t :: ts, x :: xs, h => by
    simp only [hasTypeTuple, Bool.and_eq_true] at h
    simp [hasTypeTuple', resolveList, canon t x h.1, canonTuple ts xs h.2]
theorem canonNth : ∀ (ts : List Ty) (i : Nat) (v : Val), hasTypeNth lookup nu ts i v = true →
    hasTypeNth' nu ts i v = true ∧ resolve lookup nu v = v
  | [], _, _, h => nomatch h
  | t :: _, 0, v, h => canon t v h
  | _ :: ts, i + 1, v, h => canonNth ts i v h
end

theorem roundtrip : ∀ (t : Ty) (v : Val), hasType lookup nu t v = true →
    RT (encode nu t) (decode lookup t) v := fun t v h => by
  obtain ⟨h1, h2⟩ := canon lookup nu t v h
  have := resolution lookup nu t v h1
  rwa [RT', h2] at this

theorem roundtripTuple : ∀ (ts : List Ty) (xs : List Val), hasTypeTuple lookup nu ts xs = true →
    ∃ bs, encodeTuple nu ts xs = some bs ∧
      ∀ rest, decodeTuple lookup ts (bs ++ rest) = .ok (xs, rest) := fun ts xs h => by
  obtain ⟨h1, h2⟩ := canonTuple lookup nu ts xs h
  have := resolutionTuple lookup nu ts xs h1
  rwa [h2] at this

theorem roundtripNth : ∀ (ts : List Ty) (i : Nat) (v : Val), hasTypeNth lookup nu ts i v = true →
    ∃ bs, encodeNth nu ts i v = some bs ∧
      ∀ rest, decodeNth lookup ts i (bs ++ rest) = .ok (v, rest) := fun ts i v h => by
  obtain ⟨h1, h2⟩ := canonNth lookup nu ts i v h
  have := resolutionNth lookup nu ts i v h1
  rwa [h2] at this
end

theorem decode_encode {lookup : Bytes → Option Nat} {nu : Nat → Bytes} {t : Ty} {v : Val} {bs : Bytes}
    (h : hasType lookup nu t v = true) (e : encode nu t v = some bs) (rest : Bytes) :
    decode lookup t (bs ++ rest) = .ok (v, rest) := by
  obtain ⟨b, hb, hd⟩ := roundtrip lookup nu t v h
  rw [e] at hb
  cases hb
  exact hd rest

end Gtirb.Codec
