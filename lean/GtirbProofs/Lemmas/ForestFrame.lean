import GtirbProofs.Lemmas.ForestDefs
import GtirbProofs.Lemmas.Touched
import GtirbProofs.Lemmas.TableFolds
/-! Frame lemmas for model C (the object graph).

* `core g`: the forest part of a state (all fields but the UUID table and the symbol indexes). Every
  composite operation of the model is characterised by a *pure* function on cores
  (`detach`, `detachOld`, `attach`, ...), see the `*_core` theorems.
* `Ends r P E`: a partial operation ends in a state with `P` or raises an exception with `E`;
  `OrKeyError r P` is the case where the only exception is the `KeyError` of the UUID table.
What the public operations do with these primitives is in `StepRule`. -/
namespace Gtirb.Forest

section ChildOK
variable {g : G} {p v : Nat} {s : Slot} (h : ChildOK g p s v)
include h
theorem ChildOK.p_lt : p < g.n := h.1
theorem ChildOK.v_lt : v < g.n := h.2.1
theorem ChildOK.slot : slotOf (g.kind v) = some s := h.2.2.1
theorem ChildOK.parent_kind : parentKind (g.kind v) = some (g.kind p) := h.2.2.2
end ChildOK

theorem ForestInv.par_of_mem {g : G} (h : ForestInv g) {c p : Nat} {s : Slot} (hm : c ∈ g.kids p s) :
    g.par c = some p := ((h.mem_iff c p s).1 hm).1

theorem ForestInv.slot_of_mem {g : G} (h : ForestInv g) {c p : Nat} {s : Slot} (hm : c ∈ g.kids p s) :
    slotOf (g.kind c) = some s := ((h.mem_iff c p s).1 hm).2

theorem foldE_nil (f : G → Nat → Except Exc G) (g : G) : foldE f [] g = .ok g := rfl

theorem foldE_cons_ok {f : G → Nat → Except Exc G} {x : Nat} {xs : List Nat} {g g' : G}
    (h : foldE f (x :: xs) g = .ok g') : ∃ g1, f g x = .ok g1 ∧ foldE f xs g1 = .ok g' := by
  simp only [foldE] at h
  split at h
  · exact ⟨_, by assumption, h⟩
  · cases h

theorem bindE_ok {x : Except Exc G} {f : G → Except Exc G} {g' : G} (h : bindE x f = .ok g') :
    ∃ g2, x = .ok g2 ∧ f g2 = .ok g' := by
  cases x with
  | error e => simp [bindE] at h
  | ok g2 => exact ⟨g2, rfl, h⟩

theorem sameMembers_mem {a b : List Nat} (h : sameMembers a b = true) (x : Nat) : x ∈ a ↔ x ∈ b := by
  unfold sameMembers at h
  simp only [Bool.and_eq_true, List.all_eq_true, decide_eq_true_eq] at h
  exact ⟨h.1.1 x, h.1.2 x⟩

def Ends {ε α : Type} (r : Except ε α) (P : α → Prop) (E : ε → Prop) : Prop :=
  match r with
  | .ok g' => P g'
  | .error e => E e

/-- the result of a partial operation inside the model: it ends in a state with `P`, or raises the `KeyError`
of the UUID table (excluded by C03), never one of the built-in's exceptions -/
abbrev OrKeyError (r : Except Exc G) (P : G → Prop) : Prop := Ends r P (· = .cacheKeyError)

section Ends
variable {ε α : Type} {r : Except ε α} {P Q : α → Prop} {E F : ε → Prop} {g g' : α} {e : ε}

theorem Ends.of_ok (h : Ends r P E) (hr : r = .ok g') : P g' := by
  subst hr; exact h

theorem Ends.of_error (h : Ends r P E) (hr : r = .error e) : E e := by
  subst hr; exact h

theorem Ends.of_cases (hok : ∀ g', r = .ok g' → P g') (herr : ∀ e, r = .error e → E e) : Ends r P E := by
  cases r with
  | ok g' => exact hok g' rfl
  | error e => exact herr e rfl

theorem Ends.of_exists (h : ∃ g', r = .ok g' ∧ P g') : Ends r P E := by
  obtain ⟨g', rfl, hP⟩ := h
  exact hP

theorem Ends.of_eq_error (hr : r = .error e) (h : E e) : Ends r P E := by
  subst hr; exact h

theorem Ends.guard {c : Prop} [Decidable c] (he : E e) (h : c → Ends r P E) :
    Ends (if c then r else .error e) P E := by
  split
  · exact h ‹_›
  · exact he

theorem Ends.exists (h : Ends r P fun _ => False) : ∃ g', r = .ok g' ∧ P g' := by
  cases r with
  | ok g' => exact ⟨g', rfl, h⟩
  | error e => exact h.elim

theorem Ends.of_success (hok : ∀ g', r = .ok g' → P g') : Ends r P (fun _ => True) :=
  .of_cases hok fun _ _ => trivial

theorem Ends.mono (h : Ends r P E) (hPQ : ∀ g', P g' → Q g') : Ends r Q E := by
  cases r with
  | ok g' => exact hPQ g' h
  | error e => exact h

theorem Ends.weaken (h : Ends r P E) (hEF : ∀ e, E e → F e) : Ends r P F := by
  cases r with
  | ok g' => exact h
  | error e => exact hEF e h

theorem Ends.inl (h : Ends r P E) : Ends r P (fun e => E e ∨ F e) := h.weaken fun _ => .inl

end Ends

section
variable {r : Except Exc G} {P Q : G → Prop} {E : Exc → Prop}

theorem Ends.bind {f : G → Except Exc G} :
    Ends r P E → (∀ g1, P g1 → Ends (f g1) Q E) → Ends (match r with | .ok g1 => f g1 | .error e => .error e) Q E := by
  intro h hf
  cases r with
  | ok g1 => exact hf g1 h
  | error e => exact h

/-- the same for a `match` written with the exception first -/
theorem Ends.bind' {f : G → Except Exc G} :
    Ends r P E → (∀ g1, P g1 → Ends (f g1) Q E) → Ends (match r with | .error e => .error e | .ok g1 => f g1) Q E := by
  intro h hf
  cases r with
  | ok g1 => exact hf g1 h
  | error e => exact h

/-- a loop; the invariant may mention what is still to come -/
theorem ends_foldE_list {f : G → Nat → Except Exc G} (J : List Nat → G → Prop)
    (hf : ∀ x xs g1, J (x :: xs) g1 → Ends (f g1 x) (J xs) E) :
    ∀ (l : List Nat) (g : G), J l g → Ends (foldE f l g) (J []) E
  | [], _, h => h
  | x :: xs, g, h => (hf x xs g h).bind fun g1 h1 => ends_foldE_list J hf xs g1 h1

theorem ends_foldE {f : G → Nat → Except Exc G} {I : G → Prop} :
    ∀ (l : List Nat) (g : G), (∀ g1, ∀ x ∈ l, I g1 → Ends (f g1 x) I E) → I g → Ends (foldE f l g) I E
  | [], _, _, h => h
  | x :: xs, g, hf, h => (hf g x List.mem_cons_self h).bind fun g1 h1 =>
    ends_foldE xs g1 (fun g2 y hy => hf g2 y (List.mem_cons_of_mem _ hy)) h1

end

theorem foldE_inv_list {f : G → Nat → Except Exc G} (I : List Nat → G → Prop)
    (hstep : ∀ g x xs g', I (x :: xs) g → f g x = .ok g' → I xs g') :
    ∀ (l : List Nat) (g g' : G), I l g → foldE f l g = .ok g' → I [] g' :=
  fun l g _ hI hf =>
    (ends_foldE_list (E := fun _ => True) I (fun x xs g1 h1 => .of_success (hstep g1 x xs · h1)) l g hI).of_ok hf

theorem foldE_inv {f : G → Nat → Except Exc G} (I : G → Prop) (l : List Nat)
    (hstep : ∀ g x g', x ∈ l → I g → f g x = .ok g' → I g') :
    ∀ (g g' : G), I g → foldE f l g = .ok g' → I g' :=
  fun g _ hI hf =>
    (ends_foldE (E := fun _ => True) l g (fun g1 x hx h1 => .of_success (hstep g1 x · hx h1)) hI).of_ok hf

def OnlyCache (g g' : G) : Prop := g' = { g with cache := g'.cache }

namespace OnlyCache
theorem refl (g : G) : OnlyCache g g := rfl
theorem trans {a b c : G} (h1 : OnlyCache a b) (h2 : OnlyCache b c) : OnlyCache a c := by
  unfold OnlyCache at *; rw [h2, h1]
variable {g g' : G} (h : OnlyCache g g')
include h
theorem n : g'.n = g.n := by rw [h]
theorem kind : g'.kind = g.kind := by rw [h]
theorem uuid : g'.uuid = g.uuid := by rw [h]
theorem par : g'.par = g.par := by rw [h]
theorem kids : g'.kids = g.kids := by rw [h]
theorem name : g'.name = g.name := by rw [h]
theorem payload : g'.payload = g.payload := by rw [h]
theorem nameIdx : g'.nameIdx = g.nameIdx := by rw [h]
theorem refIdx : g'.refIdx = g.refIdx := by rw [h]
end OnlyCache

theorem CacheOnly.onlyCache {g g' : G} (h : CacheOnly g g') : OnlyCache g g' := by
  obtain ⟨h1, h2, h3, h4, h5, h6, h7, h8, h9⟩ := h
  cases g; cases g'
  simp only at h1 h2 h3 h4 h5 h6 h7 h8 h9
  subst h1 h2 h3 h4 h5 h6 h7 h8 h9
  rfl

theorem onlyCache_cacheAddInterval (g : G) (i v : Nat) : OnlyCache g (cacheAddInterval g i v) :=
  (cache_setAll_only i (cache_walkI g.kids v) g).onlyCache

theorem onlyCache_cacheAdd (g : G) (i v : Nat) : OnlyCache g (cacheAdd g i v) :=
  (cache_cacheAdd_only g i v).onlyCache

theorem orKeyError_delAll (i : Nat) : ∀ (L : List Nat) (g : G), OrKeyError (cache_delAll g i L) (CacheOnly g)
  | [], g => .of_cases (fun g' h => by cases h; exact CacheOnly.rfl' g) (fun e h => by cases h)
  | x :: L, g => by
    rw [cache_delAll_cons]
    unfold cacheDel
    cases h : g.cache i (g.uuid x) with
    | none => exact .of_cases (fun g' h => by cases h) (fun e h => by cases h; rfl)
    | some w =>
      have h0 : CacheOnly g { g with cache := fun i' u' => if i' = i ∧ u' = g.uuid x then none else g.cache i' u' } :=
        ⟨rfl, rfl, rfl, rfl, rfl, rfl, rfl, rfl, rfl⟩
      exact (orKeyError_delAll i L _).mono fun g' h' => h0.trans h'

theorem orKeyError_cacheRemove (g : G) (i v : Nat) : OrKeyError (cacheRemove g i v) (OnlyCache g) := by
  rw [cache_cacheRemove_eq]
  exact (orKeyError_delAll i _ g).mono fun _ h => h.onlyCache

def OnlyIdx (g g' : G) : Prop := g' = { g with nameIdx := g'.nameIdx, refIdx := g'.refIdx }

namespace OnlyIdx
theorem refl (g : G) : OnlyIdx g g := rfl
theorem trans {a b c : G} (h1 : OnlyIdx a b) (h2 : OnlyIdx b c) : OnlyIdx a c := by
  unfold OnlyIdx at *; rw [h2, h1]
variable {g g' : G} (h : OnlyIdx g g')
include h
theorem n : g'.n = g.n := by rw [h]
theorem kind : g'.kind = g.kind := by rw [h]
theorem uuid : g'.uuid = g.uuid := by rw [h]
theorem par : g'.par = g.par := by rw [h]
theorem kids : g'.kids = g.kids := by rw [h]
theorem name : g'.name = g.name := by rw [h]
theorem payload : g'.payload = g.payload := by rw [h]
theorem cache : g'.cache = g.cache := by rw [h]
end OnlyIdx

theorem onlyIdx_symIndexAdd (g : G) (m v : Nat) : OnlyIdx g (symIndexAdd g m v) := by
  unfold symIndexAdd
  split
  · split <;> rfl
  · rfl

theorem onlyIdx_symIndexDiscard (g : G) (m v : Nat) : OnlyIdx g (symIndexDiscard g m v) := by
  unfold symIndexDiscard
  split
  · split <;> rfl
  · rfl

def core (g : G) : G :=
  { n := g.n, kind := g.kind, uuid := g.uuid, par := g.par, kids := g.kids, name := g.name, payload := g.payload }

@[simp] theorem core_n (g : G) : (core g).n = g.n := rfl
@[simp] theorem core_kind (g : G) : (core g).kind = g.kind := rfl
@[simp] theorem core_uuid (g : G) : (core g).uuid = g.uuid := rfl
@[simp] theorem core_par (g : G) : (core g).par = g.par := rfl
@[simp] theorem core_kids (g : G) : (core g).kids = g.kids := rfl
@[simp] theorem core_name (g : G) : (core g).name = g.name := rfl
@[simp] theorem core_payload (g : G) : (core g).payload = g.payload := rfl
@[simp] theorem core_core (g : G) : core (core g) = core g := rfl
@[simp] theorem core_empty : core ({} : G) = {} := rfl

theorem OnlyCache.core {g g' : G} (h : OnlyCache g g') : core g' = core g := by rw [h]; rfl
theorem OnlyIdx.core {g g' : G} (h : OnlyIdx g g') : core g' = core g := by rw [h]; rfl

theorem core_eq_n {g g' : G} (h : core g' = core g) : g'.n = g.n := by
  have := congrArg G.n h; exact this
theorem core_eq_kind {g g' : G} (h : core g' = core g) : g'.kind = g.kind := by
  have := congrArg G.kind h; exact this
theorem core_eq_uuid {g g' : G} (h : core g' = core g) : g'.uuid = g.uuid := by
  have := congrArg G.uuid h; exact this
theorem core_eq_par {g g' : G} (h : core g' = core g) : g'.par = g.par := by
  have := congrArg G.par h; exact this
theorem core_eq_name {g g' : G} (h : core g' = core g) : g'.name = g.name := by
  have := congrArg G.name h; exact this
theorem core_eq_payload {g g' : G} (h : core g' = core g) : g'.payload = g.payload := by
  have := congrArg G.payload h; exact this

theorem kids_of_core {g' X : G} (h : core g' = X) : g'.kids = X.kids := by subst h; rfl
theorem par_of_core {g' X : G} (h : core g' = X) : g'.par = X.par := by subst h; rfl

@[simp] theorem irOf_core (g : G) : irOf (core g) = irOf g := rfl
@[simp] theorem moduleOf_core (g : G) : moduleOf (core g) = moduleOf g := rfl

theorem moduleOf_congr {g g' : G} (h : core g' = core g) : moduleOf g' = moduleOf g := by
  rw [← moduleOf_core g', h, moduleOf_core]

@[simp] theorem setPar_n (g : G) (v : Nat) (p : Option Nat) : (setPar g v p).n = g.n := rfl
@[simp] theorem setPar_kind (g : G) (v : Nat) (p : Option Nat) : (setPar g v p).kind = g.kind := rfl
@[simp] theorem setPar_uuid (g : G) (v : Nat) (p : Option Nat) : (setPar g v p).uuid = g.uuid := rfl
@[simp] theorem setPar_par (g : G) (v : Nat) (p : Option Nat) (x : Nat) :
    (setPar g v p).par x = if x = v then p else g.par x := rfl
@[simp] theorem setPar_kids (g : G) (v : Nat) (p : Option Nat) : (setPar g v p).kids = g.kids := rfl
@[simp] theorem setPar_cache (g : G) (v : Nat) (p : Option Nat) : (setPar g v p).cache = g.cache := rfl
@[simp] theorem setPar_name (g : G) (v : Nat) (p : Option Nat) : (setPar g v p).name = g.name := rfl
@[simp] theorem setPar_payload (g : G) (v : Nat) (p : Option Nat) : (setPar g v p).payload = g.payload := rfl
@[simp] theorem setPar_nameIdx (g : G) (v : Nat) (p : Option Nat) : (setPar g v p).nameIdx = g.nameIdx := rfl
@[simp] theorem setPar_refIdx (g : G) (v : Nat) (p : Option Nat) : (setPar g v p).refIdx = g.refIdx := rfl

@[simp] theorem kidsSet_n (g : G) (p : Nat) (s : Slot) (l : List Nat) : (kidsSet g p s l).n = g.n := rfl
@[simp] theorem kidsSet_kind (g : G) (p : Nat) (s : Slot) (l : List Nat) : (kidsSet g p s l).kind = g.kind := rfl
@[simp] theorem kidsSet_uuid (g : G) (p : Nat) (s : Slot) (l : List Nat) : (kidsSet g p s l).uuid = g.uuid := rfl
@[simp] theorem kidsSet_par (g : G) (p : Nat) (s : Slot) (l : List Nat) : (kidsSet g p s l).par = g.par := rfl
@[simp] theorem kidsSet_kids (g : G) (p : Nat) (s : Slot) (l : List Nat) (p' : Nat) (s' : Slot) :
    (kidsSet g p s l).kids p' s' = if p' = p ∧ s' = s then l else g.kids p' s' := rfl
@[simp] theorem kidsSet_cache (g : G) (p : Nat) (s : Slot) (l : List Nat) : (kidsSet g p s l).cache = g.cache := rfl
@[simp] theorem kidsSet_name (g : G) (p : Nat) (s : Slot) (l : List Nat) : (kidsSet g p s l).name = g.name := rfl
@[simp] theorem kidsSet_payload (g : G) (p : Nat) (s : Slot) (l : List Nat) : (kidsSet g p s l).payload = g.payload := rfl
@[simp] theorem kidsSet_nameIdx (g : G) (p : Nat) (s : Slot) (l : List Nat) : (kidsSet g p s l).nameIdx = g.nameIdx := rfl
@[simp] theorem kidsSet_refIdx (g : G) (p : Nat) (s : Slot) (l : List Nat) : (kidsSet g p s l).refIdx = g.refIdx := rfl

theorem kidsErase_eq_kidsSet (g : G) (p : Nat) (s : Slot) (v : Nat) :
    kidsErase g p s v = kidsSet g p s ((g.kids p s).erase v) := rfl
theorem kidsInsert_eq_kidsSet (g : G) (p : Nat) (s : Slot) (v : Nat) :
    kidsInsert g p s v = kidsSet g p s (setInsertNat (g.kids p s) v) := rfl

@[simp] theorem kidsErase_n (g : G) (p : Nat) (s : Slot) (v : Nat) : (kidsErase g p s v).n = g.n := rfl
@[simp] theorem kidsErase_kind (g : G) (p : Nat) (s : Slot) (v : Nat) : (kidsErase g p s v).kind = g.kind := rfl
@[simp] theorem kidsErase_uuid (g : G) (p : Nat) (s : Slot) (v : Nat) : (kidsErase g p s v).uuid = g.uuid := rfl
@[simp] theorem kidsErase_par (g : G) (p : Nat) (s : Slot) (v : Nat) : (kidsErase g p s v).par = g.par := rfl
@[simp] theorem kidsErase_kids (g : G) (p : Nat) (s : Slot) (v : Nat) (p' : Nat) (s' : Slot) :
    (kidsErase g p s v).kids p' s' = if p' = p ∧ s' = s then (g.kids p s).erase v else g.kids p' s' := rfl
@[simp] theorem kidsErase_cache (g : G) (p : Nat) (s : Slot) (v : Nat) : (kidsErase g p s v).cache = g.cache := rfl
@[simp] theorem kidsErase_name (g : G) (p : Nat) (s : Slot) (v : Nat) : (kidsErase g p s v).name = g.name := rfl
@[simp] theorem kidsErase_payload (g : G) (p : Nat) (s : Slot) (v : Nat) : (kidsErase g p s v).payload = g.payload := rfl
@[simp] theorem kidsErase_nameIdx (g : G) (p : Nat) (s : Slot) (v : Nat) : (kidsErase g p s v).nameIdx = g.nameIdx := rfl
@[simp] theorem kidsErase_refIdx (g : G) (p : Nat) (s : Slot) (v : Nat) : (kidsErase g p s v).refIdx = g.refIdx := rfl

@[simp] theorem kidsInsert_n (g : G) (p : Nat) (s : Slot) (v : Nat) : (kidsInsert g p s v).n = g.n := rfl
@[simp] theorem kidsInsert_kind (g : G) (p : Nat) (s : Slot) (v : Nat) : (kidsInsert g p s v).kind = g.kind := rfl
@[simp] theorem kidsInsert_uuid (g : G) (p : Nat) (s : Slot) (v : Nat) : (kidsInsert g p s v).uuid = g.uuid := rfl
@[simp] theorem kidsInsert_par (g : G) (p : Nat) (s : Slot) (v : Nat) : (kidsInsert g p s v).par = g.par := rfl
@[simp] theorem kidsInsert_kids (g : G) (p : Nat) (s : Slot) (v : Nat) (p' : Nat) (s' : Slot) :
    (kidsInsert g p s v).kids p' s' = if p' = p ∧ s' = s then setInsertNat (g.kids p s) v else g.kids p' s' := rfl
@[simp] theorem kidsInsert_cache (g : G) (p : Nat) (s : Slot) (v : Nat) : (kidsInsert g p s v).cache = g.cache := rfl
@[simp] theorem kidsInsert_name (g : G) (p : Nat) (s : Slot) (v : Nat) : (kidsInsert g p s v).name = g.name := rfl
@[simp] theorem kidsInsert_payload (g : G) (p : Nat) (s : Slot) (v : Nat) : (kidsInsert g p s v).payload = g.payload := rfl
@[simp] theorem kidsInsert_nameIdx (g : G) (p : Nat) (s : Slot) (v : Nat) : (kidsInsert g p s v).nameIdx = g.nameIdx := rfl
@[simp] theorem kidsInsert_refIdx (g : G) (p : Nat) (s : Slot) (v : Nat) : (kidsInsert g p s v).refIdx = g.refIdx := rfl

@[simp] theorem cacheSet_cache (g : G) (i u v i' u' : Nat) :
    (cacheSet g i u v).cache i' u' = if i' = i ∧ u' = u then some v else g.cache i' u' := rfl

theorem mem_setInsertNat (l : List Nat) (v x : Nat) : x ∈ setInsertNat l v ↔ x ∈ l ∨ x = v := by
  unfold setInsertNat
  split
  · constructor
    · exact Or.inl
    · rintro (h | rfl)
      · exact h
      · assumption
  · simp

theorem nodup_setInsertNat {l : List Nat} (v : Nat) (h : l.Nodup) : (setInsertNat l v).Nodup := by
  unfold setInsertNat
  split
  · exact h
  · rename_i hv
    rw [List.nodup_append]
    refine ⟨h, by simp, ?_⟩
    intro a ha b hb
    simp at hb
    subst hb
    intro hab
    subst hab
    exact hv ha

@[simp] theorem core_setPar (g : G) (v : Nat) (p : Option Nat) : core (setPar g v p) = setPar (core g) v p := rfl
@[simp] theorem core_kidsSet (g : G) (p : Nat) (s : Slot) (l : List Nat) :
    core (kidsSet g p s l) = kidsSet (core g) p s l := rfl
@[simp] theorem core_kidsErase (g : G) (p : Nat) (s : Slot) (v : Nat) :
    core (kidsErase g p s v) = kidsErase (core g) p s v := rfl
@[simp] theorem core_kidsInsert (g : G) (p : Nat) (s : Slot) (v : Nat) :
    core (kidsInsert g p s v) = kidsInsert (core g) p s v := rfl
@[simp] theorem core_cacheSet (g : G) (i u v : Nat) : core (cacheSet g i u v) = core g := rfl
@[simp] theorem core_cacheAdd (g : G) (i v : Nat) : core (cacheAdd g i v) = core g :=
  (onlyCache_cacheAdd g i v).core
@[simp] theorem core_symIndexAdd (g : G) (m v : Nat) : core (symIndexAdd g m v) = core g :=
  (onlyIdx_symIndexAdd g m v).core
@[simp] theorem core_symIndexDiscard (g : G) (m v : Nat) : core (symIndexDiscard g m v) = core g :=
  (onlyIdx_symIndexDiscard g m v).core

/-- what `discard` does to the forest -/
def detach (g : G) (q : Nat) (s : Slot) (v : Nat) : G :=
  if v ∈ g.kids q s then kidsErase (setPar g v none) q s v else g

def detachOld (g : G) (s : Slot) (v : Nat) : G :=
  match g.par v with
  | some q => detach g q s v
  | none => g

/-- detach from the old parent and point to the new one (not yet inserted) -/
def relink (g : G) (p : Nat) (s : Slot) (v : Nat) : G := setPar (detachOld g s v) v (some p)

/-- what `add` does to the forest -/
def attach (g : G) (p : Nat) (s : Slot) (v : Nat) : G := kidsInsert (relink g p s v) p s v

theorem detach_pos {g : G} {q : Nat} {s : Slot} {v : Nat} (h : v ∈ g.kids q s) :
    detach g q s v = kidsErase (setPar g v none) q s v := if_pos h

theorem detach_neg {g : G} {q : Nat} {s : Slot} {v : Nat} (h : v ∉ g.kids q s) : detach g q s v = g := if_neg h

@[simp] theorem core_detach (g : G) (q : Nat) (s : Slot) (v : Nat) : core (detach g q s v) = detach (core g) q s v := by
  by_cases hm : v ∈ g.kids q s
  · rw [detach_pos hm, detach_pos (g := core g) hm]; rfl
  · rw [detach_neg hm, detach_neg (g := core g) hm]

@[simp] theorem core_detachOld (g : G) (s : Slot) (v : Nat) : core (detachOld g s v) = detachOld (core g) s v := by
  unfold detachOld
  simp only [core_par]
  split
  · exact core_detach _ _ _ _
  · rfl

@[simp] theorem core_relink (g : G) (p : Nat) (s : Slot) (v : Nat) : core (relink g p s v) = relink (core g) p s v := by
  simp [relink]

@[simp] theorem core_attach (g : G) (p : Nat) (s : Slot) (v : Nat) : core (attach g p s v) = attach (core g) p s v := by
  simp [attach]

theorem foldl_core {F : G → Nat → G} (hF : ∀ g x, core (F g x) = F (core g) x) (l : List Nat) (g : G) :
    core (l.foldl F g) = l.foldl F (core g) := by
  induction l generalizing g with
  | nil => rfl
  | cons x xs ih => simp only [List.foldl_cons]; rw [ih, hF]

theorem orKeyError_setDiscard (g : G) (q : Nat) (s : Slot) (v : Nat) :
    OrKeyError (setDiscard g q s v) (fun g' => core g' = detach (core g) q s v) := by
  unfold setDiscard
  split
  · rename_i hm
    rw [detach_pos (g := core g) hm]
    dsimp only
    -- only the forest part of the state after the index update matters
    generalize hg2 : (if s = .secs ∨ s = .syms ∨ s = .proxies then symIndexDiscard (setPar g v none) q v
      else setPar g v none) = g2
    have h2 : core g2 = setPar (core g) v none := by
      rw [← hg2]
      split
      · rw [core_symIndexDiscard]; rfl
      · rfl
    split
    · refine (orKeyError_cacheRemove g2 _ v).bind (fun g3 h3 => ?_)
      show core (kidsErase g3 q s v) = _
      rw [core_kidsErase, h3.core, h2]
    · show core (kidsErase g2 q s v) = _
      rw [core_kidsErase, h2]
  · rename_i hm
    rw [detach_neg (g := core g) hm]
    rfl

/-- leaving the current owner, as `add` and the block update do first -/
theorem orKeyError_detachOld (g : G) (s : Slot) (v : Nat) :
    OrKeyError (match g.par v with | some q => setDiscard g q s v | none => .ok g)
      (fun g1 => core g1 = detachOld (core g) s v) := by
  unfold detachOld
  cases hp : g.par v with
  | none => simp only [core_par, hp]; rfl
  | some q => simp only [core_par, hp]; exact orKeyError_setDiscard g q s v

theorem orKeyError_setAdd (g : G) (p : Nat) (s : Slot) (v : Nat) :
    OrKeyError (setAdd g p s v) (fun g' => core g' = attach (core g) p s v) := by
  unfold setAdd
  refine (orKeyError_detachOld g s v).bind' (fun g1 e1 => ?_)
  show core (kidsInsert _ p s v) = _
  unfold attach relink
  rw [core_kidsInsert, ← e1]
  congr 1
  split <;> split <;> simp
theorem setDiscard_core {g g' : G} {q : Nat} {s : Slot} {v : Nat} (h : setDiscard g q s v = .ok g') :
    core g' = detach (core g) q s v := (orKeyError_setDiscard g q s v).of_ok h

theorem setAdd_core {g g' : G} {p : Nat} {s : Slot} {v : Nat} (h : setAdd g p s v = .ok g') :
    core g' = attach (core g) p s v := (orKeyError_setAdd g p s v).of_ok h

/-- the elements `_BlockSet.update` really adds (`cache_blkNew` of `TableFolds` is the same list, by `rfl`) -/
def blkNew (g : G) (p : Nat) (vs : List Nat) : List Nat :=
  (vs.eraseDups).filter (fun v => !(v ∈ g.kids p .blocks))

/-- what `_BlockSet.update` does to the forest -/
def blkUpdatePure (g : G) (p : Nat) (new : List Nat) : G :=
  new.foldl (fun g v => kidsInsert g p .blocks v) (new.foldl (fun g v => relink g p .blocks v) g)

theorem orKeyError_foldE_core {f : G → Nat → Except Exc G} {F : G → Nat → G}
    (hf : ∀ g x, OrKeyError (f g x) (fun g' => core g' = F (core g) x)) :
    ∀ (l : List Nat) (g : G), OrKeyError (foldE f l g) (fun g' => core g' = l.foldl F (core g))
  | [], _ => rfl
  | x :: xs, g => (hf g x).bind (fun g1 h1 => by rw [List.foldl_cons, ← h1]; exact orKeyError_foldE_core hf xs g1)

theorem orKeyError_blkUpdate (g : G) (p : Nat) (vs : List Nat) :
    OrKeyError (blkUpdate g p vs) (fun g' => core g' = blkUpdatePure (core g) p (blkNew g p vs)) := by
  unfold blkUpdate
  dsimp only
  refine (orKeyError_foldE_core (F := fun g v => relink g p .blocks v) (fun g1 x => ?_) _ g).bind' (fun g1 e1 => ?_)
  · refine (orKeyError_detachOld g1 .blocks x).bind' (fun g2 e2 => ?_)
    show core _ = relink (core g1) p .blocks x
    unfold relink
    rw [← e2]
    split <;> simp
  · show core _ = _
    unfold blkUpdatePure
    rw [foldl_core (fun g x => core_kidsInsert g p .blocks x), e1]
    rfl
theorem blkUpdate_core {g g' : G} {p : Nat} {vs : List Nat} (h : blkUpdate g p vs = .ok g') :
    core g' = blkUpdatePure (core g) p (blkNew g p vs) := (orKeyError_blkUpdate g p vs).of_ok h

theorem nodeSetAdd_core {g g' : G} {p : Nat} {s : Slot} {v : Nat} (h : nodeSetAdd g p s v = .ok g') :
    core g' = if s = .blocks then blkUpdatePure (core g) p (blkNew g p [v]) else attach (core g) p s v := by
  unfold nodeSetAdd at h
  split at h
  · rename_i hs; rw [if_pos hs]; exact blkUpdate_core h
  · rename_i hs; rw [if_neg hs]; exact setAdd_core h

section pyIndex
variable {len : Nat} {k : Int}

theorem pyIndex_of_nonneg (h0 : 0 ≤ k) (h : k < len) : pyIndex len k = some k.toNat := if_pos ⟨h0, h⟩

theorem pyIndex_of_neg (h0 : k < 0) (h : 0 ≤ k + len) : pyIndex len k = some (k + len).toNat := by
  unfold pyIndex
  rw [if_neg (fun hh => Int.not_lt.2 hh.1 h0), if_pos ⟨h0, h⟩]

theorem pyIndex_of_ge (h : (len : Int) ≤ k) : pyIndex len k = none := by
  unfold pyIndex
  rw [if_neg (fun hh => Int.not_lt.2 h hh.2), if_neg (by omega)]

theorem pyIndex_of_lt (h : k + len < 0) : pyIndex len k = none := by
  unfold pyIndex
  rw [if_neg (by omega), if_neg (fun hh => Int.not_lt.2 hh.2 h)]

end pyIndex

theorem pyIndex_lt {len : Nat} {k : Int} {idx : Nat} (h : pyIndex len k = some idx) : idx < len := by
  unfold pyIndex at h
  split at h
  · cases h; omega
  · split at h
    · cases h; omega
    · cases h

theorem pyIndex_getElem {l : List Nat} {k : Int} {idx : Nat} (h : pyIndex l.length k = some idx) :
    ∃ old, l[idx]? = some old :=
  ⟨_, List.getElem?_eq_getElem (pyIndex_lt h)⟩

theorem mem_listAt {g : G} {i : Nat} {k : Int} {idx v : Nat} (h1 : pyIndex (g.kids i .mods).length k = some idx)
    (h2 : (g.kids i .mods)[idx]? = some v) : v ∈ listAt g i k := by
  unfold listAt; rw [h1]; simp [h2]

theorem pyInsert_ge (l : List Nat) (k : Nat) (v : Nat) (hk : l.length ≤ k) :
    pyInsert l (k : Int) v = l ++ [v] := by
  unfold pyInsert
  simp only
  have h0 : ¬ ((k : Int) < 0) := by omega
  rw [if_neg h0]
  split
  · simp
  · have : k = l.length := by omega
    subst this; simp

theorem orKeyError_modHookRemove (g : G) (i v : Nat) :
    OrKeyError (modHookRemove g i v) (fun g' => core g' = setPar (core g) v none) :=
  (orKeyError_cacheRemove (setPar g v none) i v).mono fun g' h => by rw [h.core]; rfl

theorem ends_modListRemove (g : G) (i v : Nat) :
    Ends (modListRemove g i v) (fun g' => v ∈ g.kids i .mods ∧ core g' = detach (core g) i .mods v)
      (fun e => (e = .valueError ∧ v ∉ g.kids i .mods) ∨ e = .cacheKeyError) := by
  unfold modListRemove
  split
  · rename_i hm
    refine ((orKeyError_modHookRemove g i v).bind fun g1 h1 => ?_).weaken fun _ => .inr
    refine ⟨hm, ?_⟩
    rw [detach_pos (g := core g) hm, ← kidsErase_eq_kidsSet, core_kidsErase, h1]
  · rename_i hm
    exact .inl ⟨rfl, hm⟩

theorem modListRemove_core {g g' : G} {i v : Nat} (h : modListRemove g i v = .ok g') :
    core g' = detach (core g) i .mods v := ((ends_modListRemove g i v).of_ok h).2

theorem ends_modHookAdd (g : G) (i v : Nat) :
    Ends (modHookAdd g i v) (fun g' => core g' = relink (core g) i .mods v)
      (fun e => (e = .valueError ∧ ∃ j, g.par v = some j ∧ v ∉ g.kids j .mods) ∨ e = .cacheKeyError) := by
  unfold modHookAdd
  refine Ends.bind' (P := fun g1 => core g1 = detachOld (core g) .mods v) ?_ fun g1 h1 => ?_
  · unfold detachOld
    cases hp : g.par v with
    | none =>
      show core g = _
      simp [hp]
    | some q =>
      exact ((ends_modListRemove g q v).mono fun _ h => by rw [h.2]; simp [hp]).weaken
        fun _ h => h.imp (fun h1 => ⟨h1.1, q, rfl, h1.2⟩) id
  · show core (cacheAdd (setPar g1 v (some i)) i v) = _
    rw [core_cacheAdd, core_setPar, h1]
    rfl

/-- what `insert(k, v)` does to the forest -/
def modInsertPure (g : G) (i : Nat) (k : Int) (v : Nat) : G :=
  kidsSet (relink g i .mods v) i .mods (pyInsert ((relink g i .mods v).kids i .mods) k v)

theorem ends_modInsert (g : G) (i : Nat) (k : Int) (v : Nat) :
    Ends (modInsert g i k v) (fun g' => core g' = modInsertPure (core g) i k v)
      (fun e => (e = .valueError ∧ ∃ j, g.par v = some j ∧ v ∉ g.kids j .mods) ∨ e = .cacheKeyError) := by
  unfold modInsert
  refine (ends_modHookAdd g i v).bind fun g1 h1 => ?_
  show core (kidsSet g1 i .mods (pyInsert (g1.kids i .mods) k v)) = _
  unfold modInsertPure
  rw [core_kidsSet, ← h1]
  rfl

theorem modAppend_core {g g' : G} {i v : Nat} (h : modAppend g i v = .ok g') :
    core g' = modInsertPure (core g) i (g.kids i .mods).length v := (ends_modInsert g i _ v).of_ok h

theorem ends_modDelItem (g : G) (i : Nat) (k : Int) :
    Ends (modDelItem g i k)
      (fun g' => ∃ idx v, pyIndex (g.kids i .mods).length k = some idx ∧ (g.kids i .mods)[idx]? = some v ∧
        core g' = kidsSet (setPar (core g) v none) i .mods ((g.kids i .mods).eraseIdx idx))
      (fun e => (e = .indexError ∧ pyIndex (g.kids i .mods).length k = none) ∨ e = .cacheKeyError) := by
  unfold modDelItem
  split
  · rename_i hn
    exact .inl ⟨rfl, hn⟩
  · rename_i idx hidx
    split
    · rename_i hn
      exact absurd (pyIndex_lt hidx) (Nat.not_lt.2 (List.getElem?_eq_none_iff.1 hn))
    · rename_i v hv
      refine ((orKeyError_modHookRemove g i v).bind fun g1 h1 => ?_).weaken fun _ => .inr
      refine ⟨idx, v, hidx, hv, ?_⟩
      rw [core_kidsSet, h1, kids_of_core h1]
      rfl

/-- what `self[k] = v` does to the forest (`old` is the element at the normalised index) -/
def modSetItemPure (g : G) (i idx old v : Nat) : G :=
  let g2 := relink (setPar g old none) i .mods v
  kidsSet g2 i .mods ((g2.kids i .mods).set idx v)

/-- the `ValueError` of the `_add` hook is read in the state `g`, before the `_remove` hook ran -/
theorem ends_modSetItem (g : G) (i : Nat) (k : Int) (v : Nat) :
    Ends (modSetItem g i k v)
      (fun g' => ∃ idx old, pyIndex (g.kids i .mods).length k = some idx ∧ (g.kids i .mods)[idx]? = some old ∧
        ¬(v ∈ g.kids i .mods ∧ v ≠ old) ∧ core g' = modSetItemPure (core g) i idx old v)
      (fun e => ((e = .indexError ∧ pyIndex (g.kids i .mods).length k = none) ∨
          (e = .outside ∧ ∃ idx old, pyIndex (g.kids i .mods).length k = some idx ∧
            (g.kids i .mods)[idx]? = some old ∧ v ∈ g.kids i .mods ∧ v ≠ old)) ∨ e = .cacheKeyError ∨
        (e = .valueError ∧ ∃ j, g.par v = some j ∧ v ∉ g.kids j .mods)) := by
  unfold modSetItem
  split
  · rename_i hn
    exact .inl (.inl ⟨rfl, hn⟩)
  · rename_i idx hidx
    split
    · rename_i hn
      exact absurd (pyIndex_lt hidx) (Nat.not_lt.2 (List.getElem?_eq_none_iff.1 hn))
    · rename_i old hold
      split
      · rename_i hv
        exact .inl (.inr ⟨rfl, idx, old, hidx, hold, hv.1, hv.2⟩)
      · rename_i hne
        refine Ends.bind' ((orKeyError_modHookRemove g i old).weaken fun _ h => .inr (.inl h)) fun g1 h1 => ?_
        refine Ends.bind' ((ends_modHookAdd g1 i v).weaken fun e he => ?_) fun g2 h2 => ?_
        · refine he.elim (fun ⟨e1, j, hj, hm⟩ => .inr (.inr ⟨e1, j, ?_, ?_⟩)) fun h => .inr (.inl h)
          · rw [par_of_core h1, setPar_par] at hj
            split at hj
            · cases hj
            · exact hj
          · rwa [kids_of_core h1] at hm
        · refine ⟨idx, old, hidx, hold, hne, ?_⟩
          unfold modSetItemPure
          dsimp only
          rw [core_kidsSet, ← h1, ← h2]
          rfl

@[simp] theorem modReverse_core (g : G) (i : Nat) :
    core (modReverse g i) = kidsSet (core g) i .mods (g.kids i .mods).reverse := rfl

theorem OnlyIdx.withName {g g1 : G} (h : OnlyIdx g g1) (f : Nat → Nat) :
    OnlyIdx { g with name := f } { g1 with name := f } := by
  unfold OnlyIdx at *; rw [h]

theorem OnlyIdx.withPayload {g g1 : G} (h : OnlyIdx g g1) (f : Nat → Payload) :
    OnlyIdx { g with payload := f } { g1 with payload := f } := by
  unfold OnlyIdx at *; rw [h]

theorem onlyIdx_setName (g : G) (v nm : Nat) :
    OnlyIdx { g with name := fun x => if x = v then nm else g.name x } (setName g v nm) := by
  cases hp : g.par v with
  | none => simp only [setName, hp]; exact .refl _
  | some m =>
    have h1 := onlyIdx_symIndexDiscard g m v
    have : setName g v nm = symIndexAdd { symIndexDiscard g m v with
        name := fun x => if x = v then nm else (symIndexDiscard g m v).name x } m v := by
      simp [setName, hp, h1.par]
    rw [this, h1.name]
    exact (h1.withName _).trans (onlyIdx_symIndexAdd _ _ _)

theorem onlyIdx_setPayload (g : G) (v : Nat) (pl : Payload) :
    OnlyIdx { g with payload := fun x => if x = v then pl else g.payload x } (setPayload g v pl) := by
  cases hp : g.par v with
  | none => simp only [setPayload, hp]; exact .refl _
  | some m =>
    have h1 := onlyIdx_symIndexDiscard g m v
    have : setPayload g v pl = symIndexAdd { symIndexDiscard g m v with
        payload := fun x => if x = v then pl else (symIndexDiscard g m v).payload x } m v := by
      simp [setPayload, hp, h1.par]
    rw [this, h1.payload]
    exact (h1.withPayload _).trans (onlyIdx_symIndexAdd _ _ _)

theorem setName_core (g : G) (v nm : Nat) :
    core (setName g v nm) = { core g with name := fun x => if x = v then nm else g.name x } :=
  (onlyIdx_setName g v nm).core

theorem setPayload_core (g : G) (v : Nat) (pl : Payload) :
    core (setPayload g v pl) = { core g with payload := fun x => if x = v then pl else g.payload x } :=
  (onlyIdx_setPayload g v pl).core

@[simp] theorem alloc_snd (g : G) (k : Kind) (u : Nat) : (alloc g k u).2 = g.n := rfl
@[simp] theorem alloc_n (g : G) (k : Kind) (u : Nat) : (alloc g k u).1.n = g.n + 1 := rfl
@[simp] theorem alloc_kind (g : G) (k : Kind) (u : Nat) (x : Nat) :
    (alloc g k u).1.kind x = if x = g.n then k else g.kind x := rfl
@[simp] theorem alloc_uuid (g : G) (k : Kind) (u : Nat) (x : Nat) :
    (alloc g k u).1.uuid x = if x = g.n then u else g.uuid x := rfl
@[simp] theorem alloc_par (g : G) (k : Kind) (u : Nat) (x : Nat) :
    (alloc g k u).1.par x = if x = g.n then none else g.par x := rfl
@[simp] theorem alloc_kids (g : G) (k : Kind) (u : Nat) (x : Nat) (s : Slot) :
    (alloc g k u).1.kids x s = if x = g.n then [] else g.kids x s := rfl
@[simp] theorem alloc_cache (g : G) (k : Kind) (u : Nat) : (alloc g k u).1.cache = g.cache := rfl
@[simp] theorem alloc_name (g : G) (k : Kind) (u : Nat) : (alloc g k u).1.name = g.name := rfl
@[simp] theorem alloc_payload (g : G) (k : Kind) (u : Nat) : (alloc g k u).1.payload = g.payload := rfl
@[simp] theorem alloc_nameIdx (g : G) (k : Kind) (u : Nat) : (alloc g k u).1.nameIdx = g.nameIdx := rfl
@[simp] theorem alloc_refIdx (g : G) (k : Kind) (u : Nat) : (alloc g k u).1.refIdx = g.refIdx := rfl
@[simp] theorem core_alloc (g : G) (k : Kind) (u : Nat) : core (alloc g k u).1 = (alloc (core g) k u).1 := rfl

@[simp] theorem mkIR_core (g : G) (u : Nat) : core (mkIR g u) = (alloc (core g) .ir u).1 := rfl

@[simp] theorem detach_n (g : G) (q : Nat) (s : Slot) (v : Nat) : (detach g q s v).n = g.n := by
  unfold detach; split <;> rfl
@[simp] theorem detach_kind (g : G) (q : Nat) (s : Slot) (v : Nat) : (detach g q s v).kind = g.kind := by
  unfold detach; split <;> rfl
@[simp] theorem detach_uuid (g : G) (q : Nat) (s : Slot) (v : Nat) : (detach g q s v).uuid = g.uuid := by
  unfold detach; split <;> rfl
@[simp] theorem detach_name (g : G) (q : Nat) (s : Slot) (v : Nat) : (detach g q s v).name = g.name := by
  unfold detach; split <;> rfl
@[simp] theorem detach_payload (g : G) (q : Nat) (s : Slot) (v : Nat) : (detach g q s v).payload = g.payload := by
  unfold detach; split <;> rfl
theorem detach_par (g : G) (q : Nat) (s : Slot) (v : Nat) (c : Nat) :
    (detach g q s v).par c = if c = v ∧ v ∈ g.kids q s then none else g.par c := by
  unfold detach
  by_cases hm : v ∈ g.kids q s
  · simp [hm]
  · simp [hm]
theorem detach_kids (g : G) (q : Nat) (s : Slot) (v : Nat) (p' : Nat) (s' : Slot) :
    (detach g q s v).kids p' s' = if p' = q ∧ s' = s then (g.kids q s).erase v else g.kids p' s' := by
  unfold detach
  by_cases hm : v ∈ g.kids q s
  · simp [hm]
  · simp only [hm, if_false]
    split
    · rename_i h; rw [h.1, h.2, List.erase_of_not_mem hm]
    · rfl

@[simp] theorem detachOld_n (g : G) (s : Slot) (v : Nat) : (detachOld g s v).n = g.n := by
  unfold detachOld; split <;> simp
@[simp] theorem detachOld_kind (g : G) (s : Slot) (v : Nat) : (detachOld g s v).kind = g.kind := by
  unfold detachOld; split <;> simp
@[simp] theorem detachOld_uuid (g : G) (s : Slot) (v : Nat) : (detachOld g s v).uuid = g.uuid := by
  unfold detachOld; split <;> simp
@[simp] theorem detachOld_name (g : G) (s : Slot) (v : Nat) : (detachOld g s v).name = g.name := by
  unfold detachOld; split <;> simp
@[simp] theorem detachOld_payload (g : G) (s : Slot) (v : Nat) : (detachOld g s v).payload = g.payload := by
  unfold detachOld; split <;> simp
theorem detachOld_none {g : G} {s : Slot} {v : Nat} (h : g.par v = none) : detachOld g s v = g := by
  unfold detachOld; rw [h]
theorem detachOld_some {g : G} {s : Slot} {v q : Nat} (h : g.par v = some q) : detachOld g s v = detach g q s v := by
  unfold detachOld; rw [h]

theorem detachOld_kids (g : G) (s : Slot) (v q : Nat) (s' : Slot) :
    (detachOld g s v).kids q s' = if g.par v = some q ∧ s' = s then (g.kids q s).erase v else g.kids q s' := by
  cases hp : g.par v with
  | none => rw [detachOld_none hp]; simp
  | some q0 =>
    rw [detachOld_some hp, detach_kids]
    by_cases h : q = q0 ∧ s' = s
    · rw [if_pos h, if_pos ⟨by rw [h.1], h.2⟩, h.1]
    · rw [if_neg h, if_neg]
      intro hh; apply h; exact ⟨(Option.some.inj hh.1).symm, hh.2⟩

@[simp] theorem relink_n (g : G) (p : Nat) (s : Slot) (v : Nat) : (relink g p s v).n = g.n := by simp [relink]
@[simp] theorem relink_kind (g : G) (p : Nat) (s : Slot) (v : Nat) : (relink g p s v).kind = g.kind := by simp [relink]
@[simp] theorem relink_uuid (g : G) (p : Nat) (s : Slot) (v : Nat) : (relink g p s v).uuid = g.uuid := by simp [relink]
@[simp] theorem relink_name (g : G) (p : Nat) (s : Slot) (v : Nat) : (relink g p s v).name = g.name := by simp [relink]
@[simp] theorem relink_payload (g : G) (p : Nat) (s : Slot) (v : Nat) : (relink g p s v).payload = g.payload := by
  simp [relink]
@[simp] theorem relink_par_self (g : G) (p : Nat) (s : Slot) (v : Nat) : (relink g p s v).par v = some p := by
  simp [relink]

@[simp] theorem attach_n (g : G) (p : Nat) (s : Slot) (v : Nat) : (attach g p s v).n = g.n := by simp [attach]
@[simp] theorem attach_kind (g : G) (p : Nat) (s : Slot) (v : Nat) : (attach g p s v).kind = g.kind := by simp [attach]
@[simp] theorem attach_uuid (g : G) (p : Nat) (s : Slot) (v : Nat) : (attach g p s v).uuid = g.uuid := by simp [attach]
@[simp] theorem attach_name (g : G) (p : Nat) (s : Slot) (v : Nat) : (attach g p s v).name = g.name := by simp [attach]
@[simp] theorem attach_payload (g : G) (p : Nat) (s : Slot) (v : Nat) : (attach g p s v).payload = g.payload := by
  simp [attach]
@[simp] theorem attach_par_self (g : G) (p : Nat) (s : Slot) (v : Nat) : (attach g p s v).par v = some p := by
  simp [attach]

structure Stable (g g' : G) : Prop where
  n : g'.n = g.n
  kind : g'.kind = g.kind
  uuid : g'.uuid = g.uuid

theorem Stable.refl (g : G) : Stable g g := ⟨rfl, rfl, rfl⟩
theorem Stable.trans {a b c : G} (h1 : Stable a b) (h2 : Stable b c) : Stable a c :=
  ⟨h2.n.trans h1.n, h2.kind.trans h1.kind, h2.uuid.trans h1.uuid⟩

theorem stable_foldl {α : Type} {F : G → α → G} (hF : ∀ g x, Stable g (F g x)) (l : List α) (g : G) :
    Stable g (l.foldl F g) :=
  List.foldlRecOn (motive := fun g' : G => Stable g g') l F (Stable.refl g) fun g' h x _ => h.trans (hF g' x)

theorem stable_foldE {f : G → Nat → Except Exc G} (hf : ∀ g x g', f g x = .ok g' → Stable g g')
    (l : List Nat) {g g' : G} (h : foldE f l g = .ok g') : Stable g g' :=
  foldE_inv (fun g' => Stable g g') l (fun g1 x g2 _ h1 h2 => h1.trans (hf g1 x g2 h2)) g g' (Stable.refl g) h

theorem stable_detach (g : G) (q : Nat) (s : Slot) (v : Nat) : Stable g (detach g q s v) := ⟨by simp, by simp, by simp⟩
theorem stable_relink (g : G) (p : Nat) (s : Slot) (v : Nat) : Stable g (relink g p s v) := ⟨by simp, by simp, by simp⟩
theorem stable_attach (g : G) (p : Nat) (s : Slot) (v : Nat) : Stable g (attach g p s v) := ⟨by simp, by simp, by simp⟩
theorem stable_kidsSet (g : G) (p : Nat) (s : Slot) (l : List Nat) : Stable g (kidsSet g p s l) := ⟨rfl, rfl, rfl⟩
theorem stable_kidsInsert (g : G) (p : Nat) (s : Slot) (v : Nat) : Stable g (kidsInsert g p s v) := ⟨rfl, rfl, rfl⟩
theorem stable_setPar (g : G) (v : Nat) (p : Option Nat) : Stable g (setPar g v p) := ⟨rfl, rfl, rfl⟩
theorem stable_core (g : G) : Stable g (core g) := ⟨rfl, rfl, rfl⟩
theorem stable_core' (g : G) : Stable (core g) g := ⟨rfl, rfl, rfl⟩

theorem stable_blkUpdatePure (g : G) (p : Nat) (new : List Nat) : Stable g (blkUpdatePure g p new) :=
  (stable_foldl (fun g v => stable_relink g p .blocks v) new g).trans
    (stable_foldl (fun g v => stable_kidsInsert g p .blocks v) new _)

theorem stable_of_core' {g g' X : G} (h : core g' = X) (hX : Stable (core g) X) : Stable g g' := by
  subst h; exact ⟨hX.n, hX.kind, hX.uuid⟩

theorem setDiscard_stable {g g' : G} {q : Nat} {s : Slot} {v : Nat} (h : setDiscard g q s v = .ok g') : Stable g g' :=
  stable_of_core' (setDiscard_core h) (stable_detach _ _ _ _)

theorem setAdd_stable {g g' : G} {p : Nat} {s : Slot} {v : Nat} (h : setAdd g p s v = .ok g') : Stable g g' :=
  stable_of_core' (setAdd_core h) (stable_attach _ _ _ _)

theorem blkUpdate_stable {g g' : G} {p : Nat} {vs : List Nat} (h : blkUpdate g p vs = .ok g') : Stable g g' :=
  stable_of_core' (blkUpdate_core h) (stable_blkUpdatePure _ _ _)

theorem nodeSetAdd_stable {g g' : G} {p : Nat} {s : Slot} {v : Nat} (h : nodeSetAdd g p s v = .ok g') : Stable g g' := by
  unfold nodeSetAdd at h
  split at h
  · exact blkUpdate_stable h
  · exact setAdd_stable h

theorem modListRemove_stable {g g' : G} {i v : Nat} (h : modListRemove g i v = .ok g') : Stable g g' :=
  stable_of_core' (modListRemove_core h) (stable_detach _ _ _ _)

theorem modInsert_stable {g g' : G} {i : Nat} {k : Int} {v : Nat} (h : modInsert g i k v = .ok g') : Stable g g' :=
  stable_of_core' ((ends_modInsert _ _ _ _).of_ok h) ((stable_relink _ _ _ _).trans (stable_kidsSet _ _ _ _))

theorem modAppend_stable {g g' : G} {i v : Nat} (h : modAppend g i v = .ok g') : Stable g g' := modInsert_stable h

theorem modDelItem_stable {g g' : G} {i : Nat} {k : Int} (h : modDelItem g i k = .ok g') : Stable g g' := by
  obtain ⟨idx, v, _, _, hc⟩ := (ends_modDelItem _ _ _).of_ok h
  exact stable_of_core' hc ((stable_setPar _ _ _).trans (stable_kidsSet _ _ _ _))

theorem modSetItem_stable {g g' : G} {i : Nat} {k : Int} {v : Nat} (h : modSetItem g i k v = .ok g') : Stable g g' := by
  obtain ⟨idx, old, _, _, _, hc⟩ := (ends_modSetItem _ _ _ _).of_ok h
  exact stable_of_core' hc
    (((stable_setPar _ _ _).trans (stable_relink _ _ _ _)).trans (stable_kidsSet _ _ _ _))

theorem modReverse_stable (g : G) (i : Nat) : Stable g (modReverse g i) := ⟨rfl, rfl, rfl⟩

theorem setName_stable (g : G) (v nm : Nat) : Stable g (setName g v nm) :=
  stable_of_core' (setName_core g v nm) ⟨rfl, rfl, rfl⟩

theorem setPayload_stable (g : G) (v : Nat) (pl : Payload) : Stable g (setPayload g v pl) :=
  stable_of_core' (setPayload_core g v pl) ⟨rfl, rfl, rfl⟩

/-- `Stable` without `g'.n = g.n`: what remains true of a step that allocates -/
def Grows (g g' : G) : Prop := g.n ≤ g'.n ∧ ∀ x, x < g.n → g'.kind x = g.kind x ∧ g'.uuid x = g.uuid x

theorem Stable.grows {g g' : G} (h : Stable g g') : Grows g g' :=
  ⟨Nat.le_of_eq h.n.symm, fun x _ => ⟨by rw [h.kind], by rw [h.uuid]⟩⟩

theorem Grows.trans {a b c : G} (h1 : Grows a b) (h2 : Grows b c) : Grows a c :=
  ⟨Nat.le_trans h1.1 h2.1, fun x hx =>
    ⟨((h2.2 x (Nat.lt_of_lt_of_le hx h1.1)).1).trans (h1.2 x hx).1,
     ((h2.2 x (Nat.lt_of_lt_of_le hx h1.1)).2).trans (h1.2 x hx).2⟩⟩

theorem grows_alloc (g : G) (k : Kind) (u : Nat) : Grows g (alloc g k u).1 :=
  ⟨Nat.le_succ _, fun x hx => by simp [Nat.ne_of_lt hx]⟩

theorem relink_par (g : G) (p : Nat) (s : Slot) (v c : Nat) :
    (relink g p s v).par c = if c = v then some p else g.par c := by
  unfold relink
  simp only [setPar_par]
  split
  · rfl
  · rename_i hc
    unfold detachOld
    split
    · rw [detach_par]; simp [hc]
    · rfl

theorem attach_par (g : G) (p : Nat) (s : Slot) (v c : Nat) :
    (attach g p s v).par c = if c = v then some p else g.par c := by
  unfold attach; rw [kidsInsert_par, relink_par]

/-- re-pointing the head after the tail: the members of `a :: as` are re-pointed -/
theorem ite_mem_cons {α : Type} (c a : Nat) (as : List Nat) (x y : α) :
    (if c ∈ as then x else if c = a then x else y) = if c ∈ a :: as then x else y := by
  by_cases h1 : c ∈ as <;> by_cases h2 : c = a <;> simp [h1, h2]

theorem blkUpdatePure_par (g : G) (p : Nat) (new : List Nat) (c : Nat) :
    (blkUpdatePure g p new).par c = if c ∈ new then some p else g.par c := by
  unfold blkUpdatePure
  have hpar : ∀ g0 : G, (new.foldl (fun g v => kidsInsert g p .blocks v) g0).par = g0.par := fun g0 =>
    List.foldlRecOn (motive := fun g' : G => g'.par = g0.par) new _ rfl fun _ h _ _ => h
  rw [hpar]
  clear hpar
  induction new generalizing g with
  | nil => simp
  | cons a as ih =>
    simp only [List.foldl_cons]
    rw [ih, relink_par, ite_mem_cons]

theorem setAdd_par {g g' : G} {p : Nat} {s : Slot} {v : Nat} (h : setAdd g p s v = .ok g') (c : Nat) :
    g'.par c = if c = v then some p else g.par c := by
  rw [par_of_core (setAdd_core h), attach_par]; rfl

theorem blkUpdate_par {g g' : G} {p : Nat} {vs : List Nat} (h : blkUpdate g p vs = .ok g') (c : Nat) :
    g'.par c = if c ∈ blkNew g p vs then some p else g.par c := by
  rw [par_of_core (blkUpdate_core h), blkUpdatePure_par]; rfl

theorem modInsert_par {g g' : G} {i : Nat} {k : Int} {v : Nat} (h : modInsert g i k v = .ok g') (c : Nat) :
    g'.par c = if c = v then some i else g.par c := by
  rw [par_of_core ((ends_modInsert _ _ _ _).of_ok h)]
  unfold modInsertPure
  rw [kidsSet_par, relink_par]; rfl

theorem modAppend_par {g g' : G} {i v : Nat} (h : modAppend g i v = .ok g') (c : Nat) :
    g'.par c = if c = v then some i else g.par c := modInsert_par h c

theorem foldE_setAdd_par {p : Nat} {s : Slot} : ∀ (vs : List Nat) {g g' : G},
    foldE (fun g y => setAdd g p s y) vs g = .ok g' → ∀ c, g'.par c = if c ∈ vs then some p else g.par c := by
  intro vs
  induction vs with
  | nil => intro g g' h c; cases h; simp
  | cons a as ih =>
    intro g g' h c
    obtain ⟨g1, h1, h2⟩ := foldE_cons_ok h
    rw [ih h2 c, setAdd_par h1 c, ite_mem_cons]

theorem setDiscard_par {g g' : G} {q : Nat} {s : Slot} {v : Nat} (h : setDiscard g q s v = .ok g') (c : Nat) :
    g'.par c = if c = v ∧ v ∈ g.kids q s then none else g.par c := by
  rw [par_of_core (setDiscard_core h), detach_par]; rfl

theorem modListRemove_par {g g' : G} {i v : Nat} (h : modListRemove g i v = .ok g') (c : Nat) :
    g'.par c = if c = v then none else g.par c := by
  rw [par_of_core (modListRemove_core h), detach_par]
  simp [((ends_modListRemove g i v).of_ok h).1]

theorem symIndexAdd_symbol {g : G} {v : Nat} (hk : g.kind v = .symbol) (m : Nat) :
    symIndexAdd g m v = { g with
      nameIdx := fun m' k => if m' = m ∧ k = g.name v then setInsertNat (g.nameIdx m k) v else g.nameIdx m' k
      refIdx := match g.payload v with
        | .block b => fun m' k => if m' = m ∧ k = b then setInsertNat (g.refIdx m k) v else g.refIdx m' k
        | _ => g.refIdx } := by
  unfold symIndexAdd
  rw [if_pos hk]
  cases g.payload v <;> rfl

theorem symIndexAdd_other {g : G} {v : Nat} (hk : g.kind v ≠ .symbol) (m : Nat) : symIndexAdd g m v = g := by
  unfold symIndexAdd
  rw [if_neg hk]

theorem symIndexDiscard_symbol {g : G} {v : Nat} (hk : g.kind v = .symbol) (m : Nat) :
    symIndexDiscard g m v = { g with
      nameIdx := fun m' k => if m' = m ∧ k = g.name v then (g.nameIdx m k).erase v else g.nameIdx m' k
      refIdx := match g.payload v with
        | .block b => fun m' k => if m' = m ∧ k = b then (g.refIdx m k).erase v else g.refIdx m' k
        | _ => g.refIdx } := by
  unfold symIndexDiscard
  rw [if_pos hk]
  cases g.payload v <;> rfl

theorem symIndexDiscard_other {g : G} {v : Nat} (hk : g.kind v ≠ .symbol) (m : Nat) :
    symIndexDiscard g m v = g := by
  unfold symIndexDiscard
  rw [if_neg hk]

end Gtirb.Forest
