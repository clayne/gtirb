import GtirbProofs.Lemmas.AcceptProofs
import GtirbProofs.Lemmas.WfDeepEq
/-! The round trip through the reader. What the reader returns, written out again, is the
normal form of what it read (`toMsg_of_fromMsg`); the writer's image of a self-contained IR
is closed (`closedMsg_toMsg`), hence accepted, and is its own normal form; and the writer is
injective on what the reader returns. Together: `fromMsg (toMsg v) = .ok v`. Last, the other way
round: an accepted message is closed (AcceptProofs), and that says of the IR it is read as that it
is self-contained but for distinct node UUIDs and map keys (`accepted_good`, `wfir_of_fromMsg`). -/
namespace Gtirb.Msg
open Gtirb

theorem blockToMsg_uuid? (b : BlockV) : (blockToMsg b).uuid? = some b.uuid := by
  cases b <;> rfl

theorem blockToMsg_codeUuid? (b : BlockV) :
    (blockToMsg b).codeUuid? = (match b with | .code u _ _ _ => some u | .data _ _ _ => none) := by
  cases b <;> rfl

theorem intervalToMsg_blockUuids (x : IntervalV) : (intervalToMsg x).blockUuids = x.blockUuids := by
  simp only [MByteInterval.blockUuids, intervalToMsg, IntervalV.blockUuids, List.filterMap_map]
  rw [← List.filterMap_eq_map]
  congr 1
  funext b
  exact blockToMsg_uuid? b

theorem sectionToMsg_nodeUuids (s : SectionV) : (sectionToMsg s).nodeUuids = s.nodeUuids := by
  simp only [MSection.nodeUuids, SectionV.nodeUuids, sectionToMsg, List.flatMap_map,
    intervalToMsg_blockUuids]
  rfl

theorem moduleToMsg_nodeUuids (m : ModuleV) : (moduleToMsg m).nodeUuids = m.nodeUuids := by
  simp [MModule.nodeUuids, ModuleV.nodeUuids, moduleToMsg, List.flatMap_map,
    sectionToMsg_nodeUuids, symbolToMsg, Function.comp_def]

theorem toMsg_nodeUuids (v : IRV) : (toMsg v).nodeUuids = v.nodeUuids := by
  simp [MIR.nodeUuids, IRV.nodeUuids, toMsg, List.flatMap_map, moduleToMsg_nodeUuids]

theorem moduleToMsg_codeUuids (m : ModuleV) : (moduleToMsg m).codeUuids = m.codeUuids := by
  simp only [MModule.codeUuids, ModuleV.codeUuids, moduleToMsg, sectionToMsg, intervalToMsg,
    List.flatMap_map, List.filterMap_map]
  congr 1; funext s; congr 1; funext x; congr 1; funext b
  exact blockToMsg_codeUuid? b

theorem moduleToMsg_blockUuids (m : ModuleV) : (moduleToMsg m).blockUuids = m.blockUuids := by
  simp only [MModule.blockUuids, ModuleV.blockUuids]
  congr 1
  simp only [moduleToMsg, sectionToMsg, List.flatMap_map]
  congr 1; funext s; congr 1; funext x
  exact intervalToMsg_blockUuids x

theorem moduleToMsg_symbolUuids (m : ModuleV) :
    (moduleToMsg m).symbolUuids = m.symbols.map (·.uuid) := by
  simp [MModule.symbolUuids, moduleToMsg, symbolToMsg, Function.comp_def]

theorem mexprSyms_exprToMsg (e : ExprEntryV) : mexprSyms (exprToMsg e).2 = exprSyms e.expr := by
  obtain ⟨k, ex, at_⟩ := e
  cases ex <;> rfl

theorem mblockOK_blockToMsg (b : BlockV) : mblockOK (blockToMsg b) = true ↔ dmOK b := by
  cases b <;> simp [mblockOK, blockToMsg, dmOK]

theorem symbolToMsg_referent (s : SymbolV) (u : U) :
    (symbolToMsg s).payload = some (.referentUuid u) ↔ s.payload = .referent u := by
  obtain ⟨su, sn, sp, sa⟩ := s
  cases sp <;> simp [symbolToMsg]

theorem exprToMsg_isSome (e : ExprEntryV) : (exprToMsg e).2.value.isSome = true := rfl

/-- the correspondence between the two closedness predicates: on the writer's image the message-side
conditions of a module say what `moduleOK` says of the value, apart from the distinctness of set elements and map
keys, which a message does not have. Read from right to left it gives `closedMsg_toMsg`; read from left to right,
at `toMsg (ofMsg m) = normMsg m`, it gives what an accepted message says of the IR it is read as
(`moduleGood_ofModule`). -/
theorem mmoduleOK_toMsg_iff (earlier : List ModuleV) (m : ModuleV) (he : m.entryPoint ≠ some []) :
    mmoduleOK (earlier.map moduleToMsg) (moduleToMsg m) = true ↔
      (pyEnumHas "ISA" m.isa = true ∧ pyEnumHas "FileFormat" m.fileFormat = true
        ∧ pyEnumHas "ByteOrder" m.byteOrder = true)
      ∧ ModRefs earlier m
      ∧ ∀ s ∈ m.sections, (∀ f ∈ s.flags, pyEnumHas "SectionFlag" f = true) ∧ ∀ x ∈ s.intervals,
          x.contents.length ≤ x.size ∧ ∀ b ∈ x.blocks, dmOK b := by
  have hentry : ((moduleToMsg m).entryPoint.isEmpty = true ∨
        (moduleToMsg m).entryPoint ∈ earlier.flatMap (·.codeUuids) ++ m.codeUuids) ↔
      ∀ u, m.entryPoint = some u → u ∈ earlier.flatMap (·.codeUuids) ++ m.codeUuids := by
    cases hep : m.entryPoint with
    | none => simp [moduleToMsg, hep]
    | some u =>
      have hu : u ≠ [] := fun e => he (by rw [hep, e])
      simp [moduleToMsg, hep, hu]
  rw [mmoduleOK_iff]
  simp only [MModRefs, ModRefs, List.flatMap_map,
    moduleToMsg_codeUuids, moduleToMsg_blockUuids, moduleToMsg_symbolUuids, hentry]
  simp only [moduleToMsg, sectionToMsg, intervalToMsg, List.forall_mem_map, mexprSyms_exprToMsg, mblockOK_blockToMsg,
    symbolToMsg_referent, List.all_eq_true, exprToMsg_isSome, implies_true, and_true]
  exact and_left_comm

theorem mmodulesOK_toMsg {ms earlier : List ModuleV} (hent : ∀ m ∈ ms, m.entryPoint ≠ some [])
    (h : modulesOK earlier ms = true) :
    mmodulesOK (earlier.map moduleToMsg) (ms.map moduleToMsg) = true := by
  refine mmodulesOK_iff.2 fun pre' mm post' hs => ?_
  obtain ⟨pre, rest, rfl, rfl, h2⟩ := List.map_eq_append_iff.1 hs
  obtain ⟨m, post, rfl, rfl, rfl⟩ := List.map_eq_cons_iff.1 h2
  obtain ⟨hen, hrefs, _, hsecs⟩ := moduleOK_iff.1 (modulesOK_iff.1 h pre m post rfl)
  rw [← List.map_append]
  exact (mmoduleOK_toMsg_iff _ m (hent m (by simp))).2 ⟨hen, hrefs, fun s hs =>
    ⟨(hsecs s hs).1.1, fun x hx => ⟨((hsecs s hs).2 x hx).1, ((hsecs s hs).2 x hx).2.1⟩⟩⟩

theorem toMsg_cfgNodes (v : IRV) : ((toMsg v).modules.flatMap fun mm => mm.codeUuids ++ mm.proxies)
    = v.modules.flatMap fun m => m.codeUuids ++ m.proxies :=
  by simp only [toMsg, List.flatMap_map, moduleToMsg_codeUuids]; rfl

/-- an entry point is a 16-byte UUID, in particular not the empty string the writer uses
for "none" -/
theorem wfir_entry {v : IRV} (h : wfir v = true) {m : ModuleV} (hm : m ∈ v.modules) :
    m.entryPoint ≠ some [] := by
  intro he
  obtain ⟨pre, post, hs, hok⟩ := (wfir_iff.1 h).moduleOK hm
  obtain ⟨m', hm', hc⟩ := (List.mem_flatMap_snoc (f := ModuleV.codeUuids)).1 ((moduleOK_iff.1 hok).2.1.1 [] he)
  have hm'' : m' ∈ v.modules := by
    rw [hs]
    rcases List.mem_append.1 hm' with h | h
    · exact List.mem_append_left _ h
    · simp [List.mem_singleton.1 h]
  have hn : ([] : U) ∈ m'.nodeUuids :=
    moduleToMsg_nodeUuids m' ▸ codeUuids_sub (moduleToMsg_codeUuids m' ▸ hc)
  cases (wfir_iff.1 h).all16 [] (List.mem_cons_of_mem _ (List.mem_flatMap.2 ⟨m', hm'', hn⟩))

theorem closedMsg_toMsg {v : IRV} (h : wfir v = true) : closedMsg (toMsg v) = true := by
  have hent : ∀ m ∈ v.modules, m.entryPoint ≠ some [] := fun _ hm => wfir_entry h hm
  have h := wfir_iff.1 h
  refine closedMsg_iff.2 ⟨toMsg_nodeUuids v ▸ h.all16, toMsg_nodeUuids v ▸ h.nodup, h.version,
    mmodulesOK_toMsg hent h.modules, fun me hme => ?_⟩
  obtain ⟨e, he, rfl⟩ := List.mem_map.1 hme
  rw [toMsg_cfgNodes]
  refine ⟨(h.edges e he).1, fun l hl => ?_⟩
  obtain ⟨s, d, l'⟩ := e
  cases l' with
  | none => cases hl
  | some l' => cases hl; exact (h.edges _ he).2 l' rfl

/-- keep the first occurrence of every element, in order (the reader's set semantics) -/
def dedupM {α : Type} [DecidableEq α] (l : List α) : List α :=
  l.foldl (fun acc x => if x ∈ acc then acc else acc ++ [x]) []

def normExpr (e : MSymExpr) : MSymExpr := { e with attributeFlags := dedupNat e.attributeFlags }

def normInterval (x : MByteInterval) : MByteInterval :=
  { x with address := if x.hasAddress then x.address else 0,
           symbolicExpressions := x.symbolicExpressions.map fun kv => (kv.1, normExpr kv.2) }

def normSection (s : MSection) : MSection :=
  { s with sectionFlags := dedupNat s.sectionFlags, byteIntervals := s.byteIntervals.map normInterval }

def normModule (m : MModule) : MModule := { m with sections := m.sections.map normSection }

def normMsg (m : MIR) : MIR :=
  { m with modules := m.modules.map normModule,
           cfg := { vertices := m.modules.flatMap fun mm => mm.codeUuids ++ mm.proxies,
                    edges := dedupM m.cfg.edges } }

@[simp] theorem normInterval_blocks (x : MByteInterval) : (normInterval x).blocks = x.blocks := rfl
@[simp] theorem normInterval_uuid (x : MByteInterval) : (normInterval x).uuid = x.uuid := rfl
@[simp] theorem normInterval_blockUuids (x : MByteInterval) :
    (normInterval x).blockUuids = x.blockUuids := rfl
@[simp] theorem normSection_uuid (s : MSection) : (normSection s).uuid = s.uuid := rfl

theorem dedup_foldl_map {α β : Type} [DecidableEq α] [DecidableEq β] (f : α → β) (g : β → α)
    (hgf : ∀ a, g (f a) = a) (l acc : List α) :
    (l.map f).foldl (fun acc x => if x ∈ acc then acc else acc ++ [x]) (acc.map f)
      = (l.foldl (fun acc x => if x ∈ acc then acc else acc ++ [x]) acc).map f := by
  induction l generalizing acc with
  | nil => rfl
  | cons x xs ih =>
    have hm : f x ∈ acc.map f ↔ x ∈ acc := by
      constructor
      · intro h
        obtain ⟨y, hy, e⟩ := List.mem_map.1 h
        have : y = x := by rw [← hgf y, e, hgf]
        exact this ▸ hy
      · intro h; exact List.mem_map.2 ⟨x, h, rfl⟩
    simp only [List.map_cons, List.foldl_cons, hm]
    by_cases hx : x ∈ acc
    · simp only [hx, if_true]; exact ih acc
    · simp only [hx, if_false]
      have := ih (acc ++ [x])
      simpa using this

theorem edgeToMsg_edgeOfMsg (e : MEdge) : edgeToMsg (edgeOfMsg e) = e := by
  obtain ⟨s, t, l⟩ := e
  cases l <;> rfl

theorem dedupEdges_map_edgeOfMsg (l : List MEdge) :
    (dedupEdges (l.map edgeOfMsg)).map edgeToMsg = dedupM l := by
  have := dedup_foldl_map edgeOfMsg edgeToMsg edgeToMsg_edgeOfMsg l []
  simp only [List.map_nil] at this
  simp only [dedupEdges, dedupM, this, List.map_map]
  have hid : (edgeToMsg ∘ edgeOfMsg) = id := funext edgeToMsg_edgeOfMsg
  rw [hid, List.map_id]

theorem auxToMsg_decodeAux (l : List (String × MAuxData)) : (decodeAux l).map auxToMsg = l := by
  rw [decodeAux, List.map_map]
  exact List.map_id'' (fun _ => rfl) l

def OneOfs (m : MModule) : Prop :=
  ∀ s ∈ m.sections, ∀ x ∈ s.byteIntervals,
    (∀ b ∈ x.blocks, b.value.isSome = true) ∧ ∀ kv ∈ x.symbolicExpressions, kv.2.value.isSome = true

theorem MModStruct.oneOfs {m : MModule} (st : MModStruct m) : OneOfs m := fun s hs x hx =>
  ⟨fun b hb => mblockOK_isSome ((st.ivs s hs x hx).2 b hb), st.exprs s hs x hx⟩

theorem blockToMsg_ofBlock {b : MBlock} (h : b.value.isSome = true) : blockToMsg (ofBlock b) = b := by
  obtain ⟨off, val⟩ := b
  rcases val with _ | c | d
  · cases h
  · rfl
  · rfl

theorem exprToMsg_ofExpr {kv : Nat × MSymExpr} (h : kv.2.value.isSome = true) :
    exprToMsg (ofExpr kv) = (kv.1, normExpr kv.2) := by
  obtain ⟨k, val, fl⟩ := kv
  rcases val with _ | v
  · cases h
  · cases v <;> rfl

theorem symbolToMsg_ofSymbol (s : MSymbol) : symbolToMsg (ofSymbol s) = s := by
  obtain ⟨u, pl, n, a⟩ := s
  rcases pl with _ | p
  · rfl
  · cases p <;> rfl

theorem intervalToMsg_ofInterval {x : MByteInterval} (hb : ∀ b ∈ x.blocks, b.value.isSome = true)
    (he : ∀ kv ∈ x.symbolicExpressions, kv.2.value.isSome = true) :
    intervalToMsg (ofInterval x) = normInterval x := by
  have h1 : (x.blocks.map ofBlock).map blockToMsg = x.blocks := by
    rw [List.map_map]
    exact (List.map_congr_left fun b hm => blockToMsg_ofBlock (hb b hm)).trans (List.map_id _)
  have h2 : (x.symbolicExpressions.map ofExpr).map exprToMsg
      = x.symbolicExpressions.map fun kv => (kv.1, normExpr kv.2) := by
    rw [List.map_map]
    exact List.map_congr_left fun kv hm => exprToMsg_ofExpr (he kv hm)
  obtain ⟨mu, mb, me, mh, ma, msz, mc⟩ := x
  simp only [intervalToMsg, ofInterval, ofInterval0, normInterval, h1, h2, MByteInterval.mk.injEq,
    true_and, and_true]
  cases mh <;> simp

theorem moduleToMsg_ofModule {m : MModule} (h : OneOfs m) : moduleToMsg (ofModule m) = normModule m := by
  have hsec : (m.sections.map ofSection).map sectionToMsg = m.sections.map normSection := by
    rw [List.map_map]
    refine List.map_congr_left fun s hs => ?_
    have : (s.byteIntervals.map ofInterval).map intervalToMsg = s.byteIntervals.map normInterval := by
      rw [List.map_map]
      exact List.map_congr_left fun x hx => intervalToMsg_ofInterval (h s hs x hx).1 (h s hs x hx).2
    simp only [Function.comp, sectionToMsg, ofSection, ofSection0, normSection, this]
  have hsym : (m.symbols.map ofSymbol).map symbolToMsg = m.symbols := by
    rw [List.map_map]
    exact (List.map_congr_left fun s _ => symbolToMsg_ofSymbol s).trans (List.map_id _)
  have hep : (if m.entryPoint.isEmpty then none else some m.entryPoint).getD [] = m.entryPoint := by
    by_cases he : m.entryPoint.isEmpty = true
    · simp only [he, if_true, Option.getD_none]
      exact (List.isEmpty_iff.1 he).symm
    · simp [he]
  simp only [moduleToMsg, ofModule, normModule, hsec, hsym, hep, auxToMsg_decodeAux]

theorem map_moduleToMsg_ofModule {l : List MModule} (h : ∀ m ∈ l, OneOfs m) :
    (l.map ofModule).map moduleToMsg = l.map normModule := by
  rw [List.map_map]
  exact List.map_congr_left fun m hm => moduleToMsg_ofModule (h m hm)

theorem normModule_codeUuids (m : MModule) : (normModule m).codeUuids = m.codeUuids := by
  simp [MModule.codeUuids, normModule, normSection, List.flatMap_map]

theorem ofModule_codeUuids {m : MModule} (h : OneOfs m) : (ofModule m).codeUuids = m.codeUuids := by
  rw [← moduleToMsg_codeUuids, moduleToMsg_ofModule h, normModule_codeUuids]

theorem cfgNodes_ofMsg {m : MIR} (h : ∀ mm ∈ m.modules, OneOfs mm) :
    ((ofMsg m).modules.flatMap fun mv => mv.codeUuids ++ mv.proxies)
      = m.modules.flatMap fun mm => mm.codeUuids ++ mm.proxies := by
  rw [ofMsg_modules, List.flatMap_map]
  exact List.flatMap_congr_mem fun mm hm => by rw [ofModule_codeUuids (h mm hm)]; rfl

theorem toMsg_ofMsg {m : MIR} (h : ∀ mm ∈ m.modules, OneOfs mm) : toMsg (ofMsg m) = normMsg m := by
  have hvert : irCfgNodes (ofMsg m) = m.modules.flatMap fun mm => mm.codeUuids ++ mm.proxies :=
    cfgNodes_ofMsg h
  simp only [toMsg, normMsg, hvert]
  simp only [ofMsg, map_moduleToMsg_ofModule h, auxToMsg_decodeAux, dedupEdges_map_edgeOfMsg]

theorem oneOfs_of_chkMsg {m : MIR} (h : chkMsg m = .ok ()) : ∀ mm ∈ m.modules, OneOfs mm := by
  simp only [chkMsg, andThen_ok] at h
  exact fun mm hm =>
    let ⟨_, hc⟩ := chkList_ok_mem h.2.2.1 hm
    (mmodStruct_of_chk hc).oneOfs

theorem toMsg_of_fromMsg {m : MIR} {v : IRV} (h : fromMsg m = .ok v) : toMsg v = normMsg m := by
  obtain ⟨hc, rfl⟩ := fromMsg_ok_iff.1 h
  exact toMsg_ofMsg (oneOfs_of_chkMsg hc)

theorem blockToMsg_inj (a b : BlockV) (h : blockToMsg a = blockToMsg b) : a = b := by
  cases a <;> cases b <;> simp [blockToMsg] at h <;> simp [h]

theorem exprToMsg_inj (a b : ExprEntryV) (h : exprToMsg a = exprToMsg b) : a = b := by
  obtain ⟨k, x, at1⟩ := a; obtain ⟨k', x', at2⟩ := b
  cases x <;> cases x' <;> simp [exprToMsg] at h <;> simp [h]

theorem intervalToMsg_inj (a b : IntervalV) (h : intervalToMsg a = intervalToMsg b) : a = b := by
  obtain ⟨u, ad, sz, c, bl, ex⟩ := a; obtain ⟨u', ad', sz', c', bl', ex'⟩ := b
  simp only [intervalToMsg, MByteInterval.mk.injEq] at h
  obtain ⟨rfl, hb, he, h1, h2, rfl, rfl⟩ := h
  rw [(List.map_inj_right fun _ _ => blockToMsg_inj _ _).1 hb,
    (List.map_inj_right fun _ _ => exprToMsg_inj _ _).1 he]
  cases ad <;> cases ad' <;> simp_all

theorem sectionToMsg_inj (a b : SectionV) (h : sectionToMsg a = sectionToMsg b) : a = b := by
  obtain ⟨u, n, f, i⟩ := a; obtain ⟨u', n', f', i'⟩ := b
  simp only [sectionToMsg, MSection.mk.injEq] at h
  obtain ⟨rfl, rfl, hi, rfl⟩ := h
  rw [(List.map_inj_right fun _ _ => intervalToMsg_inj _ _).1 hi]

theorem symbolToMsg_inj (a b : SymbolV) (h : symbolToMsg a = symbolToMsg b) : a = b := by
  obtain ⟨u, n, p, e⟩ := a; obtain ⟨u', n', p', e'⟩ := b
  cases p <;> cases p' <;> simp [symbolToMsg] at h <;> simp [h]

theorem auxToMsg_inj (a b : AuxV) (h : auxToMsg a = auxToMsg b) : a = b := by
  obtain ⟨k, t, d⟩ := a; obtain ⟨k', t', d'⟩ := b
  simp only [auxToMsg, Prod.mk.injEq, MAuxData.mk.injEq] at h
  obtain ⟨rfl, rfl, rfl⟩ := h
  rfl

theorem edgeOfMsg_edgeToMsg (e : EdgeV) : edgeOfMsg (edgeToMsg e) = e := by
  obtain ⟨s, d, l⟩ := e
  cases l <;> rfl

theorem edgeToMsg_inj (a b : EdgeV) (h : edgeToMsg a = edgeToMsg b) : a = b := by
  rw [← edgeOfMsg_edgeToMsg a, h, edgeOfMsg_edgeToMsg]

/-- up to an entry point `some []`, which the writer does not tell from `none` -/
theorem moduleToMsg_inj (a b : ModuleV) (ha : a.entryPoint ≠ some []) (hb : b.entryPoint ≠ some [])
    (h : moduleToMsg a = moduleToMsg b) : a = b := by
  obtain ⟨a1, a2, a3, a4, a5, a6, a7, a8, a9, a10, a11, a12, a13⟩ := a
  obtain ⟨b1, b2, b3, b4, b5, b6, b7, b8, b9, b10, b11, b12, b13⟩ := b
  simp only [moduleToMsg, MModule.mk.injEq] at h
  obtain ⟨rfl, rfl, rfl, rfl, rfl, rfl, rfl, hsy, rfl, hse, hau, hep, rfl⟩ := h
  rw [(List.map_inj_right fun _ _ => symbolToMsg_inj _ _).1 hsy,
    (List.map_inj_right fun _ _ => sectionToMsg_inj _ _).1 hse,
    (List.map_inj_right fun _ _ => auxToMsg_inj _ _).1 hau]
  cases a9 <;> cases b9 <;> simp_all

theorem toMsg_inj (a b : IRV) (ha : ∀ m ∈ a.modules, m.entryPoint ≠ some [])
    (hb : ∀ m ∈ b.modules, m.entryPoint ≠ some []) (h : toMsg a = toMsg b) : a = b := by
  obtain ⟨a1, a2, a3, a4, a5⟩ := a
  obtain ⟨b1, b2, b3, b4, b5⟩ := b
  simp only [toMsg, MIR.mk.injEq, MCFG.mk.injEq] at h
  obtain ⟨rfl, hm, hau, rfl, _, he⟩ := h
  rw [List.map_inj_on (P := fun m => m.entryPoint ≠ some []) moduleToMsg_inj ha hb hm,
    (List.map_inj_right fun _ _ => auxToMsg_inj _ _).1 hau, (List.map_inj_right fun _ _ => edgeToMsg_inj _ _).1 he]

theorem normInterval_intervalToMsg {x : IntervalV} (h : ∀ e ∈ x.exprs, e.attrs.Nodup) :
    normInterval (intervalToMsg x) = intervalToMsg x := by
  have he : (x.exprs.map exprToMsg).map (fun kv => (kv.1, normExpr kv.2)) = x.exprs.map exprToMsg := by
    rw [List.map_map]
    exact List.map_congr_left fun e he => by
      simp only [Function.comp, normExpr, exprToMsg, dedupNat_id (h e he)]
  obtain ⟨u, ad, sz, c, bl, ex⟩ := x
  simp only [normInterval, intervalToMsg, he]
  cases ad <;> rfl

theorem normSection_sectionToMsg {s : SectionV} (hf : s.flags.Nodup)
    (h : ∀ x ∈ s.intervals, ∀ e ∈ x.exprs, e.attrs.Nodup) :
    normSection (sectionToMsg s) = sectionToMsg s := by
  have hi : (s.intervals.map intervalToMsg).map normInterval = s.intervals.map intervalToMsg := by
    rw [List.map_map]
    exact List.map_congr_left fun x hx => normInterval_intervalToMsg (h x hx)
  simp only [normSection, sectionToMsg, hi, dedupNat_id hf]

theorem normModule_moduleToMsg {m : ModuleV}
    (h : ∀ s ∈ m.sections, s.flags.Nodup ∧ ∀ x ∈ s.intervals, ∀ e ∈ x.exprs, e.attrs.Nodup) :
    normModule (moduleToMsg m) = moduleToMsg m := by
  have hs : (m.sections.map sectionToMsg).map normSection = m.sections.map sectionToMsg := by
    rw [List.map_map]
    exact List.map_congr_left fun s hs => normSection_sectionToMsg (h s hs).1 (h s hs).2
  simp only [normModule, moduleToMsg, hs]

theorem wfir_sets {v : IRV} (h : wfir v = true) {m : ModuleV} (hm : m ∈ v.modules) :
    ∀ s ∈ m.sections, s.flags.Nodup ∧ ∀ x ∈ s.intervals, ∀ e ∈ x.exprs, e.attrs.Nodup :=
  have d := (distinctSiblings_of_wfir (wfir_iff.1 h)).mod hm
  fun _ hs => ⟨(d.sec hs).1, fun _ hx => ((d.sec hs).int hx).attrs⟩

theorem normMsg_toMsg {v : IRV} (h : wfir v = true) : normMsg (toMsg v) = toMsg v := by
  have hm : (v.modules.map moduleToMsg).map normModule = v.modules.map moduleToMsg := by
    rw [List.map_map]
    exact List.map_congr_left fun m hm => normModule_moduleToMsg (wfir_sets h hm)
  have hv : ((v.modules.map moduleToMsg).flatMap fun mm => mm.codeUuids ++ mm.proxies)
      = irCfgNodes v := toMsg_cfgNodes v
  have he : dedupM (v.edges.map edgeToMsg) = v.edges.map edgeToMsg := by
    have hn : (v.edges.map edgeToMsg).Nodup :=
      List.Pairwise.map edgeToMsg (fun a b hne he => hne (edgeToMsg_inj a b he))
        (wfir_iff.1 h).edgesNodup
    simpa [dedupM] using dedup_foldl_id (v.edges.map edgeToMsg) [] (by simpa using hn)
  simp only [normMsg, toMsg, hm, hv, he]

theorem ofModule_entry (m : MModule) : (ofModule m).entryPoint ≠ some [] := by
  simp only [ofModule]
  split
  · exact nofun
  · next hne =>
    intro h
    injection h with e
    exact hne (e ▸ rfl)

/-! ### what an accepted message says of the IR it is read as

The node and visibility lists of `ofModule m` are those of `m` (read off
`moduleToMsg (ofModule m) = normModule m`), so the closedness of an accepted message is the
self-containedness of the result, the distinctness of map keys apart. -/

theorem normSection_nodeUuids (s : MSection) : (normSection s).nodeUuids = s.nodeUuids := by
  simp [MSection.nodeUuids, normSection, List.flatMap_map]

theorem normModule_nodeUuids (m : MModule) : (normModule m).nodeUuids = m.nodeUuids := by
  simp [MModule.nodeUuids, normModule, List.flatMap_map, normSection_nodeUuids]

theorem normModule_blockUuids (m : MModule) : (normModule m).blockUuids = m.blockUuids := by
  simp [MModule.blockUuids, normModule, normSection, List.flatMap_map]

theorem ofModule_nodeUuids {m : MModule} (h : OneOfs m) : (ofModule m).nodeUuids = m.nodeUuids := by
  rw [← moduleToMsg_nodeUuids, moduleToMsg_ofModule h, normModule_nodeUuids]

theorem ofMsg_nodeUuids {m : MIR} (h : ∀ mm ∈ m.modules, OneOfs mm) :
    (ofMsg m).nodeUuids = m.nodeUuids := by
  rw [IRV.nodeUuids, MIR.nodeUuids, ofMsg_modules, List.flatMap_map]
  exact congrArg _ (List.flatMap_congr_mem fun mm hm => ofModule_nodeUuids (h mm hm))

theorem ofInterval_blockUuids {x : MByteInterval} (h : ∀ b ∈ x.blocks, b.value.isSome = true) :
    (ofInterval x).blockUuids = x.blockUuids := by
  rw [IntervalV.blockUuids, MByteInterval.blockUuids, ofInterval, ofInterval0, List.map_map]
  refine (List.filterMap_eq_map_of_forall fun b hb => ?_).symm
  have := h b hb
  obtain ⟨off, val⟩ := b
  rcases val with _ | c | d
  · cases this
  · rfl
  · rfl

@[simp] theorem mexprSyms_normExpr (e : MSymExpr) : mexprSyms (normExpr e) = mexprSyms e := rfl

theorem normModule_symbolUuids (m : MModule) : (normModule m).symbolUuids = m.symbolUuids := rfl

theorem all_dedupNat (l : List Nat) (p : Nat → Bool) : (dedupNat l).all p = l.all p := by
  rw [Bool.eq_iff_iff]
  simp only [List.all_eq_true, mem_dedupNat]

theorem mmoduleOK_norm (earlier : List MModule) (mm : MModule) :
    mmoduleOK (earlier.map normModule) (normModule mm) = mmoduleOK earlier mm := by
  simp only [mmoduleOK, List.flatMap_map,
    normModule_codeUuids, normModule_blockUuids, normModule_symbolUuids]
  simp only [normModule, normSection, normInterval, List.all_map, Function.comp_def, all_dedupNat,
    mexprSyms_normExpr]
  rfl

/-- `moduleOK` apart from the distinctness of map keys (aux data tables, symbolic expressions),
which protobuf maps have by construction and the reader does not look at -/
def ModuleGood (earlier : List ModuleV) (m : ModuleV) : Prop :=
  (pyEnumHas "ISA" m.isa = true ∧ pyEnumHas "FileFormat" m.fileFormat = true
      ∧ pyEnumHas "ByteOrder" m.byteOrder = true)
    ∧ ModRefs earlier m
    ∧ ∀ s ∈ m.sections, SecFlagsGood s ∧ ∀ x ∈ s.intervals,
        x.contents.length ≤ x.size ∧ (∀ b ∈ x.blocks, dmOK b) ∧ ∀ e ∈ x.exprs, e.attrs.Nodup

theorem moduleGood_ofModule {pre : List MModule} {mm : MModule} (h : mmoduleOK pre mm = true)
    (hone : ∀ m' ∈ pre, OneOfs m') : ModuleGood (pre.map ofModule) (ofModule mm) := by
  obtain ⟨_, _, hsecs'⟩ := mmoduleOK_iff.1 h
  have hm1 : OneOfs mm := fun s hs x hx =>
    ⟨fun b hb => mblockOK_isSome (((hsecs' s hs).2 x hx).2.1 b hb), ((hsecs' s hs).2 x hx).2.2⟩
  -- written out again the value is the normal form of the message, which is closed as the message is
  obtain ⟨hen, hrefs, hsecs⟩ := (mmoduleOK_toMsg_iff _ _ (ofModule_entry mm)).1
    (by rw [map_moduleToMsg_ofModule hone, moduleToMsg_ofModule hm1, mmoduleOK_norm]; exact h)
  refine ⟨hen, hrefs, fun s hs => ?_⟩
  obtain ⟨ms, _, rfl⟩ := List.mem_map.1 hs
  refine ⟨⟨(hsecs _ hs).1, nodup_dedupNat _⟩, fun x hx => ?_⟩
  obtain ⟨mx, _, rfl⟩ := List.mem_map.1 hx
  refine ⟨((hsecs _ hs).2 _ hx).1, ((hsecs _ hs).2 _ hx).2, fun e he => ?_⟩
  obtain ⟨kv, _, rfl⟩ := List.mem_map.1 he
  exact nodup_dedupNat _

theorem accepted_good {m : MIR} {v : IRV} (h : fromMsg m = .ok v) :
    (∀ u ∈ v.nodeUuids, u.length = 16) ∧ v.version = Generated.protobufVersion
      ∧ (∀ pre mod post, v.modules = pre ++ mod :: post → ModuleGood pre mod)
      ∧ (∀ e ∈ v.edges,
          (e.src ∈ (v.modules.flatMap fun m => m.codeUuids ++ m.proxies)
            ∧ e.dst ∈ (v.modules.flatMap fun m => m.codeUuids ++ m.proxies))
          ∧ ∀ l, e.label = some l → pyEnumHas "EdgeType" l.type = true)
      ∧ v.edges.Nodup := by
  obtain ⟨hc, rfl⟩ := fromMsg_ok_iff.1 h
  obtain ⟨h16, hver, hmods, hedges⟩ := closed_of_chkMsg hc
  have hone := oneOfs_of_chkMsg hc
  refine ⟨by rw [ofMsg_nodeUuids hone]; exact h16, hver, fun pre mod post hs => ?_, fun e he => ?_,
    nodup_dedupEdges _⟩
  · obtain ⟨l1, l2, hl, rfl, h2⟩ := List.map_eq_append_iff.1 hs
    obtain ⟨mm, l3, rfl, rfl, rfl⟩ := List.map_eq_cons_iff.1 h2
    refine moduleGood_ofModule (by simpa using mmodulesOK_iff.1 hmods l1 mm l3 hl) fun m' hm' =>
      hone m' ?_
    rw [hl]
    exact List.mem_append_left _ hm'
  · obtain ⟨me, hme, rfl⟩ := List.mem_map.1 (mem_dedupEdges.1 he)
    obtain ⟨hst, hl⟩ := hedges me hme
    rw [cfgNodes_ofMsg hone]
    refine ⟨hst, fun l hl' => ?_⟩
    obtain ⟨src, dst, lab⟩ := me
    cases lab with
    | none => cases hl'
    | some ml =>
      cases hl'
      exact hl ml rfl

theorem fromMsg_nodup {m : MIR} {v : IRV} (h : fromMsg m = .ok v)
    (hside : ∀ mod ∈ v.modules, ∀ s ∈ mod.sections, ∀ x ∈ s.intervals, x.uuid ∉ x.blockUuids) :
    v.nodeUuids.Nodup := by
  obtain ⟨hc, rfl⟩ := fromMsg_ok_iff.1 h
  have hone := oneOfs_of_chkMsg hc
  rw [ofMsg_nodeUuids hone]
  refine nodup_of_chkMsg hc fun mm hm s hs x hx => ?_
  have := hside (ofModule mm) (List.mem_map_of_mem hm) (ofSection s) (List.mem_map_of_mem hs)
    (ofInterval x) (List.mem_map_of_mem hx)
  rwa [ofInterval_blockUuids (hone mm hm s hs x hx).1] at this

theorem wfir_of_fromMsg {m : MIR} {v : IRV} (h : fromMsg m = .ok v)
    (hside : ∀ mod ∈ v.modules, ∀ s ∈ mod.sections, ∀ x ∈ s.intervals, x.uuid ∉ x.blockUuids)
    (hkeys : (v.aux.map (·.key)).Nodup ∧ ∀ m ∈ v.modules, (m.aux.map (·.key)).Nodup ∧
      ∀ s ∈ m.sections, ∀ x ∈ s.intervals, (x.exprs.map (·.key)).Nodup) : wfir v = true := by
  obtain ⟨h16, hver, hmods, hedges, hend⟩ := accepted_good h
  refine wfir_iff.2 ⟨h16, fromMsg_nodup h hside, hver, ?_, hkeys.1, hend, hedges⟩
  refine modulesOK_iff.2 fun pre mod post hs => ?_
  obtain ⟨hen, hrefs, hsecs⟩ := hmods pre mod post hs
  have hk := hkeys.2 mod (by rw [hs]; simp)
  exact moduleOK_iff.2 ⟨hen, by simpa using hrefs, hk.1, fun s hs' => ⟨(hsecs s hs').1, fun x hx =>
    ⟨((hsecs s hs').2 x hx).1, ((hsecs s hs').2 x hx).2.1, hk.2 s hs' x hx, ((hsecs s hs').2 x hx).2.2⟩⟩⟩

end Gtirb.Msg
