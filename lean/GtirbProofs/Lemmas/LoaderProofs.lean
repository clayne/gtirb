import GtirbModel.Loader
import GtirbProofs.Lemmas.LoaderDecoders
import GtirbProofs.Lemmas.ForestFrame
import GtirbProofs.Lemmas.ForestInvProofs
import GtirbProofs.Lemmas.CacheProofs
/-! Lemmas for property C17 on the staged decoder (`GtirbModel/Loader.lean`): whatever `load`
accepts is a coherent IR, duplicated UUIDs included (`load_ok`, through the invariant `Mid` of the middle of a
load). -/
namespace Gtirb.Loader
open Gtirb.Forest

/-! ## The table: what the composite operations do to it, without any invariant -/

/-- the table of `g'` is the table of `g` with some keys `(i, uuid y)`, `I i`, `D y`, deleted -/
def CacheLess (g g' : G) (I : Nat → Prop) (D : Nat → Prop) : Prop :=
  ∀ i' u', g'.cache i' u' = g.cache i' u' ∨ (g'.cache i' u' = none ∧ I i' ∧ ∃ y, D y ∧ g.uuid y = u')

theorem CacheLess.refl (g : G) (I D : Nat → Prop) : CacheLess g g I D := fun _ _ => .inl rfl

theorem CacheLess.mono {g g' : G} {I I' D D' : Nat → Prop} (h : CacheLess g g' I D)
    (hI : ∀ i, I i → I' i) (hD : ∀ y, D y → D' y) : CacheLess g g' I' D' := by
  intro i' u'
  rcases h i' u' with h1 | ⟨h1, h2, y, h3, h4⟩
  · exact .inl h1
  · exact .inr ⟨h1, hI _ h2, y, hD _ h3, h4⟩

theorem CacheLess.trans {a b c : G} {I D : Nat → Prop} (h1 : CacheLess a b I D) (hu : b.uuid = a.uuid)
    (h2 : CacheLess b c I D) : CacheLess a c I D := by
  intro i' u'
  rcases h2 i' u' with e2 | ⟨e2, hi, y, hy, hyu⟩
  · rw [e2]; exact h1 i' u'
  · exact .inr ⟨e2, hi, y, hy, by rw [← hu]; exact hyu⟩

theorem CacheLess.congr_right {g g' g'' : G} {I D : Nat → Prop} (h : CacheLess g g' I D)
    (hc : g''.cache = g'.cache) : CacheLess g g'' I D := by
  intro i' u'; rw [hc]; exact h i' u'

theorem cacheDel_cache {g g' : G} {i u : Nat} (h : cacheDel g i u = .ok g') :
    g'.cache = fun i' u' => if i' = i ∧ u' = u then none else g.cache i' u' := by
  unfold cacheDel at h
  split at h
  · cases h
  · cases h; rfl

theorem delAll_less (i : Nat) : ∀ (L : List Nat) (g g' : G), cache_delAll g i L = .ok g' →
    CacheLess g g' (· = i) (· ∈ L)
  | [], g, g', h => by cases h; exact CacheLess.refl _ _ _
  | x :: L, g, g', h => by
    rw [cache_delAll_cons] at h
    obtain ⟨g1, h1, h2⟩ := bindE_ok h
    have l1 : CacheLess g g1 (· = i) (· ∈ x :: L) := by
      intro i' u'
      rw [cacheDel_cache h1]
      by_cases hh : i' = i ∧ u' = g.uuid x
      · exact .inr ⟨if_pos hh, hh.1, x, List.mem_cons_self, hh.2.symm⟩
      · exact .inl (if_neg hh)
    exact l1.trans (cache_cacheDel_only h1).uuid
      ((delAll_less i L g1 g' h2).mono (fun _ h => h) (fun _ hy => List.mem_cons_of_mem _ hy))

theorem cacheRemove_less {g g' : G} {i v : Nat} (h : cacheRemove g i v = .ok g') :
    CacheLess g g' (· = i) (· ∈ cache_walk g.kids (g.kind v) v) := by
  rw [cache_cacheRemove_eq] at h
  exact delAll_less i _ g g' h

theorem setDiscard_less {g g' : G} {q : Nat} {s : Slot} {v : Nat} (h : setDiscard g q s v = .ok g') :
    CacheLess g g' (fun i => irOf (setPar g v none) q = some i) (· ∈ cache_walk g.kids (g.kind v) v) := by
  unfold setDiscard at h
  split at h
  · have key : ∀ g2 : G, CacheSame (setPar g v none) g2 →
        (match irOf g2 q with
          | some i => match cacheRemove g2 i v with
            | .ok g3 => Except.ok (kidsErase g3 q s v)
            | .error e => .error e
          | none => .ok (kidsErase g2 q s v)) = .ok g' →
        CacheLess g g' (fun i => irOf (setPar g v none) q = some i) (· ∈ cache_walk g.kids (g.kind v) v) := by
      intro g2 h2 h
      have hir : irOf g2 q = irOf (setPar g v none) q := h2.irOf q
      split at h
      · rename_i i hi
        split at h
        · rename_i g3 h3
          cases h
          have := cacheRemove_less h3
          rw [h2.kids, h2.kind] at this
          intro i' u'
          rcases this i' u' with e | ⟨e, hi', y, hy, hyu⟩
          · left; show g3.cache i' u' = _; rw [e, h2.cache]; rfl
          · right
            refine ⟨e, ?_, y, hy, ?_⟩
            · show irOf (setPar g v none) q = some i'
              rw [← hir, hi, hi']
            · rw [h2.uuid] at hyu; exact hyu
        · cases h
      · cases h
        exact (CacheLess.refl _ _ _).congr_right (g'' := kidsErase g2 q s v) (by show g2.cache = _; rw [h2.cache]; rfl)
    refine key _ ?_ h
    split
    · exact cache_symIndexDiscard_same _ _ _
    · exact CacheSame.rfl' _
  · cases h; exact CacheLess.refl _ _ _

theorem setAdd_less {g g' : G} {p v : Nat} {s : Slot} (h : setAdd g p s v = .ok g')
    (hpp : g.par p = none) (hkp : g.kind p ≠ .ir) (hpv : p ≠ v) :
    CacheLess g g' (fun i => ∃ q, g.par v = some q ∧ irOf (setPar g v none) q = some i)
      (· ∈ cache_walk g.kids (g.kind v) v) := by
  -- `cache_attachState` is by definition what `setAdd` does after the detach, so `tail` applies to `h` below
  have tail : ∀ g1, g1.par p = g.par p → g1.kind = g.kind →
      (Except.ok (cache_attachState
        (if s = .secs ∨ s = .syms ∨ s = .proxies then symIndexAdd (setPar g1 v (some p)) p v
          else setPar g1 v (some p)) p s v) : Except Exc G) = Except.ok g' → g'.cache = g1.cache := by
    intro g1 hp1 hk1 h
    cases h
    have h3 : CacheSame (setPar g1 v (some p))
        (if s = .secs ∨ s = .syms ∨ s = .proxies then symIndexAdd (setPar g1 v (some p)) p v
          else setPar g1 v (some p)) := by
      split
      · exact cache_symIndexAdd_same _ _ _
      · exact CacheSame.rfl' _
    generalize (if s = .secs ∨ s = .syms ∨ s = .proxies then symIndexAdd (setPar g1 v (some p)) p v
          else setPar g1 v (some p)) = g3 at h3
    have hir : irOf g3 p = none := by
      have hp3 : g3.par p = none := by
        rw [h3.par]; show (if p = v then some p else g1.par p) = none
        rw [if_neg hpv, hp1]; exact hpp
      refine cache_irOf_detached hp3 ?_
      rw [h3.kind]; show g1.kind p ≠ .ir; rw [hk1]; exact hkp
    unfold cache_attachState
    rw [hir]
    show g3.cache = _
    rw [h3.cache]; rfl
  unfold setAdd at h
  cases hq : g.par v with
  | none =>
    rw [hq] at h
    exact (CacheLess.refl _ _ _).congr_right (tail g rfl rfl h)
  | some q =>
    rw [hq] at h
    simp only [] at h
    cases h1 : setDiscard g q s v with
    | error e => rw [h1] at h; cases h
    | ok g1 =>
      rw [h1] at h
      have e := tail g1 (by rw [setDiscard_par h1, if_neg (fun hh => hpv hh.1)]) (setDiscard_stable h1).kind h
      exact ((setDiscard_less h1).congr_right e).mono (fun i hi => ⟨q, rfl, hi⟩) (fun _ hy => hy)

/-- back-pointer chains of the nodes `≥ n0` stay among them; `n0` is their only IR. So the keys deleted when
such a node is moved lie in row `n0` (`Closed.irOf_new`) -/
structure Closed (n0 : Nat) (g : G) : Prop where
  parInv : CacheParInv g
  par_new : ∀ x p, n0 ≤ x → g.par x = some p → n0 ≤ p
  only_ir : ∀ x, n0 ≤ x → x < g.n → g.kind x = .ir → x = n0

theorem Closed.irOf_new {n0 : Nat} {g : G} (h : Closed n0 g) {x i : Nat} (hx : n0 ≤ x) (hlt : x < g.n)
    (hi : irOf g x = some i) : i = n0 := by
  induction x using cache_par_induction h.parInv with
  | root x hp =>
    rw [cache_irOf_root hp] at hi
    split at hi
    · cases hi; exact h.only_ir _ hx hlt (by assumption)
    · cases hi
  | step x a hp ih =>
    rw [cache_irOf_par h.parInv hp] at hi
    exact ih (h.par_new x a hx hp) (h.parInv.alloc _ _ hp).2 hi

theorem Closed.setPar_none {n0 : Nat} {g : G} (h : Closed n0 g) (v : Nat) : Closed n0 (setPar g v none) := by
  refine ⟨(ParSet.setPar g v none).parInv h.parInv trivial, ?_, h.only_ir⟩
  intro x p hx hp
  simp only [setPar_par] at hp
  split at hp
  · cases hp
  · exact h.par_new x p hx hp

theorem Closed.of_attached {n0 : Nat} {g g' : G} {v p : Nat} (h : Closed n0 g) (ha : CacheAttached g g' v p)
    (hv : v < g.n) (hpn : p < g.n) (hp0 : n0 ≤ p) (hkp : parentKind (g.kind v) = some (g.kind p)) :
    Closed n0 g' := by
  refine ⟨ha.parInv h.parInv ⟨hv, hpn, hkp⟩, ?_, ?_⟩
  · intro x a hx hxa
    by_cases hxv : x = v
    · subst hxv; rw [ha.parv] at hxa; cases hxa; exact hp0
    · rw [ha.par x hxv] at hxa; exact h.par_new x a hx hxa
  · intro x hx hlt hk
    rw [ha.n] at hlt; rw [ha.kind] at hk
    exact h.only_ir x hx hlt hk

theorem walk_block {k : Nat → Slot → List Nat} {kd : Kind} (h : kd = .code ∨ kd = .data) (v : Nat) :
    cache_walk k kd v = [v] := by
  rcases h with rfl | rfl <;> rfl

theorem blkStep_less {n0 : Nat} {gk gk' : G} {p v : Nat} (hc : Closed n0 gk) (hv0 : n0 ≤ v)
    (hkv : gk.kind v = .code ∨ gk.kind v = .data)
    (h : cache_blkStep none p gk v = .ok gk') : CacheLess gk gk' (· = n0) (· = v) := by
  unfold cache_blkStep at h
  cases hq : gk.par v with
  | none =>
    rw [hq] at h
    cases h
    exact CacheLess.refl _ _ _
  | some q =>
    rw [hq] at h
    simp only [] at h
    cases h1 : setDiscard gk q .blocks v with
    | error e => rw [h1] at h; cases h
    | ok g1 =>
      rw [h1] at h
      cases h
      have hl := setDiscard_less h1
      rw [walk_block hkv] at hl
      refine (hl.congr_right (g'' := cache_blkTail none (setPar g1 v (some p)) v) rfl).mono ?_ ?_
      · intro i hi
        exact (hc.setPar_none v).irOf_new (hc.par_new v q hv0 hq) (hc.parInv.alloc v q hq).2 hi
      · intro y hy; simpa using hy

theorem blkUpdate_less {n0 : Nat} {g g' : G} {p : Nat} {vs : List Nat} (hc : Closed n0 g) (hp0 : n0 ≤ p)
    (hpn : p < g.n) (hkp : g.kind p = .interval)
    (hvs : ∀ v, v ∈ vs → n0 ≤ v ∧ v < g.n ∧ (g.kind v = .code ∨ g.kind v = .data))
    (hir : irOf g p = none) (h : blkUpdate g p vs = .ok g') :
    CacheLess g g' (· = n0) (· ∈ blkNew g p vs) := by
  rw [cache_blkUpdate_eq, hir] at h
  split at h
  · cases h
  · rename_i g1 h1
    cases h
    have key : Closed n0 g1 ∧ g1.n = g.n ∧ g1.kind = g.kind ∧ g1.uuid = g.uuid ∧
        CacheLess g g1 (· = n0) (· ∈ blkNew g p vs) := by
      refine foldE_inv (fun gk => Closed n0 gk ∧ gk.n = g.n ∧ gk.kind = g.kind ∧ gk.uuid = g.uuid ∧
        CacheLess g gk (· = n0) (· ∈ blkNew g p vs)) _ ?_ g g1 ⟨hc, rfl, rfl, rfl, CacheLess.refl _ _ _⟩ h1
      intro gk x gk' hx ⟨hck, hn, hk, hu, hl⟩ hstep
      have hxv := (mem_blkNew.1 hx).1
      obtain ⟨hx0, hxn, hxk⟩ := hvs x hxv
      have ha := cache_blkStep_shape hstep
      refine ⟨hck.of_attached ha (by rw [hn]; exact hxn) (by rw [hn]; exact hpn) hp0 ?_, ha.n.trans hn,
        ha.kind.trans hk, ha.uuid.trans hu, ?_⟩
      · rw [hk, hkp]; rcases hxk with h | h <;> rw [h] <;> rfl
      · refine hl.trans hu ((blkStep_less hck hx0 (by rw [hk]; exact hxk) hstep).mono (fun _ h => h) ?_)
        intro y hy; subst hy; exact hx
    exact key.2.2.2.2.congr_right
      (List.foldlRecOn (motive := fun g' : G => g'.cache = g1.cache) _ (fun g v => kidsInsert g p .blocks v) rfl
        fun _ h _ _ => h)

/-- `append` to the module list: the keys of the module's subtree are deleted (when it was in a
list before) and then all registered again -/
theorem modAppend_cache {g g' : G} {i v : Nat} (h : modAppend g i v = .ok g') :
    ∃ gX, CacheLess g gX (fun i' => g.par v = some i') (· ∈ cache_walk g.kids (g.kind v) v) ∧
      gX.kind = g.kind ∧ gX.uuid = g.uuid ∧ (∀ p' s', s' ≠ Slot.mods → gX.kids p' s' = g.kids p' s') ∧
      g'.cache = (cacheAdd gX i v).cache := by
  unfold modAppend modInsert modHookAdd at h
  cases hq : g.par v with
  | none =>
    rw [hq] at h
    cases h
    exact ⟨setPar g v (some i), CacheLess.refl _ _ _, rfl, rfl, fun _ _ _ => rfl, rfl⟩
  | some j =>
    rw [hq] at h
    simp only [] at h
    cases h1 : modListRemove g j v with
    | error e => rw [h1] at h; cases h
    | ok g1 =>
      rw [h1] at h
      cases h
      unfold modListRemove at h1
      split at h1
      · cases h2 : modHookRemove g j v with
        | error e => rw [h2] at h1; cases h1
        | ok g2 =>
          rw [h2] at h1; cases h1
          unfold modHookRemove at h2
          have hl := cacheRemove_less h2
          have ho := (orKeyError_cacheRemove _ _ _).of_ok h2
          refine ⟨setPar (kidsSet g2 j .mods ((g2.kids j .mods).erase v)) v (some i), ?_, ?_, ?_, ?_, rfl⟩
          · exact (hl.congr_right (g'' := setPar (kidsSet g2 j .mods ((g2.kids j .mods).erase v)) v (some i))
              rfl).mono (fun i' hi' => by rw [hi']) (fun _ hy => hy)
          · show g2.kind = _; rw [ho.kind]; rfl
          · show g2.uuid = _; rw [ho.uuid]; rfl
          · intro p' s' hs'
            show (if p' = j ∧ s' = Slot.mods then _ else g2.kids p' s') = _
            rw [if_neg (fun hh => hs' hh.2), ho.kids]; rfl
      · cases h1

theorem setAdd_kids_other {g g' : G} {p : Nat} {s : Slot} {v : Nat} (h : setAdd g p s v = .ok g') {q : Nat}
    (hqp : q ≠ p) (hq : g.par v ≠ some q) (s' : Slot) : g'.kids q s' = g.kids q s' := by
  rw [kids_of_core ((orKeyError_setAdd g p s v).of_ok h)]
  unfold attach
  rw [kidsInsert_kids, if_neg (fun hh => hqp hh.1)]
  exact relink_kids_of_ne (g := core g) q s' hq

theorem setAdd_payload {g g' : G} {p : Nat} {s : Slot} {v : Nat} (h : setAdd g p s v = .ok g') :
    g'.payload = g.payload := by
  have := congrArg G.payload ((orKeyError_setAdd g p s v).of_ok h)
  simpa using this

theorem foldl_kidsInsert_kids_other (p : Nat) (s : Slot) {q : Nat} (hq : q ≠ p) (s' : Slot) (L : List Nat) (g : G) :
    (L.foldl (fun g v => kidsInsert g p s v) g).kids q s' = g.kids q s' :=
  List.foldlRecOn (motive := fun g' : G => g'.kids q s' = g.kids q s') L _ rfl
    fun g' h x _ => by rw [kidsInsert_kids, if_neg (fun hh => hq hh.1)]; exact h

theorem foldl_relink_kids_other (p : Nat) (s : Slot) {q : Nat} (hq : q ≠ p) (s' : Slot) : ∀ (L : List Nat) (g : G),
    (∀ v, v ∈ L → g.par v ≠ some q) → (L.foldl (fun g v => relink g p s v) g).kids q s' = g.kids q s'
  | [], _, _ => rfl
  | a :: L, g, h => by
    rw [List.foldl_cons, foldl_relink_kids_other p s hq s' L]
    · exact relink_kids_of_ne q s' (h a List.mem_cons_self)
    · intro v hv
      rw [relink_par]
      split
      · intro hh; exact hq (Option.some.inj hh).symm
      · exact h v (List.mem_cons_of_mem _ hv)

theorem foldl_payload {F : G → Nat → G} (hF : ∀ g x, (F g x).payload = g.payload) (L : List Nat) (g : G) :
    (L.foldl F g).payload = g.payload :=
  List.foldlRecOn (motive := fun g' : G => g'.payload = g.payload) L F rfl fun g' h x _ => (hF g' x).trans h

theorem blkUpdate_kids_other {g g' : G} {p : Nat} {vs : List Nat} (h : blkUpdate g p vs = .ok g') {q : Nat}
    (hqp : q ≠ p) (hq : ∀ v, v ∈ blkNew g p vs → g.par v ≠ some q) (s' : Slot) : g'.kids q s' = g.kids q s' := by
  rw [kids_of_core ((orKeyError_blkUpdate g p vs).of_ok h)]
  unfold blkUpdatePure
  rw [foldl_kidsInsert_kids_other p .blocks hqp, foldl_relink_kids_other p .blocks hqp s' _ (core g) hq]
  rfl

theorem blkUpdate_payload {g g' : G} {p : Nat} {vs : List Nat} (h : blkUpdate g p vs = .ok g') :
    g'.payload = g.payload := by
  have := congrArg G.payload ((orKeyError_blkUpdate g p vs).of_ok h)
  rw [core_payload] at this
  rw [this]
  unfold blkUpdatePure
  rw [foldl_payload (fun g x => kidsInsert_payload g p .blocks x), foldl_payload (fun g x => relink_payload g p .blocks x)]
  rfl

theorem modAppend_kids_other {g g' : G} {i v : Nat} (h : modAppend g i v = .ok g') {q : Nat}
    (hqi : q ≠ i) (hq : g.par v ≠ some q) (s' : Slot) : g'.kids q s' = g.kids q s' := by
  rw [kids_of_core (modAppend_core h)]
  unfold modInsertPure
  rw [kidsSet_kids, if_neg (fun hh => hqi hh.1)]
  exact relink_kids_of_ne (g := core g) q s' hq

theorem modAppend_payload {g g' : G} {i v : Nat} (h : modAppend g i v = .ok g') : g'.payload = g.payload := by
  have := congrArg G.payload (modAppend_core h)
  rw [core_payload] at this
  rw [this]
  unfold modInsertPure
  rw [kidsSet_payload, relink_payload]
  rfl

/-! ## Coverage: every node created by the load hangs below the new IR or below one of the pending roots `R` -/

def Cov (g : G) (R : Nat → Prop) (x : Nat) : Prop := ∃ r, R r ∧ CacheDesc g r x

theorem Cov.mono {g : G} {R R' : Nat → Prop} {x : Nat} (hR : ∀ r, R r → R' r) (h : Cov g R x) : Cov g R' x := by
  obtain ⟨r, hr, hd⟩ := h; exact ⟨r, hR r hr, hd⟩

theorem Cov.self {g : G} {R : Nat → Prop} {x : Nat} (h : R x) : Cov g R x := ⟨x, h, .refl⟩

theorem cov_step {g g' : G} {R : Nat → Prop}
    (h : ∀ x a, g.par x = some a → g'.par x = some a ∨ ∃ p, R p ∧ g'.par x = some p) {x : Nat}
    (hc : Cov g R x) : Cov g' R x := by
  obtain ⟨r, hr, hd⟩ := hc
  induction hd with
  | refl => exact ⟨r, hr, .refl⟩
  | @step x a hp _ ih =>
    rcases h x a hp with h1 | ⟨p, hp1, hp2⟩
    · obtain ⟨r', hr', hd'⟩ := ih
      exact ⟨r', hr', .step h1 hd'⟩
    · exact ⟨p, hp1, .step hp2 .refl⟩

def AllCov (n0 : Nat) (g : G) (R : Nat → Prop) : Prop := ∀ x, n0 ≤ x → x < g.n → Cov g R x

theorem AllCov.mono {n0 : Nat} {g : G} {R R' : Nat → Prop} (hR : ∀ r, R r → R' r) (h : AllCov n0 g R) :
    AllCov n0 g R' := fun x h1 h2 => (h x h1 h2).mono hR

theorem AllCov.shrink {n0 : Nat} {g : G} {R R' : Nat → Prop} (h : AllCov n0 g R') (hR : ∀ r, R' r → Cov g R r) :
    AllCov n0 g R := fun x h1 h2 => by
  obtain ⟨r, hr, hd⟩ := h x h1 h2
  obtain ⟨r', hr', hd'⟩ := hR r hr
  exact ⟨r', hr', cache_desc_trans hd' hd⟩

theorem AllCov.step {n0 : Nat} {g g' : G} {R : Nat → Prop} (hc : AllCov n0 g R) (hn : g'.n = g.n)
    (h : ∀ x a, g.par x = some a → g'.par x = some a ∨ ∃ p, R p ∧ g'.par x = some p) : AllCov n0 g' R :=
  fun x h1 h2 => cov_step h (hc x h1 (by rw [← hn]; exact h2))

theorem AllCov.of_par_eq {n0 : Nat} {g g' : G} {R : Nat → Prop} (hc : AllCov n0 g R) (hn : g'.n = g.n)
    (h : g'.par = g.par) : AllCov n0 g' R :=
  hc.step hn (fun x a hx => .inl (by rw [h]; exact hx))

/-- the state in the middle of `load g0 _`: `g0.n` is the new IR; "new" nodes are those `≥ g0.n`. It holds of
the loaded state too (`load_ok`), where `frame` and `rows` are the frame of the load -/
structure Mid (g0 g : G) : Prop where
  forest : ForestInv g
  lt : g0.n < g.n
  kind_ir : g.kind g0.n = .ir
  only_ir : ∀ x, g0.n ≤ x → x < g.n → g.kind x = .ir → x = g0.n
  par_new : ∀ x p, g0.n ≤ x → g.par x = some p → g0.n ≤ p
  kids_new : ∀ x p, g.par x = some p → g0.n ≤ p → g0.n ≤ x
  entries : ∀ u n, g.cache g0.n u = some n → g0.n ≤ n ∧ n < g.n ∧ g.uuid n = u
  /-- the UUID of every new node has an entry, or is carried by a new node that is not attached (yet) -/
  owed : ∀ x, g0.n ≤ x → x < g.n → (g.cache g0.n (g.uuid x)).isSome ∨
    ∃ y, g0.n ≤ y ∧ y < g.n ∧ irOf g y ≠ some g0.n ∧ g.uuid y = g.uuid x
  frame : ∀ x, x < g0.n → g.par x = g0.par x ∧ g.kind x = g0.kind x ∧ g.uuid x = g0.uuid x ∧
    ∀ s, g.kids x s = g0.kids x s
  rows : ∀ j, j ≠ g0.n → ∀ u, g.cache j u = g0.cache j u
  refs : ∀ y b, g0.n ≤ y → y < g.n → g.kind y = .symbol → g.payload y = .block b →
    g0.n ≤ b ∧ b < g.n ∧ isBlock (g.kind b) = true

theorem Mid.closed {g0 g : G} (h : Mid g0 g) : Closed g0.n g :=
  ⟨h.forest.cache_parInv, h.par_new, h.only_ir⟩

theorem Mid.desc_new {g0 g : G} (h : Mid g0 g) {v y : Nat} (hd : CacheDesc g v y) (hv : g0.n ≤ v) : g0.n ≤ y := by
  induction hd with
  | refl => exact hv
  | step hp _ ih => exact h.kids_new _ _ hp ih

theorem Mid.irOf_new {g0 g : G} (h : Mid g0 g) {x i : Nat} (hx : g0.n ≤ x) (hlt : x < g.n)
    (hi : irOf g x = some i) : i = g0.n := h.closed.irOf_new hx hlt hi

/-- some nodes `D` (all new) were re-pointed to the detached new node `p`; the table only lost keys of
their subtrees -/
structure Moved (g0 g g' : G) (p : Nat) (D : Nat → Prop) : Prop where
  forest : ForestInv g'
  stable : Stable g g'
  payload : g'.payload = g.payload
  par_in : ∀ x, D x → g'.par x = some p
  par_out : ∀ x, ¬ D x → g'.par x = g.par x
  kids : ∀ q, q ≠ p → (∀ v, D v → g.par v ≠ some q) → ∀ s', g'.kids q s' = g.kids q s'
  less : CacheLess g g' (· = g0.n) (fun y => ∃ v, D v ∧ CacheDesc g v y)
  unatt : ∀ x, (∃ v, D v ∧ CacheDesc g v x) → irOf g' x = none
  same : ∀ x, ¬ (∃ v, D v ∧ CacheDesc g v x) → irOf g' x = irOf g x

/-- nodes `D` (all new) were re-pointed to the new node `p`, nothing else moved: the invariant survives once
the three facts about the table (`entries`, `owed`, `rows`) are supplied -/
theorem Mid.reparent {g0 g g' : G} {p : Nat} {D : Nat → Prop} (hm : Mid g0 g) (hf' : ForestInv g')
    (hst : Stable g g') (hpl : g'.payload = g.payload) (par_in : ∀ x, D x → g'.par x = some p)
    (par_out : ∀ x, ¬ D x → g'.par x = g.par x)
    (kids : ∀ q, q < g0.n → ∀ s', g'.kids q s' = g.kids q s')
    (hp0 : g0.n ≤ p) (hD : ∀ v, D v → g0.n ≤ v)
    (entries : ∀ u n, g'.cache g0.n u = some n → g0.n ≤ n ∧ n < g.n ∧ g.uuid n = u)
    (owed : ∀ x, g0.n ≤ x → x < g.n → (g'.cache g0.n (g.uuid x)).isSome ∨
      ∃ y, g0.n ≤ y ∧ y < g.n ∧ irOf g' y ≠ some g0.n ∧ g.uuid y = g.uuid x)
    (rows : ∀ j, j ≠ g0.n → ∀ u, g'.cache j u = g0.cache j u) : Mid g0 g' := by
  have hn := hst.n
  have hk := hst.kind
  have hu := hst.uuid
  refine ⟨hf', by rw [hn]; exact hm.lt, by rw [hk]; exact hm.kind_ir, ?_, ?_, ?_, ?_, ?_, ?_, rows, ?_⟩
  · intro x hx hlt hkx
    rw [hn] at hlt; rw [hk] at hkx
    exact hm.only_ir x hx hlt hkx
  · intro x a hx hxa
    by_cases hd : D x
    · rw [par_in x hd] at hxa; cases hxa; exact hp0
    · rw [par_out x hd] at hxa; exact hm.par_new x a hx hxa
  · intro x a hxa ha
    by_cases hd : D x
    · exact hD x hd
    · rw [par_out x hd] at hxa; exact hm.kids_new x a hxa ha
  · intro u n hc
    rw [hn, hu]; exact entries u n hc
  · intro x hx hlt
    rw [hn] at hlt
    rw [hn, hu]; exact owed x hx hlt
  · intro x hx
    have hnd : ¬ D x := fun hd => by have := hD x hd; omega
    obtain ⟨f1, f2, f3, f4⟩ := hm.frame x hx
    exact ⟨by rw [par_out x hnd]; exact f1, by rw [hk]; exact f2, by rw [hu]; exact f3,
      fun s => (kids x hx s).trans (f4 s)⟩
  · intro y b hy hlt hky hplb
    rw [hn] at hlt; rw [hk] at hky; rw [hpl] at hplb
    rw [hn, hk]
    exact hm.refs y b hy hlt hky hplb

theorem Mid.moved {g0 g g' : G} {p : Nat} {D : Nat → Prop} (hm : Mid g0 g) (h : Moved g0 g g' p D)
    (hp0 : g0.n ≤ p) (hD : ∀ v, D v → g0.n ≤ v ∧ v < g.n) : Mid g0 g' := by
  have hdead : ∀ y, (∃ v, D v ∧ CacheDesc g v y) → g0.n ≤ y ∧ y < g.n ∧ irOf g' y ≠ some g0.n := by
    rintro y ⟨v, hv, hd⟩
    refine ⟨hm.desc_new hd (hD v hv).1, cache_desc_lt hm.forest.cache_parInv hd (hD v hv).2, ?_⟩
    rw [h.unatt y ⟨v, hv, hd⟩]; exact fun hh => by cases hh
  refine hm.reparent h.forest h.stable h.payload h.par_in h.par_out ?_ hp0 (fun v hv => (hD v hv).1) ?_ ?_ ?_
  · intro q hq s'
    refine h.kids q (by omega) ?_ s'
    intro v hv hpv
    have := hm.par_new v q (hD v hv).1 hpv
    omega
  · intro u n hc
    rcases h.less g0.n u with e | ⟨e, _⟩
    · rw [e] at hc; exact hm.entries u n hc
    · rw [e] at hc; cases hc
  · intro x hx hlt
    rcases hm.owed x hx hlt with h1 | ⟨y, hy0, hyn, hyi, hyu⟩
    · rcases h.less g0.n (g.uuid x) with e | ⟨_, _, y, hy, hyu⟩
      · left; rw [e]; exact h1
      · right
        obtain ⟨a, b, c⟩ := hdead y hy
        exact ⟨y, a, b, c, hyu⟩
    · right
      by_cases hy : ∃ v, D v ∧ CacheDesc g v y
      · obtain ⟨a, b, c⟩ := hdead y hy
        exact ⟨y, a, b, c, hyu⟩
      · exact ⟨y, hy0, hyn, by rw [h.same y hy]; exact hyi, hyu⟩
  · intro j hj u
    rcases h.less j u with e | ⟨_, e, _⟩
    · rw [e]; exact hm.rows j hj u
    · exact absurd e hj

theorem Moved.cov {g0 g g' : G} {p : Nat} {D : Nat → Prop} (h : Moved g0 g g' p D) {n0 : Nat} {R : Nat → Prop}
    (hp : R p) (hc : AllCov n0 g R) : AllCov n0 g' R := by
  refine hc.step h.stable.n ?_
  intro x a hxa
  by_cases hd : D x
  · exact .inr ⟨p, hp, h.par_in x hd⟩
  · exact .inl (by rw [h.par_out x hd]; exact hxa)

theorem setAdd_moved {g0 g g' : G} {p v : Nat} {s : Slot} (hm : Mid g0 g)
    (hpp : g.par p = none) (hkp : g.kind p ≠ .ir) (hv0 : g0.n ≤ v) (hc : ChildOK g p s v)
    (h : setAdd g p s v = .ok g') : Moved g0 g g' p (· = v) := by
  obtain ⟨hpn, hvn, hslot, hpk⟩ := hc
  have hst := setAdd_stable h
  have hpar := setAdd_par h
  have hpv : p ≠ v := (cache_ne_of_parentKind hpk).symm
  have hkv : g.kind v ≠ .ir := fun e => by rw [e] at hslot; cases hslot
  have hpi := hm.forest.cache_parInv
  obtain ⟨r1, r2, _⟩ := (cache_setAdd_shape h).irOf_some hpi ⟨hvn, hpn, hpk⟩
  have hirp : irOf g p = none := cache_irOf_detached hpp hkp
  refine ⟨hm.forest.setAdd ⟨hpn, hvn, hslot, hpk⟩ h, hst, setAdd_payload h, ?_, ?_, ?_, ?_, ?_, ?_⟩
  · intro x hx; rw [hpar, if_pos hx]
  · intro x hx; rw [hpar, if_neg hx]
  · intro q hq hqv s'
    exact setAdd_kids_other h hq (hqv v rfl) s'
  · refine (setAdd_less h hpp hkp hpv).mono ?_ ?_
    · rintro i ⟨q, hq, hi⟩
      exact (hm.closed.setPar_none v).irOf_new (hm.par_new v q hv0 hq) (hpi.alloc v q hq).2 hi
    · intro y hy
      exact ⟨v, rfl, (cache_mem_walk_iff hm.forest hkv).1 hy⟩
  · rintro x ⟨_, rfl, hd⟩
    rw [r1 x hd, hirp]
  · intro x hx
    exact r2 x (fun hd => hx ⟨v, rfl, hd⟩)

theorem blkUpdate_moved {g0 g g' : G} {p : Nat} {vs : List Nat} (hm : Mid g0 g) (hp0 : g0.n ≤ p) (hpn : p < g.n)
    (hpp : g.par p = none) (hkp : g.kind p = .interval)
    (hvs : ∀ v, v ∈ vs → g0.n ≤ v ∧ v < g.n ∧ (g.kind v = .code ∨ g.kind v = .data))
    (h : blkUpdate g p vs = .ok g') : Moved g0 g g' p (· ∈ blkNew g p vs) := by
  have hpi := hm.forest.cache_parInv
  have hkp' : g.kind p ≠ .ir := by rw [hkp]; decide
  have hirp : irOf g p = none := cache_irOf_detached hpp hkp'
  have hst := blkUpdate_stable h
  have hcok : ∀ v, v ∈ vs → ChildOK g p .blocks v := by
    intro v hv
    obtain ⟨_, h2, h3⟩ := hvs v hv
    refine ⟨hpn, h2, ?_, ?_⟩
    · rcases h3 with e | e <;> rw [e] <;> rfl
    · rw [hkp]; rcases h3 with e | e <;> rw [e] <;> rfl
  have hf' := hm.forest.blkUpdate hcok h
  have hpi' := hf'.cache_parInv
  have hnew : ∀ v, v ∈ blkNew g p vs → v ∈ vs := fun v hv => (mem_blkNew.1 hv).1
  have hpnew : p ∉ blkNew g p vs := by
    intro hp
    rcases (hvs p (hnew p hp)).2.2 with e | e <;> rw [hkp] at e <;> cases e
  have hleaf : ∀ v x, v ∈ blkNew g p vs → CacheDesc g v x → x = v := by
    intro v x hv hd
    apply cache_desc_leaf hpi _ hd
    rcases (hvs v (hnew v hv)).2.2 with e | e <;> rw [e]
    · exact cache_no_child_code
    · exact cache_no_child_data
  have hpar := blkUpdate_par h
  have hpp' : g'.par p = none := by rw [hpar, if_neg hpnew]; exact hpp
  have hirp' : irOf g' p = none := cache_irOf_detached hpp' (by rw [hst.kind]; exact hkp')
  refine ⟨hf', hst, blkUpdate_payload h, ?_, ?_, ?_, ?_, ?_, ?_⟩
  · intro x hx; rw [hpar, if_pos hx]
  · intro x hx; rw [hpar, if_neg hx]
  · intro q hq hqv s'
    exact blkUpdate_kids_other h hq hqv s'
  · refine (blkUpdate_less hm.closed hp0 hpn hkp hvs hirp h).mono (fun _ hi => hi) ?_
    intro y hy; exact ⟨y, hy, .refl⟩
  · rintro x ⟨v, hv, hd⟩
    have := hleaf v x hv hd
    subst this
    rw [cache_irOf_par hpi' (by rw [hpar, if_pos hv]), hirp']
  · intro x hx
    refine cache_irOf_agree hpi (fun y hy => ⟨?_, by rw [hst.kind]⟩)
    rw [hpar, if_neg (fun hyn => hx ⟨y, hyn, hy⟩)]

/-- `alloc g k u` with name and payload of the new node set at once (a fresh symbol gets both before anything
else happens) -/
theorem Mid.of_alloc' {g0 g : G} (hm : Mid g0 g) (k : Kind) (u : Nat) (hk : k ≠ .ir) (nm : Nat → Nat)
    (pl : Nat → Payload) (hpl : ∀ x, x ≠ g.n → pl x = g.payload x)
    (hplnew : k = .symbol → ∀ b, pl g.n = .block b → g0.n ≤ b ∧ b < g.n ∧ isBlock (g.kind b) = true) :
    Mid g0 { (alloc g k u).1 with name := nm, payload := pl } := by
  have hf1 := hm.forest.of_alloc k u
  have hlt := hm.lt
  have hold : ∀ x, x < g.n → x ≠ g.n := fun x => Nat.ne_of_lt
  have hir : ∀ x, x < g.n → irOf { (alloc g k u).1 with name := nm, payload := pl } x = irOf g x :=
    fun x hx => cache_alloc_irOf_old hm.forest k u hx
  refine ⟨⟨hf1.mem_iff, hf1.nodup, hf1.kind_ok, hf1.alloc⟩, Nat.lt_succ_of_lt hlt, ?_, ?_, ?_, ?_, ?_, ?_, ?_,
    hm.rows, ?_⟩
  · exact (if_neg (hold _ hlt)).trans hm.kind_ir
  · intro x hx hlt' hkx'
    by_cases hxn : x = g.n
    · exact absurd ((if_pos hxn).symm.trans hkx') hk
    · exact hm.only_ir x hx (by have : x < g.n + 1 := hlt'; omega) ((if_neg hxn).symm.trans hkx')
  · intro x a hx hxa
    by_cases hxn : x = g.n
    · exact absurd ((if_pos hxn).symm.trans hxa) (by simp)
    · exact hm.par_new x a hx ((if_neg hxn).symm.trans hxa)
  · intro x a hxa ha
    by_cases hxn : x = g.n
    · omega
    · exact hm.kids_new x a ((if_neg hxn).symm.trans hxa) ha
  · intro u' n hc
    obtain ⟨h1, h2, h3⟩ := hm.entries u' n hc
    exact ⟨h1, Nat.lt_succ_of_lt h2, (if_neg (hold n h2)).trans h3⟩
  · intro x hx hlt'
    by_cases hxn : x = g.n
    · refine .inr ⟨g.n, Nat.le_of_lt hlt, Nat.lt_succ_self _, ?_, by rw [hxn]⟩
      have hpn : ({ (alloc g k u).1 with name := nm, payload := pl } : G).par g.n = none := if_pos rfl
      have hkn : ({ (alloc g k u).1 with name := nm, payload := pl } : G).kind g.n = k := if_pos rfl
      rw [cache_irOf_detached hpn (fun e => hk (hkn.symm.trans e))]
      exact fun hh => by cases hh
    · have hx' : x < g.n := by have : x < g.n + 1 := hlt'; omega
      have hux : (if x = g.n then u else g.uuid x) = g.uuid x := if_neg hxn
      show (g.cache g0.n (if x = g.n then u else g.uuid x)).isSome ∨ _
      rw [hux]
      rcases hm.owed x hx hx' with h1 | ⟨y, hy0, hyn, hyi, hyu⟩
      · exact .inl h1
      · exact .inr ⟨y, hy0, Nat.lt_succ_of_lt hyn, by rw [hir y hyn]; exact hyi,
          ((if_neg (hold y hyn)).trans hyu).trans hux.symm⟩
  · intro x hx
    have hxn : x ≠ g.n := Nat.ne_of_lt (Nat.lt_trans hx hlt)
    obtain ⟨f1, f2, f3, f4⟩ := hm.frame x hx
    exact ⟨(if_neg hxn).trans f1, (if_neg hxn).trans f2, (if_neg hxn).trans f3, fun s => (if_neg hxn).trans (f4 s)⟩
  · intro y b hy hlt' hky hplb
    have hb : g0.n ≤ b ∧ b < g.n ∧ isBlock (g.kind b) = true := by
      by_cases hyn : y = g.n
      · subst hyn
        exact hplnew ((if_pos rfl).symm.trans hky) b hplb
      · exact hm.refs y b hy (by have : y < g.n + 1 := hlt'; omega) ((if_neg hyn).symm.trans hky)
          ((hpl y hyn).symm.trans hplb)
    exact ⟨hb.1, Nat.lt_succ_of_lt hb.2.1, (congrArg isBlock (if_neg (hold b hb.2.1))).trans hb.2.2⟩

theorem Mid.of_alloc {g0 g : G} (hm : Mid g0 g) (k : Kind) (u : Nat) (hk : k ≠ .ir) (hs : k ≠ .symbol) :
    Mid g0 (alloc g k u).1 :=
  hm.of_alloc' k u hk g.name g.payload (fun _ _ => rfl) (fun h => absurd h hs)

theorem AllCov.alloc' {g0 g g' : G} {R : Nat → Prop} (hm : Mid g0 g) (hc : AllCov g0.n g R) (k : Kind) (u : Nat)
    (hn : g'.n = g.n + 1) (hpar : g'.par = (alloc g k u).1.par) :
    AllCov g0.n g' (fun r => R r ∨ r = g.n) := by
  intro x hx hlt
  by_cases hxn : x = g.n
  · exact Cov.self (.inr hxn)
  · refine cov_step ?_ ((hc x hx (by omega)).mono (fun r hr => .inl hr))
    intro y a hya
    left
    have := (hm.forest.alloc y a hya).1
    rw [hpar]; simp only [alloc_par, if_neg (show y ≠ g.n by omega)]; exact hya

theorem Mid.of_cacheSet {g0 g : G} (hm : Mid g0 g) {u v : Nat} (hv0 : g0.n ≤ v) (hvn : v < g.n) (hu : g.uuid v = u) :
    Mid g0 (cacheSet g g0.n u v) := by
  refine ⟨⟨hm.forest.mem_iff, hm.forest.nodup, hm.forest.kind_ok, hm.forest.alloc⟩, hm.lt, hm.kind_ir, hm.only_ir,
    hm.par_new, hm.kids_new, ?_, ?_, hm.frame, ?_, hm.refs⟩
  · intro u' n hc
    rw [cacheSet_cache] at hc
    split at hc
    · rename_i hh; cases hc; exact ⟨hv0, hvn, by rw [hh.2]; exact hu⟩
    · exact hm.entries u' n hc
  · intro x hx hlt
    rcases hm.owed x hx hlt with h1 | h1
    · left
      show ((cacheSet g g0.n u v).cache g0.n (g.uuid x)).isSome
      rw [cacheSet_cache]
      split
      · rfl
      · exact h1
    · right; exact h1
  · intro j hj u'
    rw [cacheSet_cache, if_neg (fun hh => hj hh.1)]
    exact hm.rows j hj u'

theorem Mid.of_setAll {g0 : G} : ∀ (L : List Nat) (g : G), Mid g0 g → (∀ y, y ∈ L → g0.n ≤ y ∧ y < g.n) →
    Mid g0 (cache_setAll g g0.n L)
  | [], _, hm, _ => hm
  | x :: L, g, hm, h => by
    show Mid g0 (cache_setAll (cacheSet g g0.n (g.uuid x) x) g0.n L)
    exact Mid.of_setAll L _ (hm.of_cacheSet (h x List.mem_cons_self).1 (h x List.mem_cons_self).2 rfl)
      (fun y hy => h y (List.mem_cons_of_mem _ hy))

theorem Mid.of_cacheAddInterval {g0 g : G} (hm : Mid g0 g) {v : Nat} (hv0 : g0.n ≤ v) (hvn : v < g.n) :
    Mid g0 (cacheAddInterval g g0.n v) := by
  rw [cache_addInterval_eq]
  apply Mid.of_setAll _ _ hm
  intro y hy
  unfold cache_walkI at hy
  rcases List.mem_cons.1 hy with rfl | hy
  · exact ⟨hv0, hvn⟩
  · have := (hm.forest.mem_iff _ _ _).1 hy
    exact ⟨hm.kids_new y v this.1 hv0, (hm.forest.alloc y v this.1).1⟩

def AllAtt (g0 g : G) : Prop := ∀ x, g0.n ≤ x → x < g.n → irOf g x = some g0.n

theorem mid_mkIR {g : G} (hf : ForestInv g) (u : Nat) : Mid g (mkIR g u) ∧ AllAtt g (mkIR g u) := by
  have hone : ∀ x, g.n ≤ x → x < (mkIR g u).n → x = g.n := fun x h1 h2 => (mkIR_new g u h1 h2).1
  have hknew : (mkIR g u).kind g.n = .ir := if_pos rfl
  have hunew : (mkIR g u).uuid g.n = u := if_pos rfl
  have hpold : ∀ x a, (mkIR g u).par x = some a → x < g.n ∧ a < g.n := by
    intro x a hxa
    have hxa' : (if x = g.n then none else g.par x) = some a := hxa
    split at hxa'
    · cases hxa'
    · exact hf.alloc x a hxa'
  refine ⟨⟨hf.mkIR u, Nat.lt_succ_self _, hknew, ?_, ?_, ?_, ?_, ?_, ?_, ?_, ?_⟩, ?_⟩
  · intro x hx hlt _; exact hone x hx hlt
  · intro x a hx hxa; have := hpold x a hxa; omega
  · intro x a hxa ha; have := hpold x a hxa; omega
  · intro u' n hc
    rw [mkIR_cache] at hc
    split at hc
    · rename_i hh; cases hc
      exact ⟨Nat.le_refl _, Nat.lt_succ_self _, hh.2 ▸ hunew⟩
    · rw [if_pos rfl] at hc; cases hc
  · intro x hx hlt
    rw [hone x hx hlt, hunew, mkIR_cache, if_pos ⟨rfl, rfl⟩]
    exact .inl rfl
  · intro x hx
    have hxn : x ≠ g.n := Nat.ne_of_lt hx
    exact ⟨if_neg hxn, if_neg hxn, if_neg hxn, fun s => if_neg hxn⟩
  · intro j hj u'
    rw [mkIR_cache, if_neg (fun hh => hj hh.1), if_neg hj]
  · intro y b hy hlt hky _
    rw [hone y hy hlt, hknew] at hky; cases hky
  · intro x hx hlt
    rw [hone x hx hlt]
    exact irOf_ir hknew

theorem modAppend_outer {g0 g g' : G} {v : Nat} (hm : Mid g0 g) (hv0 : g0.n ≤ v) (hvn : v < g.n)
    (hkv : g.kind v = .module) (hcov : AllCov g0.n g (fun r => r = g0.n ∨ r = v))
    (h : modAppend g g0.n v = .ok g') : Mid g0 g' ∧ AllAtt g0 g' := by
  have hpi := hm.forest.cache_parInv
  have hc : ChildOK g g0.n .mods v := ⟨hm.lt, hvn, by rw [hkv]; rfl, by rw [hkv, hm.kind_ir]; rfl⟩
  have hst := modAppend_stable h
  have hparv : g'.par v = some g0.n := by rw [modAppend_par h, if_pos rfl]
  have hparo : ∀ x, x ≠ v → g'.par x = g.par x := fun x hx => by rw [modAppend_par h, if_neg hx]
  have hf' := hm.forest.modAppend hc h
  have hkv' : g.kind v ≠ .ir := by rw [hkv]; decide
  have hvne : v ≠ g0.n := by intro e; rw [e, hm.kind_ir] at hkv; cases hkv
  have hkir' : g'.kind g0.n = .ir := by rw [hst.kind]; exact hm.kind_ir
  have hcov' : AllCov g0.n g' (· = g0.n) := by
    refine (hcov.step hst.n ?_).shrink ?_
    · intro x a hxa
      by_cases hxv : x = v
      · right; exact ⟨g0.n, .inl rfl, by rw [hxv]; exact hparv⟩
      · left; rw [hparo x hxv]; exact hxa
    · rintro r (rfl | rfl)
      · exact Cov.self rfl
      · exact ⟨g0.n, rfl, .step hparv .refl⟩
  have hatt : AllAtt g0 g' := by
    intro x hx hlt
    obtain ⟨r, rfl, hd⟩ := hcov' x hx hlt
    rw [cache_desc_irOf hf'.cache_parInv hd, irOf_ir hkir']
  refine ⟨?_, hatt⟩
  obtain ⟨gX, hless, hkX, huX, hkidsX, hcache⟩ := modAppend_cache h
  have hW : cache_walk gX.kids (gX.kind v) v = cache_walk g.kids (g.kind v) v := by
    rw [hkX]; exact cache_walk_kids_congr hkidsX _ _
  have hWd : ∀ y, y ∈ cache_walk g.kids (g.kind v) v ↔ CacheDesc g v y :=
    fun y => cache_mem_walk_iff hm.forest hkv'
  have hcases : ∀ i' u', (∃ y, CacheDesc g v y ∧ g.uuid y = u' ∧ i' = g0.n ∧ g'.cache i' u' = some y) ∨
      (g'.cache i' u' = gX.cache i' u' ∧ ¬ (i' = g0.n ∧ ∃ y, CacheDesc g v y ∧ g.uuid y = u')) := by
    intro i' u'
    rw [hcache, cache_cacheAdd_eq, hW]
    rcases setAll_cases g0.n (cache_walk g.kids (g.kind v) v) gX i' u' with ⟨y, hy, hyu, hi, hc⟩ | ⟨hc, hno⟩
    · left; exact ⟨y, (hWd y).1 hy, by rw [← huX]; exact hyu, hi, hc⟩
    · right
      refine ⟨hc, ?_⟩
      rintro ⟨hi, y, hy, hyu⟩
      exact hno ⟨hi, y, (hWd y).2 hy, by rw [huX]; exact hyu⟩
  have hparv_ir : ∀ j, g.par v = some j → j = g0.n := by
    intro j hj
    have hk := hm.forest.kind_ok v j hj
    rw [hkv] at hk
    exact hm.only_ir j (hm.par_new v j hv0 hj) (hpi.alloc v j hj).2 (cache_parent_of_module hk)
  refine hm.reparent (p := g0.n) (D := (· = v)) hf' hst (modAppend_payload h)
    (fun x hx => hx ▸ hparv) hparo ?_ (Nat.le_refl _) (fun x hx => hx ▸ hv0) ?_ ?_ ?_
  · intro q hq s
    refine modAppend_kids_other h (by omega) ?_ s
    intro hpv
    have := hm.par_new v q hv0 hpv
    omega
  · intro u' n hc
    rcases hcases g0.n u' with ⟨y, hy, hyu, _, hc'⟩ | ⟨hc', _⟩
    · rw [hc'] at hc; cases hc
      exact ⟨hm.desc_new hy hv0, cache_desc_lt hpi hy hvn, hyu⟩
    · rw [hc'] at hc
      rcases hless g0.n u' with e | ⟨e, _⟩
      · rw [e] at hc; exact hm.entries u' n hc
      · rw [e] at hc; cases hc
  · intro x hx hlt
    left
    rcases hcases g0.n (g.uuid x) with ⟨y, _, _, _, hc'⟩ | ⟨hc', hno⟩
    · rw [hc']; rfl
    · rw [hc']
      rcases hm.owed x hx hlt with h1 | ⟨y, hy0, hyn, hyi, hyu⟩
      · rcases hless g0.n (g.uuid x) with e | ⟨_, _, y, hy, hyu⟩
        · rw [e]; exact h1
        · exact absurd ⟨rfl, y, (hWd y).1 hy, hyu⟩ hno
      · obtain ⟨r, hr, hd⟩ := hcov y hy0 hyn
        rcases hr with rfl | rfl
        · exact absurd (by rw [cache_desc_irOf hpi hd, irOf_ir hm.kind_ir]) hyi
        · exact absurd ⟨rfl, y, hd, hyu⟩ hno
  · intro j hj u'
    rcases hcases j u' with ⟨_, _, _, hi, _⟩ | ⟨hc', _⟩
    · exact absurd hi hj
    · rw [hc']
      rcases hless j u' with e | ⟨_, e, _⟩
      · rw [e]; exact hm.rows j hj u'
      · exact absurd (hparv_ir j e) hj

/-- progress of a decoder that leaves the back-pointers of the existing nodes of rank `≤ k` alone: a decoder
moves (re-used) nodes only into the node it builds, hence only nodes of higher rank than that one, and whatever
is under construction further up stays detached (`Building.step`). Ranks are `cache_rank`: IR 0, module 1,
section / symbol / proxy 2, interval 3, block 4; the numerals in `DecOk` and `Child` below are these -/
structure Step (k : Nat) (g g' : G) : Prop where
  grows : Grows g g'
  par : ∀ x, x < g.n → cache_rank (g.kind x) ≤ k → g'.par x = g.par x

theorem Step.refl (k : Nat) (g : G) : Step k g g := ⟨(Stable.refl g).grows, fun _ _ _ => rfl⟩

theorem Step.trans {k : Nat} {a b c : G} (h1 : Step k a b) (h2 : Step k b c) : Step k a c := by
  refine ⟨h1.grows.trans h2.grows, ?_⟩
  intro x hx hr
  have hxb : x < b.n := Nat.lt_of_lt_of_le hx h1.grows.1
  rw [h2.par x hxb (by rw [(h1.grows.2 x hx).1]; exact hr), h1.par x hx hr]

theorem Step.mono {k k' : Nat} {g g' : G} (h : Step k g g') (hk : k' ≤ k) : Step k' g g' :=
  ⟨h.grows, fun x hx hr => h.par x hx (Nat.le_trans hr hk)⟩

theorem Step.of_alloc (g : G) (k : Kind) (u : Nat) : Step 4 g (alloc g k u).1 :=
  ⟨grows_alloc g k u, fun x hx _ => by simp [Nat.ne_of_lt hx]⟩

theorem Step.of_eq {k : Nat} {g g' : G} (hn : g'.n = g.n) (hk : g'.kind = g.kind) (hu : g'.uuid = g.uuid)
    (hp : g'.par = g.par) : Step k g g' :=
  ⟨(Stable.grows ⟨hn, hk, hu⟩), fun x _ _ => by rw [hp]⟩

theorem Step.of_moved {g0 g g' : G} {p : Nat} {D : Nat → Prop} (h : Moved g0 g g' p D) {k : Nat}
    (hD : ∀ v, D v → k < cache_rank (g.kind v)) : Step k g g' :=
  ⟨h.stable.grows, fun x _ hr => h.par_out x (fun hd => by have := hD x hd; omega)⟩

theorem Step.kind_eq {k : Nat} {g g' : G} (h : Step k g g') {x : Nat} (hx : x < g.n) : g'.kind x = g.kind x :=
  (h.grows.2 x hx).1

theorem Step.lt {k : Nat} {g g' : G} (h : Step k g g') {x : Nat} (hx : x < g.n) : x < g'.n :=
  Nat.lt_of_lt_of_le hx h.grows.1

/-! ### the elementary steps of a load

Everything the decoders do to the state is one of seven steps, each taken under conditions the decoders establish
(`LStep`); a load is a chain of them (`LSteps`, `load_steps`). `Mid` is kept by each step (`LStep.mid`), and so is
whatever else is kept by each step (`LSteps.keeps`): no further traversal of the decoders is needed for a new
state predicate. -/

theorem decodeSymbol_mid {g0 g g' : G} {x : SkSymbol} {v : Nat} (hm : Mid g0 g)
    (h : decodeSymbol g g0.n x = .ok (g', v)) : Mid g0 g' := by
  rcases decodeSymbol_cases h with ⟨rfl, _, _⟩ | ⟨_, rfl, pl, hres, rfl⟩
  · exact hm
  · refine (hm.of_alloc' .symbol x.uuid (by decide) _ _
      (fun y hy => if_neg hy) ?_).of_cacheSet (v := g.n) (Nat.le_of_lt hm.lt) (Nat.lt_succ_self _) (if_pos rfl)
    intro _ b hb
    rw [if_pos rfl] at hb
    subst hb
    obtain ⟨u, _, hcb, _, hk⟩ := hres.of_block
    obtain ⟨h1, h2, _⟩ := hm.entries _ _ hcb
    exact ⟨h1, h2, hk⟩

/-- one elementary step of the load that started in `g0` (`g0.n` is the new IR, the nodes `≥ g0.n` are new),
with what is known when it is taken; `S`: the symbol messages of the file -/
inductive LStep (g0 : G) (S : SkSymbol → Prop) : G → G → Prop
  /-- `Node.__init__` of a fresh node other than a symbol -/
  | alloc (g : G) (k : Kind) (u : Nat) : k ≠ .ir → k ≠ .symbol → LStep g0 S g (alloc g k u).1
  /-- a new node registers itself -/
  | reg (g : G) {u v : Nat} : g0.n ≤ v → v < g.n → g.uuid v = u → LStep g0 S g (cacheSet g g0.n u v)
  /-- a new interval registers itself and its blocks -/
  | regInterval (g : G) {v : Nat} : g0.n ≤ v → v < g.n → LStep g0 S g (cacheAddInterval g g0.n v)
  /-- `SetWrapper.add` of a new node to the detached new node `p` -/
  | add {g g' : G} {p v : Nat} {s : Slot} : g.par p = none → g.kind p ≠ .ir → g0.n ≤ p → g0.n ≤ v → ChildOK g p s v →
      setAdd g p s v = .ok g' → LStep g0 S g g'
  /-- `blocks.update` of new blocks on the detached new interval `p` -/
  | blk {g g' : G} {p : Nat} {vs : List Nat} : g0.n ≤ p → p < g.n → g.par p = none → g.kind p = .interval →
      (∀ v, v ∈ vs → g0.n ≤ v ∧ v < g.n ∧ (g.kind v = .code ∨ g.kind v = .data)) → blkUpdate g p vs = .ok g' →
      LStep g0 S g g'
  /-- `Symbol._from_protobuf` on a symbol message of the file -/
  | symbol {g g' : G} {x : SkSymbol} {v : Nat} : S x → decodeSymbol g g0.n x = .ok (g', v) → LStep g0 S g g'
  /-- `ir.modules.append` of a module below which, or below the IR, everything new hangs -/
  | append {g g' : G} {v : Nat} : g0.n ≤ v → v < g.n → g.kind v = .module →
      AllCov g0.n g (fun r => r = g0.n ∨ r = v) → modAppend g g0.n v = .ok g' → LStep g0 S g g'

theorem LStep.mid {g0 : G} {S : SkSymbol → Prop} {g g' : G} (hm : Mid g0 g) (h : LStep g0 S g g') : Mid g0 g' := by
  cases h with
  | alloc k u hk hs => exact hm.of_alloc k u hk hs
  | reg h1 h2 h3 => exact hm.of_cacheSet h1 h2 h3
  | regInterval h1 h2 => exact hm.of_cacheAddInterval h1 h2
  | add hpp hkp hp0 hv0 hc h =>
    exact hm.moved (setAdd_moved hm hpp hkp hv0 hc h) hp0 (fun w hw => hw ▸ ⟨hv0, hc.v_lt⟩)
  | blk hp0 hpn hpp hkp hvs h =>
    exact hm.moved (blkUpdate_moved hm hp0 hpn hpp hkp hvs h) hp0
      (fun v hv => ⟨(hvs v (mem_blkNew.1 hv).1).1, (hvs v (mem_blkNew.1 hv).1).2.1⟩)
  | symbol _ h => exact decodeSymbol_mid hm h
  | append h1 h2 h3 h4 h => exact (modAppend_outer hm h1 h2 h3 h4 h).1

inductive LSteps (g0 : G) (S : SkSymbol → Prop) : G → G → Prop
  | refl (g : G) : LSteps g0 S g g
  | head {g g1 g2 : G} : LStep g0 S g g1 → LSteps g0 S g1 g2 → LSteps g0 S g g2

theorem LStep.one {g0 : G} {S : SkSymbol → Prop} {g g' : G} (h : LStep g0 S g g') : LSteps g0 S g g' :=
  .head h (.refl _)

theorem LSteps.trans {g0 : G} {S : SkSymbol → Prop} {a b c : G} (h1 : LSteps g0 S a b) (h2 : LSteps g0 S b c) :
    LSteps g0 S a c := by
  induction h1 with
  | refl => exact h2
  | head s _ ih => exact .head s (ih h2)

theorem LSteps.tail {g0 : G} {S : SkSymbol → Prop} {a b c : G} (h1 : LSteps g0 S a b) (h2 : LStep g0 S b c) :
    LSteps g0 S a c := h1.trans h2.one

theorem LSteps.keeps {g0 : G} {S : SkSymbol → Prop} {P : G → Prop}
    (hP : ∀ g g', Mid g0 g → LStep g0 S g g' → P g → P g') {g g' : G} (h : LSteps g0 S g g') (hm : Mid g0 g)
    (hp : P g) : P g' := by
  induction h with
  | refl => exact hp
  | head s _ ih => exact ih (s.mid hm) (hP _ _ hm s hp)

/-- what the decoder of one element guarantees (`R`: the pending roots before) -/
structure DecOk (g0 : G) (S : SkSymbol → Prop) (k : Nat) (K : Kind → Prop) (R : Nat → Prop) (g g' : G) (v : Nat) :
    Prop where
  mid : Mid g0 g'
  cov : AllCov g0.n g' (fun r => R r ∨ r = v)
  step : Step k g g'
  steps : LSteps g0 S g g'
  new : g0.n ≤ v
  lt : v < g'.n
  kind : K (g'.kind v)

structure DecsOk (g0 : G) (k : Nat) (K : Kind → Prop) (R : Nat → Prop) (g g' : G) (vs : List Nat) : Prop where
  mid : Mid g0 g'
  cov : AllCov g0.n g' (fun r => R r ∨ r ∈ vs)
  step : Step k g g'
  all : ∀ v, v ∈ vs → g0.n ≤ v ∧ v < g'.n ∧ K (g'.kind v)

theorem decodeList_ok {α : Type} {f : G → α → Except LErr (G × Nat)} {g0 : G} {S : SkSymbol → Prop} {k : Nat}
    {K : Kind → Prop}
    (hf : ∀ (R : Nat → Prop) g a g' v, Mid g0 g → AllCov g0.n g R → f g a = .ok (g', v) → DecOk g0 S k K R g g' v) :
    ∀ (as : List α) (R : Nat → Prop) (g g' : G) (vs : List Nat), Mid g0 g → AllCov g0.n g R →
      decodeList f g as = .ok (g', vs) → DecsOk g0 k K R g g' vs ∧ LSteps g0 S g g' := by
  intro as
  induction as with
  | nil =>
    intro R g g' vs hm hc h
    cases h
    exact ⟨⟨hm, hc.mono (fun r hr => .inl hr), Step.refl _ _, fun v hv => by cases hv⟩, .refl _⟩
  | cons a as ih =>
    intro R g g' vs hm hc h
    obtain ⟨g1, v, vs', h1, h2, rfl⟩ := decodeList_cons h
    have d1 := hf R g a g1 v hm hc h1
    obtain ⟨d2, s2⟩ := ih _ g1 g' vs' d1.mid d1.cov h2
    refine ⟨⟨d2.mid, d2.cov.mono ?_, d1.step.trans d2.step, ?_⟩, d1.steps.trans s2⟩
    · rintro r ((hr | rfl) | hr)
      · exact .inl hr
      · exact .inr List.mem_cons_self
      · exact .inr (List.mem_cons_of_mem _ hr)
    · intro w hw
      rcases List.mem_cons.1 hw with rfl | hw
      · exact ⟨d1.new, d2.step.lt d1.lt, by rw [d2.step.kind_eq d1.lt]; exact d1.kind⟩
      · exact d2.all w hw

theorem DecOk.of_hit {g0 g : G} {S : SkSymbol → Prop} {R : Nat → Prop} {k : Nat} {kd : Kind} {u v : Nat} (hm : Mid g0 g)
    (hc : AllCov g0.n g R) (hcv : g.cache g0.n u = some v) (hkv : g.kind v = kd) :
    DecOk g0 S k (· = kd) R g g v :=
  have ⟨h1, h2, _⟩ := hm.entries _ _ hcv
  ⟨hm, hc.mono (fun _ hr => .inl hr), Step.refl _ _, .refl _, h1, h2, hkv⟩

theorem DecOk.imp {g0 g g' : G} {S : SkSymbol → Prop} {R : Nat → Prop} {k : Nat} {K K' : Kind → Prop} {v : Nat}
    (h : DecOk g0 S k K R g g' v) (hK : ∀ kd, K kd → K' kd) : DecOk g0 S k K' R g g' v :=
  ⟨h.mid, h.cov, h.step, h.steps, h.new, h.lt, hK _ h.kind⟩

/-- `p` is a new node under construction: allocated, still detached, of kind `kp`; everything new hangs
below `R` or below `p` -/
structure Building (g0 : G) (R : Nat → Prop) (p : Nat) (kp : Kind) (g : G) : Prop where
  mid : Mid g0 g
  cov : AllCov g0.n g (fun r => R r ∨ r = p)
  new : g0.n ≤ p
  lt : p < g.n
  par : g.par p = none
  kind : g.kind p = kp

theorem Building.of_alloc {g0 g : G} {R : Nat → Prop} (hm : Mid g0 g) (hc : AllCov g0.n g R) (kp : Kind) (u : Nat)
    (hk : kp ≠ .ir) (hs : kp ≠ .symbol) : Building g0 R g.n kp (alloc g kp u).1 :=
  ⟨hm.of_alloc kp u hk hs, AllCov.alloc' hm hc kp u rfl rfl, Nat.le_of_lt hm.lt, Nat.lt_succ_self _, if_pos rfl,
    if_pos rfl⟩

theorem Building.fresh {g0 g : G} {S : SkSymbol → Prop} {R : Nat → Prop} (hm : Mid g0 g) (hc : AllCov g0.n g R)
    (kp : Kind) (u : Nat) (hk : kp ≠ .ir) (hs : kp ≠ .symbol) :
    Building g0 R g.n kp (cacheSet (alloc g kp u).1 g0.n u g.n) ∧ Step 4 g (cacheSet (alloc g kp u).1 g0.n u g.n) ∧
      LSteps g0 S g (cacheSet (alloc g kp u).1 g0.n u g.n) :=
  have b := Building.of_alloc hm hc kp u hk hs
  ⟨⟨b.mid.of_cacheSet b.new b.lt (if_pos rfl), b.cov.of_par_eq rfl rfl, b.new, b.lt, b.par, b.kind⟩,
    (Step.of_alloc g kp u).trans (Step.of_eq rfl rfl rfl rfl),
    (LStep.alloc g kp u hk hs).one.tail (.reg _ b.new b.lt (if_pos rfl))⟩

theorem Building.decOk {g0 g g' : G} {S : SkSymbol → Prop} {R : Nat → Prop} {p k : Nat} {kp : Kind}
    (b : Building g0 R p kp g') (st : Step k g g') (ss : LSteps g0 S g g') : DecOk g0 S k (· = kp) R g g' p :=
  ⟨b.mid, b.cov, st, ss, b.new, b.lt, b.kind⟩

theorem Building.step {g0 g g' : G} {R : Nat → Prop} {p k : Nat} {kp : Kind} (b : Building g0 R p kp g)
    (st : Step k g g') (hrk : cache_rank kp ≤ k) : p < g'.n ∧ g'.par p = none ∧ g'.kind p = kp :=
  ⟨st.lt b.lt, (st.par p b.lt (by rw [b.kind]; exact hrk)).trans b.par, (st.kind_eq b.lt).trans b.kind⟩

/-- the decoder `dec` fills collection `s` of nodes of kind `kp` from the messages `Q`: its results are new nodes of a
kind in `K`, which belongs into that collection, and it leaves the back-pointers of nodes of rank `≤ k` alone, `kp`
included -/
structure Child {α : Type} (g0 : G) (S : SkSymbol → Prop) (dec : G → Nat → α → Except LErr (G × Nat)) (s : Slot)
    (kp : Kind) (k : Nat) (K : Kind → Prop) (Q : α → Prop) : Prop where
  ok : ∀ (R : Nat → Prop) g a g' v, Q a → Mid g0 g → AllCov g0.n g R → dec g g0.n a = .ok (g', v) →
    DecOk g0 S k K R g g' v
  ne_ir : kp ≠ .ir
  rank : cache_rank kp ≤ k
  slot : ∀ kd, K kd → slotOf kd = some s ∧ parentKind kd = some kp

theorem Building.attach {α : Type} {dec : G → Nat → α → Except LErr (G × Nat)} {g0 : G} {S : SkSymbol → Prop} {k : Nat}
    {K : Kind → Prop} {s : Slot} {kp : Kind} {Q : α → Prop} (c : Child g0 S dec s kp k K Q) {R : Nat → Prop} {p : Nat} :
    ∀ (as : List α) (g g' : G), (∀ a, a ∈ as → Q a) → Building g0 R p kp g → decodeAttach dec g0.n p s g as = .ok g' →
      Building g0 R p kp g' ∧ Step (cache_rank kp) g g' ∧ LSteps g0 S g g' := by
  have hkp := c.ne_ir
  have hrk := c.rank
  have hK := c.slot
  intro as
  induction as with
  | nil =>
    intro g g' _ b h
    cases h
    exact ⟨b, Step.refl _ _, .refl _⟩
  | cons a as ih =>
    intro g g' hQ b h
    obtain ⟨g1, v, g2, h1, h2, h⟩ := decodeAttach_cons h
    have d1 := c.ok _ g a g1 v (hQ a List.mem_cons_self) b.mid b.cov h1
    obtain ⟨hpnb, hppb, hkb⟩ := b.step d1.step hrk
    have hch : ChildOK g1 p s v := ⟨hpnb, d1.lt, (hK _ d1.kind).1, by rw [hkb]; exact (hK _ d1.kind).2⟩
    have hkp1 : g1.kind p ≠ .ir := by rw [hkb]; exact hkp
    have hmv := setAdd_moved d1.mid hppb hkp1 d1.new hch h2
    have sadd : LStep g0 S g1 g2 := .add hppb hkp1 b.new d1.new hch h2
    have hc2 : AllCov g0.n g2 (fun r => R r ∨ r = p) := by
      refine (hmv.cov (R := fun r => (R r ∨ r = p) ∨ r = v) (.inl (.inr rfl)) d1.cov).shrink ?_
      rintro r (hr | rfl)
      · exact Cov.self hr
      · exact ⟨p, .inr rfl, .step (hmv.par_in r rfl) .refl⟩
    have hpv : p ≠ v := (cache_ne_of_parentKind hch.parent_kind).symm
    have st12 : Step (cache_rank kp) g1 g2 := by
      refine Step.of_moved hmv ?_
      intro w hw
      subst hw
      have := cache_rank_parentKind (hK _ d1.kind).2
      omega
    obtain ⟨b', r3, s3⟩ := ih g2 g' (fun a ha => hQ a (List.mem_cons_of_mem _ ha))
      ⟨sadd.mid d1.mid, hc2, b.new, by rw [hmv.stable.n]; exact hpnb,
        by rw [hmv.par_out p hpv]; exact hppb, by rw [hmv.stable.kind]; exact hkb⟩ h
    exact ⟨b', (d1.step.mono hrk).trans (st12.trans r3), d1.steps.trans (.head sadd s3)⟩

theorem decodeLeaf_ok {g0 : G} {S : SkSymbol → Prop} {kd : Kind} (hk : kd ≠ .ir) (hs : kd ≠ .symbol) (R : Nat → Prop)
    (g : G) (u : Nat) (g' : G) (v : Nat) (hm : Mid g0 g) (hc : AllCov g0.n g R)
    (h : decodeLeaf kd g g0.n u = .ok (g', v)) : DecOk g0 S 4 (· = kd) R g g' v := by
  rcases decodeLeaf_cases h with ⟨rfl, hcv, hkv⟩ | ⟨_, rfl, rfl⟩
  · exact .of_hit hm hc hcv hkv
  · obtain ⟨b, st, ss⟩ := Building.fresh hm hc kd u hk hs
    exact b.decOk st ss

theorem decodeBlock_ok {g0 : G} {S : SkSymbol → Prop} (R : Nat → Prop) (g : G) (b : Nat × Bool) (g' : G) (v : Nat)
    (hm : Mid g0 g) (hc : AllCov g0.n g R) (h : decodeBlock g g0.n b = .ok (g', v)) :
    DecOk g0 S 4 (fun kd => kd = .code ∨ kd = .data) R g g' v := by
  rw [decodeBlock_eq] at h
  cases hb : b.2 <;> rw [hb] at h
  · exact (decodeLeaf_ok (by decide) (by decide) R g _ g' v hm hc h).imp fun _ => .inr
  · exact (decodeLeaf_ok (by decide) (by decide) R g _ g' v hm hc h).imp fun _ => .inl

theorem decodeInterval_ok {g0 : G} {S : SkSymbol → Prop} (R : Nat → Prop) (g : G) (x : SkInterval) (g' : G) (v : Nat)
    (hm : Mid g0 g) (hc : AllCov g0.n g R) (h : decodeInterval g g0.n x = .ok (g', v)) :
    DecOk g0 S 3 (fun kd => kd = .interval) R g g' v := by
  rcases decodeInterval_cases h with ⟨rfl, hcv, hkv⟩ | ⟨_, rfl, g2, bs, g3, hbs, hblk, rfl⟩
  · exact .of_hit hm hc hcv hkv
  · have b1 := Building.of_alloc hm hc .interval x.uuid (by decide) (by decide)
    rw [decodeBlocks_eq] at hbs
    obtain ⟨d, sd⟩ := decodeList_ok (S := S) (fun R g a g' v => decodeBlock_ok R g a g' v) _ _ _ _ _ b1.mid b1.cov hbs
    obtain ⟨hI2, hpar2, hkind2⟩ := b1.step d.step (by decide)
    have hmv := blkUpdate_moved d.mid b1.new hI2 hpar2 hkind2 (fun v hv => d.all v hv) hblk
    have sblk : LStep g0 S g2 g3 := .blk b1.new hI2 hpar2 hkind2 (fun v hv => d.all v hv) hblk
    have hparbs : ∀ r, r ∈ bs → g3.par r = some g.n := by
      intro r hr
      by_cases hn : r ∈ blkNew g2 g.n bs
      · exact hmv.par_in r hn
      · rw [hmv.par_out r hn]
        have hk : r ∈ g2.kids g.n .blocks := by
          apply Classical.byContradiction
          intro hk; exact hn (mem_blkNew.2 ⟨hr, hk⟩)
        exact d.mid.forest.par_of_mem hk
    have hc3 : AllCov g0.n g3 (fun r => R r ∨ r = g.n) := by
      refine (hmv.cov (R := fun r => (R r ∨ r = g.n) ∨ r ∈ bs) (.inl (.inr rfl)) d.cov).shrink ?_
      rintro r ((hr | rfl) | hr)
      · exact Cov.self (.inl hr)
      · exact Cov.self (.inr rfl)
      · exact ⟨g.n, .inr rfl, .step (hparbs r hr) .refl⟩
    have hoc := onlyCache_cacheAddInterval g3 g0.n g.n
    have st : Step 3 g (cacheAddInterval g3 g0.n g.n) := by
      refine ((Step.of_alloc g _ _).mono (by decide)).trans ((d.step.mono (by decide)).trans
        ((Step.of_moved hmv ?_).trans (Step.of_eq hoc.n hoc.kind hoc.uuid hoc.par)))
      intro v hv
      rcases (d.all v (mem_blkNew.1 hv).1).2.2 with e | e <;> rw [e] <;> decide
    have hI3 : g.n < g3.n := by rw [hmv.stable.n]; exact hI2
    have sreg : LStep g0 S g3 _ := .regInterval g3 b1.new hI3
    exact ⟨sreg.mid (sblk.mid d.mid), hc3.of_par_eq hoc.n hoc.par, st,
      .head (.alloc g .interval x.uuid (by decide) (by decide)) (sd.trans (.head sblk sreg.one)), b1.new,
      by rw [hoc.n]; exact hI3, by rw [hoc.kind, hmv.stable.kind]; exact hkind2⟩

/-- the loop `for x in xs: p.<coll>.add(x)` on a detached new node `p` (all children decoded first; the
decoders of sections and modules interleave decoding and adding instead, see `Building.attach`) -/
theorem foldE_setAdd_ok {g0 : G} {p : Nat} {s : Slot} (hp0 : g0.n ≤ p) : ∀ (xs : List Nat) (g g' : G) (R : Nat → Prop),
    Mid g0 g → AllCov g0.n g R → R p → g.par p = none → g.kind p ≠ .ir →
    (∀ x, x ∈ xs → g0.n ≤ x ∧ ChildOK g p s x) →
    foldE (fun g x => setAdd g p s x) xs g = .ok g' →
    Mid g0 g' ∧ AllCov g0.n g' R ∧ Stable g g' := by
  intro xs
  induction xs with
  | nil =>
    intro g g' R hm hc _ _ _ _ h
    cases h
    exact ⟨hm, hc, Stable.refl _⟩
  | cons x xs ih =>
    intro g g' R hm hc hRp hpp hkp hxs h
    obtain ⟨g1, h1, h2⟩ := foldE_cons_ok h
    obtain ⟨hx0, hxc⟩ := hxs x List.mem_cons_self
    have hmv := setAdd_moved hm hpp hkp hx0 hxc h1
    have hm1 := hm.moved hmv hp0 (fun v hv => by subst hv; exact ⟨hx0, hxc.2.1⟩)
    have hc1 := hmv.cov hRp hc
    have hpx : p ≠ x := (cache_ne_of_parentKind hxc.2.2.2).symm
    obtain ⟨r1, r2, r3⟩ := ih g1 g' R hm1 hc1 hRp (by rw [hmv.par_out p hpx]; exact hpp)
      (by rw [hmv.stable.kind]; exact hkp)
      (fun y hy => ⟨(hxs y (List.mem_cons_of_mem _ hy)).1,
        (hxs y (List.mem_cons_of_mem _ hy)).2.of_stable hmv.stable⟩) h2
    exact ⟨r1, r2, hmv.stable.trans r3⟩

/-- decode a list of children, then attach them to the detached new node `p` -/
theorem attach_phase {g0 ga gb gc : G} {R : Nat → Prop} {p : Nat} {s : Slot} {k : Nat} {K : Kind → Prop}
    {xs : List Nat} (d : DecsOk g0 k K R ga gb xs) (hRp : R p) (hp0 : g0.n ≤ p) (hpn : p < ga.n)
    (hpp : ga.par p = none) (hkp : ga.kind p ≠ .ir) (hrk : cache_rank (ga.kind p) ≤ k)
    (hK : ∀ kd, K kd → slotOf kd = some s ∧ parentKind kd = some (ga.kind p))
    (h : foldE (fun g x => setAdd g p s x) xs gb = .ok gc) :
    Mid g0 gc ∧ AllCov g0.n gc R ∧ Step (cache_rank (ga.kind p)) ga gc := by
  have hppb : gb.par p = none := by rw [d.step.par p hpn hrk]; exact hpp
  have hkb : gb.kind p = ga.kind p := d.step.kind_eq hpn
  have hpnb : p < gb.n := d.step.lt hpn
  have hch : ∀ x, x ∈ xs → g0.n ≤ x ∧ ChildOK gb p s x := by
    intro x hx
    obtain ⟨h1, h2, h3⟩ := d.all x hx
    exact ⟨h1, hpnb, h2, (hK _ h3).1, by rw [hkb]; exact (hK _ h3).2⟩
  obtain ⟨r1, r2, r3⟩ := foldE_setAdd_ok hp0 xs gb gc (fun r => R r ∨ r ∈ xs) d.mid d.cov (.inl hRp) hppb
    (by rw [hkb]; exact hkp) hch h
  have hpar := foldE_setAdd_par xs h
  refine ⟨r1, r2.shrink ?_, (d.step.mono hrk).trans ⟨r3.grows, ?_⟩⟩
  · rintro r (hr | hr)
    · exact Cov.self hr
    · exact ⟨p, hRp, .step (by rw [hpar, if_pos hr]) .refl⟩
  · intro x _ hr
    rw [hpar, if_neg]
    intro hx
    have := cache_rank_parentKind (hK _ (d.all x hx).2.2).2
    omega

theorem child_interval (g0 : G) (S : SkSymbol → Prop) :
    Child g0 S decodeInterval .bis .section 3 (· = .interval) (fun _ => True) :=
  ⟨fun R g a g' v _ => decodeInterval_ok R g a g' v, by decide, by decide, fun _ h => h ▸ ⟨rfl, rfl⟩⟩

theorem decodeSection_ok {g0 : G} {S : SkSymbol → Prop} (R : Nat → Prop) (g : G) (x : SkSection) (g' : G) (v : Nat)
    (hm : Mid g0 g) (hc : AllCov g0.n g R) (h : decodeSection g g0.n x = .ok (g', v)) :
    DecOk g0 S 2 (fun kd => kd = .section) R g g' v := by
  rcases decodeSection_cases h with ⟨rfl, hcv, hkv⟩ | ⟨_, rfl, hatt⟩
  · exact .of_hit hm hc hcv hkv
  · obtain ⟨b2, a3, s3⟩ := Building.fresh (S := S) hm hc .section x.uuid (by decide) (by decide)
    obtain ⟨b4, r3, s4⟩ := Building.attach (child_interval g0 S) _ _ _ (fun _ _ => trivial) b2 hatt
    exact b4.decOk ((a3.mono (by decide)).trans r3) (s3.trans s4)

theorem decodeSymbol_ok {g0 : G} {S : SkSymbol → Prop} (R : Nat → Prop) (g : G) (x : SkSymbol) (g' : G) (v : Nat)
    (hS : S x) (hm : Mid g0 g) (hc : AllCov g0.n g R) (h : decodeSymbol g g0.n x = .ok (g', v)) :
    DecOk g0 S 4 (fun kd => kd = .symbol) R g g' v := by
  have ss : LStep g0 S g g' := .symbol hS h
  rcases decodeSymbol_cases h with ⟨rfl, hcv, hkv⟩ | ⟨_, rfl, pl, hres, rfl⟩
  · exact .of_hit hm hc hcv hkv
  · exact ⟨ss.mid hm, (AllCov.alloc' hm hc .symbol x.uuid rfl rfl).of_par_eq rfl rfl,
      (Step.of_alloc g .symbol x.uuid).trans (Step.of_eq rfl rfl rfl rfl), ss.one, Nat.le_of_lt hm.lt,
      Nat.lt_succ_self _, if_pos rfl⟩

theorem child_proxy (g0 : G) (S : SkSymbol → Prop) :
    Child g0 S decodeProxy .proxies .module 4 (· = .proxy) (fun _ => True) :=
  ⟨fun R g u g' v _ hm hc h =>
      decodeLeaf_ok (by decide) (by decide) R g u g' v hm hc (decodeProxy_eq g g0.n u ▸ h),
    by decide, by decide, fun _ h => h ▸ ⟨rfl, rfl⟩⟩

theorem child_section (g0 : G) (S : SkSymbol → Prop) :
    Child g0 S decodeSection .secs .module 2 (· = .section) (fun _ => True) :=
  ⟨fun R g a g' v _ => decodeSection_ok R g a g' v, by decide, by decide, fun _ h => h ▸ ⟨rfl, rfl⟩⟩

theorem child_symbol (g0 : G) (S : SkSymbol → Prop) : Child g0 S decodeSymbol .syms .module 4 (· = .symbol) S :=
  ⟨decodeSymbol_ok, by decide, by decide, fun _ h => h ▸ ⟨rfl, rfl⟩⟩

/-- the node `g.n` of a module message that is really decoded stays under construction through the stages -/
structure ModStages (g0 : G) (S : SkSymbol → Prop) (g : G) (R : Nat → Prop) (g4 g6 g8 : G) : Prop where
  at4 : Building g0 R g.n .module g4
  at6 : Building g0 R g.n .module g6
  at8 : Building g0 R g.n .module g8
  step68 : Step 1 g6 g8
  step08 : Step 1 g g8
  steps08 : LSteps g0 S g g8

theorem modStages {g0 g : G} {S : SkSymbol → Prop} {R : Nat → Prop} (hm : Mid g0 g) (hc : AllCov g0.n g R) {m : SkModule}
    (hS : ∀ x, x ∈ m.symbols → S x) {g4 g6 g8 : G} (hr : ModRun g g0.n m g4 g6 g8) : ModStages g0 S g R g4 g6 g8 := by
  obtain ⟨b2, a3, t2⟩ := Building.fresh (S := S) hm hc .module m.uuid (by decide) (by decide)
  obtain ⟨b4, s24, t4⟩ := Building.attach (child_proxy g0 S) _ _ _ (fun _ _ => trivial) b2 hr.proxies
  obtain ⟨b6, s46, t6⟩ := Building.attach (child_section g0 S) _ _ _ (fun _ _ => trivial) b4 hr.sections
  obtain ⟨b8, s68, t8⟩ := Building.attach (child_symbol g0 S) _ _ _ hS b6 hr.symbols
  exact ⟨b4, b6, b8, s68, (a3.mono (by decide)).trans (s24.trans (s46.trans s68)), t2.trans (t4.trans (t6.trans t8))⟩

/-- what the checks of a module that was really decoded (not re-used) established -/
def ModChecks (g0 g' : G) (m : SkModule) : Prop :=
  (∀ u, m.entry = some u → ∃ n, g0.n ≤ n ∧ n < g'.n ∧ g'.kind n = .code ∧ g'.uuid n = u) ∧
  (∀ u, u ∈ m.exprSyms → ∃ n, g'.cache g0.n u = some n ∧ g'.kind n = .symbol)

theorem decodeModule_spec {g0 : G} {S : SkSymbol → Prop} (R : Nat → Prop) (g : G) (m : SkModule) (g' : G) (v : Nat)
    (hS : ∀ x, x ∈ m.symbols → S x) (hm : Mid g0 g) (hc : AllCov g0.n g R)
    (h : decodeModule g g0.n m = .ok (g', v)) :
    DecOk g0 S 1 (fun kd => kd = .module) R g g' v ∧ (g.cache g0.n m.uuid = none → ModChecks g0 g' m) := by
  rcases decodeModule_cases h with ⟨rfl, hcv, hkv⟩ | ⟨_, rfl, g4, g6, hr, hent, hchk⟩
  · exact ⟨.of_hit hm hc hcv hkv, fun hn => by rw [hn] at hcv; cases hcv⟩
  · have st := modStages hm hc hS hr
    refine ⟨st.at8.decOk st.step08 st.steps08, fun _ => ⟨?_, ?_⟩⟩
    · intro u hu
      obtain ⟨n, hn, hkn⟩ := refKind_ok (hent u hu)
      obtain ⟨e1, e2, e3⟩ := st.at6.mid.entries _ _ hn
      refine ⟨n, e1, st.step68.lt e2, ?_, ?_⟩
      · rw [st.step68.kind_eq e2]; simpa using hkn
      · rw [(st.step68.grows.2 n e2).2]; exact e3
    · intro u hu
      obtain ⟨n, hn, hkn⟩ := checkAll_ok _ hchk u hu
      exact ⟨n, hn, by simpa using hkn⟩

theorem decodeModule_ok {g0 : G} (R : Nat → Prop) (g : G) (m : SkModule) (g' : G) (v : Nat) (hm : Mid g0 g)
    (hc : AllCov g0.n g R) (h : decodeModule g g0.n m = .ok (g', v)) :
    DecOk g0 (fun _ => True) 1 (fun kd => kd = .module) R g g' v :=
  (decodeModule_spec R g m g' v (fun _ _ => trivial) hm hc h).1

theorem desc_of_irOf {g : G} (hp : CacheParInv g) {x i : Nat} (hi : irOf g x = some i) : CacheDesc g i x := by
  induction x using cache_par_induction hp with
  | root x hpx =>
    rw [cache_irOf_root hpx] at hi
    split at hi
    · cases hi; exact .refl
    · cases hi
  | step x a hpx ih =>
    rw [cache_irOf_par hp hpx] at hi
    exact .step hpx (ih hi)

theorem AllAtt.cov {g0 g : G} (hm : Mid g0 g) (h : AllAtt g0 g) : AllCov g0.n g (· = g0.n) :=
  fun x hx hlt => ⟨g0.n, rfl, desc_of_irOf hm.forest.cache_parInv (h x hx hlt)⟩

theorem Mid.old_not_att {g0 g : G} (hm : Mid g0 g) {x : Nat} (hx : x < g0.n) : irOf g x ≠ some g0.n := by
  intro hi
  have := hm.desc_new (desc_of_irOf hm.forest.cache_parInv hi) (Nat.le_refl _)
  omega

theorem decodeModules_step {g0 g g1 g2 : G} {S : SkSymbol → Prop} {m : SkModule} {v : Nat}
    (hS : ∀ x, x ∈ m.symbols → S x) (hm : Mid g0 g) (ha : AllAtt g0 g)
    (hdm : decodeModule g g0.n m = .ok (g1, v)) (happ : modAppend g1 g0.n v = .ok g2) :
    Mid g0 g2 ∧ AllAtt g0 g2 ∧ LSteps g0 S g g2 :=
  have d := (decodeModule_spec _ g m g1 v hS hm (ha.cov hm) hdm).1
  have ⟨m2, a2⟩ := modAppend_outer d.mid d.new d.lt d.kind d.cov happ
  ⟨m2, a2, d.steps.tail (.append d.new d.lt d.kind d.cov happ)⟩

theorem decodeModules_ok {g0 : G} {S : SkSymbol → Prop} : ∀ (ms : List SkModule) (g g' : G),
    (∀ md, md ∈ ms → ∀ x, x ∈ md.symbols → S x) → Mid g0 g → AllAtt g0 g →
    decodeModules g0.n g ms = .ok g' → Mid g0 g' ∧ AllAtt g0 g' ∧ LSteps g0 S g g' := by
  intro ms
  induction ms with
  | nil => intro g g' _ hm ha h; cases h; exact ⟨hm, ha, .refl _⟩
  | cons m ms ih =>
    intro g g' hS hm ha h
    obtain ⟨g1, v, g2, hdm, happ, h⟩ := decodeModules_cons h
    obtain ⟨m2, a2, s2⟩ := decodeModules_step (hS m List.mem_cons_self) hm ha hdm happ
    obtain ⟨m3, a3, s3⟩ := ih g2 g' (fun md hmd => hS md (List.mem_cons_of_mem _ hmd)) m2 a2 h
    exact ⟨m3, a3, s2.trans s3⟩

theorem load_steps {g g' : G} {m : SkIR} {ir : Nat} (hf : ForestInv g) (hl : load g m = .ok (g', ir)) :
    Mid g (mkIR g m.uuid) ∧ Mid g g' ∧ AllAtt g g' ∧
    LSteps g (fun x => ∃ md, md ∈ m.modules ∧ x ∈ md.symbols) (mkIR g m.uuid) g' := by
  obtain ⟨_, hdm, _⟩ := load_cases hl
  obtain ⟨m1, a1⟩ := mid_mkIR hf m.uuid
  exact ⟨m1, decodeModules_ok m.modules _ _ (fun md hmd x hx => ⟨md, hmd, hx⟩) m1 a1 hdm⟩

theorem load_ok {g g' : G} {m : SkIR} {ir : Nat} (hf : ForestInv g) (hl : load g m = .ok (g', ir)) :
    ir = g.n ∧ Mid g g' ∧ AllAtt g g' ∧
    (∀ u, u ∈ (m.edges.flatMap fun e => [e.1, e.2]) →
      ∃ n, g'.cache g.n u = some n ∧ (g'.kind n = .code ∨ g'.kind n = .proxy)) := by
  obtain ⟨rfl, _, hchk⟩ := load_cases hl
  obtain ⟨_, m2, a2, _⟩ := load_steps hf hl
  refine ⟨rfl, m2, a2, ?_⟩
  intro u hu
  obtain ⟨n, hn, hk⟩ := checkAll_ok _ hchk u hu
  exact ⟨n, hn, by simpa using hk⟩

theorem load_keeps {g g' : G} {P : G → Prop} {m : SkIR} {ir : Nat}
    (hP : ∀ a b, Mid g a → LStep g (fun x => ∃ md, md ∈ m.modules ∧ x ∈ md.symbols) a b → P a → P b)
    (hf : ForestInv g) (h0 : P (mkIR g m.uuid)) (hl : load g m = .ok (g', ir)) : P g' :=
  have ⟨m1, _, _, ss⟩ := load_steps hf hl
  ss.keeps hP m1 h0

def New (g0 g : G) (K : Kind → Prop) (u n : Nat) : Prop := g0.n ≤ n ∧ n < g.n ∧ K (g.kind n) ∧ g.uuid n = u

theorem New.of_grows {g0 g g' : G} {K : Kind → Prop} {u n : Nat} (hg : Grows g g') (h : New g0 g K u n) :
    New g0 g' K u n := by
  obtain ⟨h1, h2, h3, h4⟩ := h
  exact ⟨h1, Nat.lt_of_lt_of_le h2 hg.1, by rw [(hg.2 n h2).1]; exact h3, by rw [(hg.2 n h2).2]; exact h4⟩

theorem New.of_entry {g0 g : G} (hm : Mid g0 g) {ok : Kind → Bool} {u n : Nat} (hc : g.cache g0.n u = some n)
    (hk : ok (g.kind n) = true) : New g0 g (fun k => ok k = true) u n := by
  obtain ⟨h1, h2, h3⟩ := hm.entries u n hc
  exact ⟨h1, h2, hk, h3⟩

theorem New.imp {g0 g : G} {K K' : Kind → Prop} {u n : Nat} (h : New g0 g K u n) (hK : ∀ k, K k → K' k) :
    New g0 g K' u n := ⟨h.1, h.2.1, hK _ h.2.2.1, h.2.2.2⟩

/-- a witness that survives the rest of the load: some new node of kind `k` and UUID `u` (`∃ n, New g0 g (· = k) u n`) -/
def Has (g0 g : G) (k : Kind) (u : Nat) : Prop := ∃ n, g0.n ≤ n ∧ n < g.n ∧ g.kind n = k ∧ g.uuid n = u

theorem Has.of_grows {g0 g g' : G} {k : Kind} {u : Nat} (hg : Grows g g') (h : Has g0 g k u) : Has g0 g' k u :=
  have ⟨n, hn⟩ := h
  ⟨n, New.of_grows (K := (· = k)) hg hn⟩

def ModChecked (g0 g : G) (m : SkModule) : Prop :=
  (∀ u, m.entry = some u → Has g0 g .code u) ∧ (∀ u, u ∈ m.exprSyms → Has g0 g .symbol u)

theorem ModChecked.of_grows {g0 g g' : G} {m : SkModule} (hg : Grows g g') (h : ModChecked g0 g m) :
    ModChecked g0 g' m :=
  ⟨fun u hu => (h.1 u hu).of_grows hg, fun u hu => (h.2 u hu).of_grows hg⟩

theorem ModChecks.checked {g0 g : G} {m : SkModule} (hm : Mid g0 g) (h : ModChecks g0 g m) : ModChecked g0 g m := by
  refine ⟨fun u hu => h.1 u hu, ?_⟩
  intro u hu
  obtain ⟨n, hn, hk⟩ := h.2 u hu
  obtain ⟨e1, e2, e3⟩ := hm.entries u n hn
  exact ⟨n, e1, e2, hk, e3⟩

theorem decodeModules_grows (i : Nat) (ms : List SkModule) (g g' : G) (h : decodeModules i g ms = .ok g') : Grows g g' :=
  ((Made.trace 1).modules (fun _ hk => hk) i ms g g' h).1

/-- the modules decoded so far carry the UUIDs `done`, and the UUIDs of the messages `m :: ms` are pairwise
distinct and not among them: the message `m` is really decoded, and afterwards the same holds of `ms` and
`m.uuid :: done` -/
theorem modules_done_step {g0 g g1 g2 : G} {m : SkModule} {ms : List SkModule} {v : Nat} {done : List Nat}
    (hm : Mid g0 g) (hmods : ∀ x, g0.n ≤ x → x < g.n → g.kind x = .module → g.uuid x ∈ done)
    (hnot : ∀ m', m' ∈ m :: ms → m'.uuid ∉ done) (hnd : ((m :: ms).map (·.uuid)).Nodup)
    (hdm : decodeModule g g0.n m = .ok (g1, v)) (hst : Stable g1 g2) :
    g.cache g0.n m.uuid = none ∧
    (∀ x, g0.n ≤ x → x < g2.n → g2.kind x = .module → g2.uuid x ∈ m.uuid :: done) ∧
    (∀ m', m' ∈ ms → m'.uuid ∉ m.uuid :: done) ∧ (ms.map (·.uuid)).Nodup := by
  have hmade := decodeModule_made hdm
  rw [List.map_cons, List.nodup_cons] at hnd
  refine ⟨?_, ?_, ?_, hnd.2⟩
  · rcases decodeModule_cases hdm with ⟨_, hc, hk⟩ | ⟨hc, _⟩
    · obtain ⟨e1, e2, e3⟩ := hm.entries _ _ hc
      exact absurd (e3 ▸ hmods v e1 e2 hk) (hnot m List.mem_cons_self)
    · exact hc
  · intro x hx hlt hk
    rw [hst.n] at hlt; rw [hst.kind] at hk; rw [hst.uuid]
    by_cases hxg : x < g.n
    · rw [(hmade.1.2 x hxg).1] at hk; rw [(hmade.1.2 x hxg).2]
      exact List.mem_cons_of_mem _ (hmods x hx hxg hk)
    · rw [(hmade.2 x (by omega) hlt hk).2]; exact List.mem_cons_self
  · intro m' hm' hmem
    rcases List.mem_cons.1 hmem with e | e
    · exact hnd.1 (List.mem_map.2 ⟨m', hm', e⟩)
    · exact hnot m' (List.mem_cons_of_mem _ hm') e

theorem mkIR_no_modules (g : G) (u : Nat) :
    ∀ x, g.n ≤ x → x < (mkIR g u).n → (mkIR g u).kind x = .module → (mkIR g u).uuid x ∈ ([] : List Nat) := by
  intro x hx hlt hk
  rw [(mkIR_new g u hx hlt).2.1] at hk; cases hk

/-- with pairwise distinct module UUIDs every module message is really decoded, so its checks were made -/
theorem decodeModules_checks {g0 : G} : ∀ (ms : List SkModule) (g g' : G) (done : List Nat), Mid g0 g → AllAtt g0 g →
    (∀ x, g0.n ≤ x → x < g.n → g.kind x = .module → g.uuid x ∈ done) → (∀ m, m ∈ ms → m.uuid ∉ done) →
    (ms.map (·.uuid)).Nodup → decodeModules g0.n g ms = .ok g' → ∀ m, m ∈ ms → ModChecked g0 g' m := by
  intro ms
  induction ms with
  | nil => intro g g' done _ _ _ _ _ _ m hm; cases hm
  | cons m ms ih =>
    intro g g' done hm ha hmods hnot hnd h md hmd
    obtain ⟨g1, v, g2, hdm, happ, hrest⟩ := decodeModules_cons h
    have hst := modAppend_stable happ
    obtain ⟨hfresh, hmods2, hnot2, hnd2⟩ := modules_done_step hm hmods hnot hnd hdm hst
    obtain ⟨d, hchk⟩ := decodeModule_spec (S := fun _ => True) _ g m g1 v (fun _ _ => trivial) hm (ha.cov hm) hdm
    obtain ⟨m2, a2, _⟩ := decodeModules_step (S := fun _ => True) (fun _ _ => trivial) hm ha hdm happ
    rcases List.mem_cons.1 hmd with rfl | hmd
    · exact (((hchk hfresh).checked d.mid).of_grows hst.grows).of_grows (decodeModules_grows g0.n ms g2 g' hrest)
    · exact ih g2 g' (m.uuid :: done) m2 a2 hmods2 hnot2 hnd2 hrest md hmd

theorem load_checks {g g' : G} {m : SkIR} {ir : Nat} (hf : ForestInv g) (hl : load g m = .ok (g', ir))
    (hnd : (m.modules.map (·.uuid)).Nodup) : ∀ md, md ∈ m.modules → ModChecked g g' md := by
  obtain ⟨_, hdm, _⟩ := load_cases hl
  obtain ⟨m1, a1⟩ := mid_mkIR hf m.uuid
  exact decodeModules_checks m.modules _ _ [] m1 a1 (mkIR_no_modules g m.uuid) (fun _ _ h => by cases h) hnd hdm

theorem load_distNew {g g' : G} {m : SkIR} {ir : Nat} (hl : load g m = .ok (g', ir)) (hnd : m.nodeUuids.Nodup) :
    DistNew g.n g' := by
  obtain ⟨_, hdm, _⟩ := load_cases hl
  have hu := (Uq.trace g.n).modules (fun _ _ => trivial) g.n m.modules _ _ hdm
  unfold SkIR.nodeUuids at hnd
  rw [List.nodup_cons] at hnd
  refine (hu.2 (· = m.uuid) (fun x hx hlt => (mkIR_new g m.uuid hx hlt).2.2) ?_ hnd.2 ?_).1
  · intro u hu' he; subst he; exact hnd.1 hu'
  · intro a b ha hal hb hbl _
    rw [(mkIR_new g m.uuid ha hal).1, (mkIR_new g m.uuid hb hbl).1]

end Gtirb.Loader
