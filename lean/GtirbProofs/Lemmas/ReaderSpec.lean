import GtirbModel.ProtoWF
import GtirbModel.MsgWF
import GtirbProofs.Lemmas.ListLemmas
/-! The staged reader `fromMsg` as a check followed by a pure function of the message (model E).
A stage `decodeX : Env → M → Except Err (V × Env)` never computes with the UUID table, it only
questions it: `decodeX env a` is the check `chkX env a : Except Err Unit` (built from the model's
own `fresh` / `checkUuid` and the one reference check `refIs`) followed by the result
`(ofX a, (K a).reverse ++ env)`, where `ofX a` and the table entries `K a` depend on the message
part alone (`IsStage`; `IsCheck` for a stage that leaves the table alone). -/
namespace Gtirb.Msg
open Gtirb

theorem Env.find_none_iff {env : Env} {u : U} : env.find u = none ↔ u ∉ env.map (·.1) := by
  simp only [Env.find, Option.map_eq_none_iff, List.find?_eq_none, List.mem_map, beq_iff_eq]
  exact ⟨fun h ⟨a, ha, e⟩ => h a ha e, fun h a ha e => h ⟨a, ha, e⟩⟩

theorem Env.mem_of_find {env : Env} {u : U} {k : KindTag} (h : env.find u = some k) : (u, k) ∈ env := by
  simp only [Env.find, Option.map_eq_some_iff] at h
  obtain ⟨a, ha, rfl⟩ := h
  have h2 := List.find?_some ha
  rw [beq_iff_eq] at h2
  exact h2 ▸ List.mem_of_find?_eq_some ha

theorem Env.kind_unique {env : Env} (hnd : (env.map (·.1)).Nodup) {u : U} {k k' : KindTag}
    (h : (u, k) ∈ env) (h' : (u, k') ∈ env) : k = k' :=
  congrArg Prod.snd (List.inj_of_nodup_map hnd _ h _ h' rfl)

theorem Env.find_of_mem {env : Env} {u : U} {k : KindTag}
    (hnd : (env.map (·.1)).Nodup) (hm : (u, k) ∈ env) : env.find u = some k := by
  cases hf : env.find u with
  | none => exact absurd (List.mem_map.2 ⟨(u, k), hm, rfl⟩) (Env.find_none_iff.1 hf)
  | some k' => rw [Env.kind_unique hnd (Env.mem_of_find hf) hm]

@[simp] theorem fresh_ok_iff {env : Env} {u : U} {k : KindTag} :
    fresh env u k = .ok () ↔ u.length = 16 ∧ u ∉ env.map (·.1) := by
  rw [← Env.find_none_iff]
  unfold fresh checkUuid
  by_cases h16 : u.length = 16
  · cases hf : env.find u with
    | none => simp [h16]
    | some k' =>
      simp only [h16, if_true, true_and, reduceCtorEq, iff_false]
      split <;> exact fun h => nomatch h
  · simp [h16]

theorem nodup_suffix {A B : Env} (h : ((A ++ B).map (·.1)).Nodup) : (B.map (·.1)).Nodup :=
  ((List.sublist_append_right A B).map _).nodup h

theorem fresh_of_nodup {A : Env} {k : U × KindTag} {env : Env}
    (h : ((A ++ k :: env).map (·.1)).Nodup) : k.1 ∉ env.map (·.1) := by
  have := nodup_suffix h
  rw [List.map_cons, List.nodup_cons] at this
  exact this.1

theorem nodup_at_split {α : Type} {K : α → Env} {pre post : List α} {a : α} {env : Env}
    (hnd : ((((pre ++ a :: post).flatMap K).reverse ++ env).map (·.1)).Nodup) :
    (((K a).reverse ++ ((pre.flatMap K).reverse ++ env)).map (·.1)).Nodup := by
  have e : ((pre ++ a :: post).flatMap K).reverse ++ env
      = (post.flatMap K).reverse ++ ((K a).reverse ++ ((pre.flatMap K).reverse ++ env)) := by simp
  rw [e] at hnd
  exact nodup_suffix hnd

section Fold
variable {α β : Type}

/-- the shape of `decodeBlocks`, `decodeIntervals`, `decodeSections`, `decodeSymbols` and
`decodeModules`: decode the elements in order, threading the UUID table -/
def decodeList (f : Env → α → Except Err (β × Env)) : Env → List α → Except Err (List β × Env)
  | env, [] => .ok ([], env)
  | env, a :: as =>
    match f env a with
    | .error e => .error e
    | .ok (v, env1) =>
      match decodeList f env1 as with
      | .error e => .error e
      | .ok (vs, env2) => .ok (v :: vs, env2)

end Fold

theorem decodeBlocks_eq : decodeBlocks = decodeList decodeBlock := by
  funext env bs
  induction bs generalizing env with
  | nil => rfl
  | cons b bs ih =>
    rw [decodeBlocks, decodeList]
    cases decodeBlock env b with
    | error e => rfl
    | ok r =>
      simp only [ih]
      cases decodeList decodeBlock r.2 bs <;> rfl

theorem decodeIntervals_eq : decodeIntervals = decodeList decodeInterval := by
  funext env xs
  induction xs generalizing env with
  | nil => rfl
  | cons x xs ih =>
    rw [decodeIntervals, decodeList]
    cases decodeInterval env x with
    | error e => rfl
    | ok r =>
      simp only [ih]
      cases decodeList decodeInterval r.2 xs <;> rfl

theorem decodeSections_eq : decodeSections = decodeList decodeSection := by
  funext env ss
  induction ss generalizing env with
  | nil => rfl
  | cons s ss ih =>
    rw [decodeSections, decodeList]
    cases decodeSection env s with
    | error e => rfl
    | ok r =>
      simp only [ih]
      cases decodeList decodeSection r.2 ss <;> rfl

theorem decodeSymbols_eq : decodeSymbols = decodeList decodeSymbol := by
  funext env ss
  induction ss generalizing env with
  | nil => rfl
  | cons s ss ih =>
    rw [decodeSymbols, decodeList]
    cases decodeSymbol env s with
    | error e => rfl
    | ok r =>
      simp only [ih]
      cases decodeList decodeSymbol r.2 ss <;> rfl

theorem decodeModules_eq : decodeModules = decodeList decodeModule := by
  funext env ms
  induction ms generalizing env with
  | nil => rfl
  | cons m ms ih =>
    rw [decodeModules, decodeList]
    cases decodeModule env m with
    | error e => rfl
    | ok r =>
      simp only [ih]
      cases decodeList decodeModule r.2 ms <;> rfl

/-! ### node kinds of a message in decode order -/

def mblockKind (b : MBlock) : Option (U × KindTag) :=
  match b.value with
  | some (.code c) => some (c.uuid, .code)
  | some (.data d) => some (d.uuid, .data)
  | none => none

def mblockKinds (bs : List MBlock) : Env := bs.filterMap mblockKind
def mintervalKinds (x : MByteInterval) : Env := mblockKinds x.blocks ++ [(x.uuid, .interval)]
def msectionKinds (s : MSection) : Env :=
  (s.uuid, .section) :: s.byteIntervals.flatMap mintervalKinds
def mmoduleKinds (m : MModule) : Env :=
  (m.uuid, .module) :: m.proxies.map (fun p => (p, KindTag.proxy)) ++ m.sections.flatMap msectionKinds
    ++ m.symbols.map (fun s => (s.uuid, KindTag.symbol))

/-- the table after the IR node and the module messages `ms` -/
def menvOf (uuid : U) (ms : List MModule) : Env := (ms.flatMap mmoduleKinds).reverse ++ [(uuid, .ir)]

def payloadOfMsg : Option MPayload → PayloadV
  | none => .none
  | some (.value n) => .value n
  | some (.referentUuid u) => .referent u

def exprOfMsg : MSymExprValue → SymExprV
  | .addrConst off s => .addrConst off s
  | .addrAddr sc off s1 s2 => .addrAddr sc off s1 s2

def edgeOfMsg (me : MEdge) : EdgeV :=
  ⟨me.sourceUuid, me.targetUuid, me.label.map fun l => ⟨l.type, l.conditional, l.direct⟩⟩

def andThen (a b : Except Err Unit) : Except Err Unit :=
  match a with
  | .error e => .error e
  | .ok _ => b

def guardE (p : Bool) (e : Err) : Except Err Unit := if p then .ok () else .error e

@[simp] theorem andThen_ok {a b : Except Err Unit} : andThen a b = .ok () ↔ a = .ok () ∧ b = .ok () := by
  cases a <;> simp [andThen]

theorem andThen_error {a b : Except Err Unit} {e : Err} :
    andThen a b = .error e ↔ a = .error e ∨ (a = .ok () ∧ b = .error e) := by
  cases a <;> simp [andThen]

@[simp] theorem guardE_ok {p : Bool} {e : Err} : guardE p e = .ok () ↔ p = true := by
  cases p <;> simp [guardE]

@[simp] theorem checkUuid_ok_iff {u : U} : checkUuid u = .ok () ↔ u.length = 16 := by
  unfold checkUuid; split <;> simp [*]

/-- a check that, if it fails, fails with `DeserializationError` (the class of C09) -/
def Soft (c : Except Err Unit) : Prop := ∀ e, c = .error e → e = .deserializationError

theorem Soft.of_ok {c : Except Err Unit} (h : c = .ok ()) : Soft c := fun e he => by
  rw [h] at he; cases he

theorem Soft.andThen {a b : Except Err Unit} (ha : Soft a) (hb : Soft b) : Soft (andThen a b) :=
  fun e he => (andThen_error.1 he).elim (ha e) fun h => hb e h.2

section Stage
variable {α β : Type}

def chkList (c : Env → α → Except Err Unit) (K : α → Env) : Env → List α → Except Err Unit
  | _, [] => .ok ()
  | env, a :: as => andThen (c env a) (chkList c K ((K a).reverse ++ env) as)

variable {c : Env → α → Except Err Unit} {K : α → Env}

theorem chkList_ok_iff : ∀ {as : List α} {env : Env}, chkList c K env as = .ok () ↔
    ∀ pre a post, as = pre ++ a :: post → c ((pre.flatMap K).reverse ++ env) a = .ok ()
  | [], env => by simp [chkList]
  | a :: as, env => by
    rw [chkList, andThen_ok, chkList_ok_iff]
    constructor
    · rintro ⟨h1, h2⟩ pre b post hs
      cases pre with
      | nil => cases hs; exact h1
      | cons p pre =>
        cases hs
        simpa using h2 pre b post rfl
    · intro h
      exact ⟨h [] a as rfl, fun pre b post hs => by simpa using h (a :: pre) b post (by rw [hs]; rfl)⟩

theorem chkList_ok_mem {as : List α} {env : Env} (h : chkList c K env as = .ok ()) {a : α}
    (ha : a ∈ as) : ∃ env', c env' a = .ok () :=
  let ⟨pre, post, hs⟩ := List.append_of_mem ha
  ⟨_, chkList_ok_iff.1 h pre a post hs⟩

theorem chkList_error : ∀ {as : List α} {env : Env} {e : Err}, chkList c K env as = .error e →
    ∃ pre a post, as = pre ++ a :: post ∧ c ((pre.flatMap K).reverse ++ env) a = .error e
  | [], env, e, h => by simp [chkList] at h
  | a :: as, env, e, h => by
    rw [chkList, andThen_error] at h
    rcases h with h | ⟨_, h⟩
    · exact ⟨[], a, as, rfl, h⟩
    · obtain ⟨pre, b, post, rfl, hb⟩ := chkList_error h
      exact ⟨a :: pre, b, post, rfl, by simpa using hb⟩

theorem Soft.chkList {as : List α} {env : Env}
    (h : ∀ pre a post, as = pre ++ a :: post → Soft (c ((pre.flatMap K).reverse ++ env) a)) :
    Soft (chkList c K env as) := fun e he =>
  let ⟨pre, a, post, hs, ha⟩ := chkList_error he
  h pre a post hs e ha

def IsStage (f : Env → α → Except Err (β × Env)) (c : Env → α → Except Err Unit) (o : α → β)
    (K : α → Env) : Prop :=
  ∀ env a, f env a = match c env a with
    | .error e => .error e
    | .ok _ => .ok (o a, (K a).reverse ++ env)

variable {f : Env → α → Except Err (β × Env)} {o : α → β}

theorem IsStage.ok_iff (h : IsStage f c o K) {env env' : Env} {a : α} {v : β} :
    f env a = .ok (v, env') ↔ c env a = .ok () ∧ v = o a ∧ env' = (K a).reverse ++ env := by
  rw [h env a]
  cases c env a <;> simp [eq_comm]

theorem IsStage.list (h : IsStage f c o K) :
    IsStage (decodeList f) (chkList c K) (List.map o) (List.flatMap K) := by
  intro env as
  induction as generalizing env with
  | nil => rfl
  | cons a as ih =>
    rw [decodeList, chkList, h env a]
    cases c env a with
    | error e => rfl
    | ok u =>
      simp only [andThen, ih]
      cases chkList c K ((K a).reverse ++ env) as <;> simp

/-- `S`: what has to be assumed of an element; for an interval, that it does not carry the UUID of
one of its own blocks -/
theorem chkList_nodup {S : α → Prop}
    (hc : ∀ env a, c env a = .ok () → S a → (env.map (·.1)).Nodup →
      (((K a).reverse ++ env).map (·.1)).Nodup) :
    ∀ {as : List α} {env : Env}, chkList c K env as = .ok () → (∀ a ∈ as, S a) →
      (env.map (·.1)).Nodup → ((((as.flatMap K).reverse ++ env)).map (·.1)).Nodup
  | [], env, _, _, hn => by simpa using hn
  | a :: as, env, h, hs, hn => by
    rw [chkList, andThen_ok] at h
    have := chkList_nodup hc h.2 (fun x hx => hs x (List.mem_cons_of_mem _ hx))
      (hc env a h.1 (hs a List.mem_cons_self) hn)
    simpa using this

end Stage

/-! ### checks over a list without table growth -/

section All
variable {α : Type}

def chkAll (c : α → Except Err Unit) : List α → Except Err Unit
  | [] => .ok ()
  | a :: as => andThen (c a) (chkAll c as)

variable {c : α → Except Err Unit}

@[simp] theorem chkAll_ok_iff : ∀ {as : List α}, chkAll c as = .ok () ↔ ∀ a ∈ as, c a = .ok ()
  | [] => by simp [chkAll]
  | a :: as => by simp [chkAll, chkAll_ok_iff (as := as)]

theorem chkAll_error : ∀ {as : List α} {e : Err}, chkAll c as = .error e → ∃ a ∈ as, c a = .error e
  | [], e, h => by simp [chkAll] at h
  | a :: as, e, h => by
    rw [chkAll, andThen_error] at h
    rcases h with h | ⟨_, h⟩
    · exact ⟨a, List.mem_cons_self, h⟩
    · obtain ⟨b, hb, hc⟩ := chkAll_error h
      exact ⟨b, List.mem_cons_of_mem _ hb, hc⟩

theorem Soft.chkAll {as : List α} (h : ∀ a ∈ as, Soft (c a)) : Soft (chkAll c as) := fun e he =>
  let ⟨a, ha, hc⟩ := chkAll_error he
  h a ha e hc

end All

section Check
variable {α β : Type}

def IsCheck (f : α → Except Err β) (c : α → Except Err Unit) (o : α → β) : Prop :=
  ∀ a, f a = match c a with
    | .error e => .error e
    | .ok _ => .ok (o a)

variable {f : α → Except Err β} {c : α → Except Err Unit} {o : α → β}

theorem IsCheck.ok_iff (h : IsCheck f c o) {a : α} {v : β} : f a = .ok v ↔ c a = .ok () ∧ v = o a := by
  rw [h a]
  cases c a <;> simp [eq_comm]

theorem IsCheck.error_iff (h : IsCheck f c o) {a : α} {e : Err} : f a = .error e ↔ c a = .error e := by
  rw [h a]
  cases c a <;> simp

end Check

/-- the one reference check of the reader: 16 bytes, in the table, of a kind `p` allows -/
def refIs (p : KindTag → Bool) (env : Env) (u : Bytes) : Except Err Unit :=
  andThen (checkUuid u) (guardE ((env.find u).any p) .deserializationError)

@[simp] theorem refIs_ok_iff {p : KindTag → Bool} {env : Env} {u : Bytes} :
    refIs p env u = .ok () ↔ u.length = 16 ∧ ∃ k, env.find u = some k ∧ p k = true := by
  simp [refIs, Option.any_eq_true]

theorem Soft.refIs {p : KindTag → Bool} {env : Env} {u : Bytes} (h16 : u.length = 16) :
    Soft (refIs p env u) :=
  Soft.andThen (Soft.of_ok (checkUuid_ok_iff.2 h16)) fun e he => by
    cases hp : (env.find u).any p <;> simp [guardE, hp] at he
    exact he.symm

theorem symRef_eq (env : Env) (u : Bytes) : symRef env u = refIs (· == .symbol) env u := by
  unfold symRef refIs andThen
  cases checkUuid u with
  | error e => rfl
  | ok r =>
    simp only [guardE]
    cases env.find u with
    | none => rfl
    | some k => cases k <;> rfl

def ofBlock (b : MBlock) : BlockV :=
  match b.value with
  | some (.code c) => .code c.uuid b.offset c.size c.decodeMode
  | some (.data d) => .data d.uuid b.offset d.size
  | none => .data [] 0 0

def chkBlock (env : Env) (b : MBlock) : Except Err Unit :=
  match b.value with
  | none => .error .typeError
  | some (.code c) => andThen (fresh env c.uuid .code) (guardE (pyEnumHas "DecodeMode" c.decodeMode) .valueError)
  | some (.data d) => fresh env d.uuid .data

theorem decodeBlock_stage : IsStage decodeBlock chkBlock ofBlock (fun b => (mblockKind b).toList) := by
  intro env b
  obtain ⟨off, val⟩ := b
  rcases val with _ | c | d
  · rfl
  · simp only [decodeBlock, chkBlock, andThen, guardE]
    cases fresh env c.uuid .code with
    | error e => rfl
    | ok u => cases pyEnumHas "DecodeMode" c.decodeMode <;> rfl
  · simp only [decodeBlock, chkBlock]
    cases fresh env d.uuid .data <;> rfl

/-- the check of a block in the vocabulary of `closedMsg` -/
theorem chkBlock_ok_iff {env : Env} {b : MBlock} : chkBlock env b = .ok () ↔
    mblockOK b = true ∧ ∀ k, mblockKind b = some k → k.1.length = 16 ∧ k.1 ∉ env.map (·.1) := by
  obtain ⟨off, val⟩ := b
  rcases val with _ | c | d
  · exact ⟨fun h => (by cases h), fun h => (by cases h.1)⟩
  · simp only [chkBlock, andThen_ok, fresh_ok_iff, guardE_ok, mblockOK, mblockKind, Option.some.injEq,
      forall_eq', and_comm]
  · simp only [chkBlock, fresh_ok_iff, mblockOK, mblockKind, Option.some.injEq, forall_eq', true_and]

theorem flatMap_toList_mblockKind (bs : List MBlock) :
    bs.flatMap (fun b => (mblockKind b).toList) = mblockKinds bs := by
  induction bs with
  | nil => rfl
  | cons b bs ih =>
    rw [List.flatMap_cons, ih]
    show _ = List.filterMap mblockKind (b :: bs)
    rw [List.filterMap_cons]
    cases mblockKind b <;> rfl

/-- first pass over an interval: everything but the expressions -/
def ofInterval0 (x : MByteInterval) : IntervalV :=
  { uuid := x.uuid, addr := if x.hasAddress then some x.address else none, size := x.size,
    contents := x.contents, blocks := x.blocks.map ofBlock, exprs := [] }

def chkInterval (env : Env) (x : MByteInterval) : Except Err Unit :=
  andThen (fresh env x.uuid .interval)
    (andThen (guardE (decide (x.contents.length ≤ x.size)) .valueError)
      (chkList chkBlock (fun b => (mblockKind b).toList) env x.blocks))

theorem decodeInterval_stage : IsStage decodeInterval chkInterval ofInterval0 mintervalKinds := by
  intro env x
  simp only [decodeInterval, chkInterval, andThen, guardE, decodeBlocks_eq,
    decodeBlock_stage.list env x.blocks, flatMap_toList_mblockKind]
  cases fresh env x.uuid .interval with
  | error e => rfl
  | ok u =>
    by_cases hl : x.contents.length ≤ x.size
    · have : ¬ x.contents.length > x.size := by omega
      simp only [this, hl, if_false, decide_true, if_true]
      cases chkList chkBlock _ env x.blocks <;> simp [mintervalKinds, ofInterval0]
    · have : x.contents.length > x.size := by omega
      simp [this, hl]

def chkSymbol (env : Env) (s : MSymbol) : Except Err Unit :=
  andThen (fresh env s.uuid .symbol)
    (match s.payload with
      | some (.referentUuid u) => refIs isBlockKind env u
      | _ => .ok ())

def ofSymbol (s : MSymbol) : SymbolV :=
  { uuid := s.uuid, name := s.name, payload := payloadOfMsg s.payload, atEnd := s.atEnd }

theorem decodeSymbol_stage :
    IsStage decodeSymbol chkSymbol ofSymbol (fun s => [(s.uuid, KindTag.symbol)]) := by
  intro env s
  obtain ⟨su, sp, sn, sa⟩ := s
  simp only [decodeSymbol, chkSymbol, andThen, refIs, guardE]
  cases fresh env su .symbol with
  | error e => rfl
  | ok r =>
    rcases sp with _ | n | u
    · rfl
    · rfl
    · simp only
      cases checkUuid u with
      | error e => rfl
      | ok r =>
        simp only
        cases hf : env.find u with
        | none => rfl
        | some k => cases hk : isBlockKind k <;> simp [hk] <;> rfl

theorem chkSymbol_ok_iff {env : Env} {s : MSymbol} : chkSymbol env s = .ok () ↔
    (s.uuid.length = 16 ∧ s.uuid ∉ env.map (·.1)) ∧ ∀ u, s.payload = some (.referentUuid u) →
      refIs isBlockKind env u = .ok () := by
  obtain ⟨su, sp, sn, sa⟩ := s
  rcases sp with _ | n | u
  · simp only [chkSymbol, andThen_ok, fresh_ok_iff, and_true, reduceCtorEq, false_implies, implies_true]
  · simp only [chkSymbol, andThen_ok, fresh_ok_iff, and_true, Option.some.injEq, reduceCtorEq, false_implies,
      implies_true]
  · simp only [chkSymbol, andThen_ok, fresh_ok_iff, Option.some.injEq, MPayload.referentUuid.injEq,
      forall_eq']

/-! ### expressions: the second pass over the intervals -/

def chkExpr (env : Env) (kv : Nat × MSymExpr) : Except Err Unit :=
  match kv.2.value with
  | none => .error .typeError
  | some (.addrConst _ s) => refIs (· == .symbol) env s
  | some (.addrAddr _ _ s1 s2) => andThen (refIs (· == .symbol) env s1) (refIs (· == .symbol) env s2)

theorem chkExpr_ok_iff {env : Env} {kv : Nat × MSymExpr} : chkExpr env kv = .ok () ↔
    kv.2.value.isSome = true ∧ ∀ u ∈ mexprSyms kv.2, refIs (· == .symbol) env u = .ok () := by
  obtain ⟨k, val, fl⟩ := kv
  rcases val with _ | ⟨off, s⟩ | ⟨sc, off, s1, s2⟩
  · exact ⟨fun h => (by cases h), fun h => (by cases h.1)⟩
  · simp only [chkExpr, mexprSyms, Option.isSome_some, List.mem_singleton, forall_eq, true_and]
  · simp only [chkExpr, andThen_ok, mexprSyms, Option.isSome_some, List.mem_cons,
      List.not_mem_nil, or_false, forall_eq_or_imp, forall_eq, true_and]

def ofExpr (kv : Nat × MSymExpr) : ExprEntryV :=
  ⟨kv.1, (kv.2.value.map exprOfMsg).getD (.addrConst 0 []), dedupNat kv.2.attributeFlags⟩

theorem decodeExpr_check (env : Env) : IsCheck (decodeExpr env) (chkExpr env) ofExpr := by
  intro kv
  obtain ⟨k, val, fl⟩ := kv
  rcases val with _ | ⟨off, s⟩ | ⟨sc, off, s1, s2⟩
  · rfl
  · simp only [decodeExpr, chkExpr, symRef_eq]
    cases refIs (· == .symbol) env s <;> rfl
  · simp only [decodeExpr, chkExpr, symRef_eq, andThen]
    cases refIs (· == .symbol) env s1 with
    | error e => rfl
    | ok r => cases refIs (· == .symbol) env s2 <;> rfl

theorem decodeExprs_check (env : Env) :
    IsCheck (decodeExprs env) (chkAll (chkExpr env)) (List.map ofExpr)
  | [] => rfl
  | kv :: kvs => by
    rw [decodeExprs, decodeExpr_check env kv, chkAll, decodeExprs_check env kvs]
    cases chkExpr env kv with
    | error e => rfl
    | ok r => simp only [andThen]; cases chkAll (chkExpr env) kvs <;> rfl

def ofInterval (x : MByteInterval) : IntervalV :=
  { ofInterval0 x with exprs := x.symbolicExpressions.map ofExpr }

def chkExprsI (env : Env) (x : MByteInterval) : Except Err Unit := chkAll (chkExpr env) x.symbolicExpressions

theorem fillExprsIntervals_eq (env : Env) : ∀ xs, fillExprsIntervals env (xs.map ofInterval0) xs =
    match chkAll (chkExprsI env) xs with
    | .error e => .error e
    | .ok _ => .ok (xs.map ofInterval)
  | [] => rfl
  | x :: xs => by
    rw [List.map_cons, fillExprsIntervals, decodeExprs_check env, chkAll, fillExprsIntervals_eq env xs,
      chkExprsI]
    cases chkAll (chkExpr env) x.symbolicExpressions with
    | error e => rfl
    | ok r => simp only [andThen]; cases chkAll (chkExprsI env) xs <;> rfl

def ofSection0 (s : MSection) : SectionV :=
  { uuid := s.uuid, name := s.name, flags := dedupNat s.sectionFlags,
    intervals := s.byteIntervals.map ofInterval0 }

def ofSection (s : MSection) : SectionV :=
  { ofSection0 s with intervals := s.byteIntervals.map ofInterval }

def chkSection (env : Env) (s : MSection) : Except Err Unit :=
  andThen (fresh env s.uuid .section)
    (andThen (guardE (s.sectionFlags.all (pyEnumHas "SectionFlag")) .valueError)
      (chkList chkInterval mintervalKinds ((s.uuid, .section) :: env) s.byteIntervals))

theorem decodeSection_stage : IsStage decodeSection chkSection ofSection0 msectionKinds := by
  intro env s
  simp only [decodeSection, chkSection, andThen, guardE, decodeIntervals_eq,
    decodeInterval_stage.list _ s.byteIntervals]
  cases fresh env s.uuid .section with
  | error e => rfl
  | ok u =>
    cases s.sectionFlags.all (pyEnumHas "SectionFlag") with
    | false => rfl
    | true =>
      simp only [if_true]
      cases chkList chkInterval mintervalKinds ((s.uuid, .section) :: env) s.byteIntervals <;>
        simp [msectionKinds, ofSection0]

def chkExprsS (env : Env) (s : MSection) : Except Err Unit := chkAll (chkExprsI env) s.byteIntervals

theorem fillExprsSections_eq (env : Env) : ∀ ss, fillExprsSections env (ss.map ofSection0) ss =
    match chkAll (chkExprsS env) ss with
    | .error e => .error e
    | .ok _ => .ok (ss.map ofSection)
  | [] => rfl
  | s :: ss => by
    rw [List.map_cons, fillExprsSections, chkAll, fillExprsSections_eq env ss, chkExprsS]
    simp only [ofSection0, fillExprsIntervals_eq]
    cases chkAll (chkExprsI env) s.byteIntervals with
    | error e => rfl
    | ok r => simp only [andThen]; cases chkAll (chkExprsS env) ss <;> rfl

theorem decodeProxies_stage : IsStage decodeProxies
    (chkList (fun e p => fresh e p .proxy) fun p => [(p, KindTag.proxy)]) id
    (List.map fun p => (p, KindTag.proxy)) := by
  intro env ps
  induction ps generalizing env with
  | nil => rfl
  | cons p ps ih =>
    rw [decodeProxies, chkList, ih]
    cases fresh env p .proxy with
    | error e => rfl
    | ok r =>
      simp only [andThen, List.reverse_cons, List.reverse_nil, List.nil_append, List.singleton_append]
      cases chkList (fun e p => fresh e p .proxy) (fun p => [(p, KindTag.proxy)]) ((p, .proxy) :: env) ps <;> simp

def ofModule (m : MModule) : ModuleV :=
  { uuid := m.uuid, name := m.name, binaryPath := m.binaryPath, preferredAddr := m.preferredAddr,
    rebaseDelta := m.rebaseDelta, fileFormat := m.fileFormat, isa := m.isa, byteOrder := m.byteOrder,
    entryPoint := if m.entryPoint.isEmpty then none else some m.entryPoint, proxies := m.proxies,
    sections := m.sections.map ofSection, symbols := m.symbols.map ofSymbol,
    aux := decodeAux m.auxData }

/-- the tables of the module's stages: after the proxies, after the sections (where the entry point
and the symbols' referents are looked up) -/
def menv1 (env : Env) (m : MModule) : Env :=
  (m.proxies.map fun p => (p, KindTag.proxy)).reverse ++ (m.uuid, .module) :: env
def menv2 (env : Env) (m : MModule) : Env := (m.sections.flatMap msectionKinds).reverse ++ menv1 env m

theorem menv2_symbols (env : Env) (m : MModule) :
    (m.symbols.flatMap fun s => [(s.uuid, KindTag.symbol)]).reverse ++ menv2 env m
      = (mmoduleKinds m).reverse ++ env := by
  simp [mmoduleKinds, menv2, menv1, ← List.map_eq_flatMap]

def chkModule (env : Env) (m : MModule) : Except Err Unit :=
  andThen (fresh env m.uuid .module)
  (andThen (guardE (pyEnumHas "ISA" m.isa && pyEnumHas "FileFormat" m.fileFormat
      && pyEnumHas "ByteOrder" m.byteOrder) .valueError)
  (andThen (chkList (fun e p => fresh e p .proxy) (fun p => [(p, KindTag.proxy)])
      ((m.uuid, .module) :: env) m.proxies)
  (andThen (chkList chkSection msectionKinds (menv1 env m) m.sections)
  (andThen (if m.entryPoint.isEmpty then .ok () else refIs (· == .code) (menv2 env m) m.entryPoint)
  (andThen (chkList chkSymbol (fun s => [(s.uuid, KindTag.symbol)]) (menv2 env m) m.symbols)
    (chkAll (chkExprsS ((mmoduleKinds m).reverse ++ env)) m.sections))))))

theorem decodeModule_stage : IsStage decodeModule chkModule ofModule mmoduleKinds := by
  intro env m
  simp only [decodeModule, chkModule, decodeProxies_stage _ m.proxies, decodeSections_eq, decodeSymbols_eq,
    decodeSection_stage.list _ m.sections, decodeSymbol_stage.list _ m.symbols, andThen, guardE]
  cases fresh env m.uuid .module with
  | error e => rfl
  | ok u =>
    cases pyEnumHas "ISA" m.isa && pyEnumHas "FileFormat" m.fileFormat && pyEnumHas "ByteOrder" m.byteOrder with
    | false => rfl
    | true =>
      simp only [Bool.not_true, Bool.false_eq_true, if_false, if_true]
      cases chkList (fun e p => fresh e p .proxy) (fun p => [(p, KindTag.proxy)])
          ((m.uuid, .module) :: env) m.proxies with
      | error e => rfl
      | ok u =>
        simp only [← menv1.eq_1]
        cases chkList chkSection msectionKinds (menv1 env m) m.sections with
        | error e => rfl
        | ok u =>
          simp only [← menv2.eq_1]
          simp only [refIs, andThen, guardE, ofModule]
          -- the entry-point lookup is an anonymous `match` inside `decodeModule`, about which no lemma
          -- can be stated from outside: its cases are walked here; where an entry point (or none) is
          -- decoded, the symbols and the second pass follow
          cases m.entryPoint.isEmpty with
          | true =>
            simp only [if_true]
            cases chkList chkSymbol (fun s => [(s.uuid, KindTag.symbol)]) (menv2 env m) m.symbols with
            | error e => rfl
            | ok u =>
              simp only [menv2_symbols, fillExprsSections_eq]
              cases chkAll (chkExprsS ((mmoduleKinds m).reverse ++ env)) m.sections <;> rfl
          | false =>
            simp only [Bool.false_eq_true, if_false]
            cases checkUuid m.entryPoint with
            | error e => rfl
            | ok r =>
              cases (menv2 env m).find m.entryPoint with
              | none => rfl
              | some k =>
                cases k with
                | code =>
                  simp only
                  cases chkList chkSymbol (fun s => [(s.uuid, KindTag.symbol)]) (menv2 env m) m.symbols with
                  | error e => rfl
                  | ok u =>
                    simp only [menv2_symbols, fillExprsSections_eq]
                    cases chkAll (chkExprsS ((mmoduleKinds m).reverse ++ env)) m.sections <;> rfl
                | _ => rfl

theorem cfgRef_eq (env : Env) (u : Bytes) :
    cfgRef env u = refIs (fun k => k == .code || k == .proxy) env u := by
  unfold cfgRef refIs andThen
  cases checkUuid u with
  | error e => rfl
  | ok r =>
    simp only [guardE]
    cases env.find u with
    | none => rfl
    | some k => cases k <;> rfl

def chkEdge (env : Env) (e : MEdge) : Except Err Unit :=
  andThen (refIs (fun k => k == .code || k == .proxy) env e.sourceUuid)
    (andThen (refIs (fun k => k == .code || k == .proxy) env e.targetUuid)
      (match e.label with
        | none => .ok ()
        | some l => guardE (pyEnumHas "EdgeType" l.type) .valueError))

theorem decodeEdge_check (env : Env) : IsCheck (decodeEdge env) (chkEdge env) edgeOfMsg := by
  intro me
  obtain ⟨src, dst, lab⟩ := me
  simp only [decodeEdge, chkEdge, cfgRef_eq, andThen, guardE, edgeOfMsg]
  cases refIs (fun k => k == .code || k == .proxy) env src with
  | error e => rfl
  | ok r =>
    cases refIs (fun k => k == .code || k == .proxy) env dst with
    | error e => rfl
    | ok r =>
      cases lab with
      | none => rfl
      | some l => simp only; cases pyEnumHas "EdgeType" l.type <;> rfl

theorem decodeEdges_check (env : Env) :
    IsCheck (decodeEdges env) (chkAll (chkEdge env)) (List.map edgeOfMsg)
  | [] => rfl
  | me :: es => by
    rw [decodeEdges, decodeEdge_check env me, chkAll, decodeEdges_check env es]
    cases chkEdge env me with
    | error e => rfl
    | ok r => simp only [andThen]; cases chkAll (chkEdge env) es <;> rfl

def chkMsg (m : MIR) : Except Err Unit :=
  andThen (checkUuid m.uuid)
    (andThen (guardE (m.version == Generated.protobufVersion) .valueError)
      (andThen (chkList chkModule mmoduleKinds [(m.uuid, .ir)] m.modules)
        (chkAll (chkEdge (menvOf m.uuid m.modules)) m.cfg.edges)))

def ofMsg (m : MIR) : IRV :=
  { uuid := m.uuid, version := m.version, modules := m.modules.map ofModule,
    edges := dedupEdges (m.cfg.edges.map edgeOfMsg), aux := decodeAux m.auxData }

theorem ofMsg_modules (m : MIR) : (ofMsg m).modules = m.modules.map ofModule := rfl

theorem fromMsg_check : IsCheck fromMsg chkMsg ofMsg := by
  intro m
  simp only [fromMsg, chkMsg, decodeModules_eq, decodeModule_stage.list _ m.modules,
    decodeEdges_check _ m.cfg.edges,
    andThen, guardE, menvOf]
  cases checkUuid m.uuid with
  | error e => rfl
  | ok r =>
    by_cases hv : m.version = Generated.protobufVersion
    · simp only [hv, ne_eq, not_true_eq_false, if_false, beq_self_eq_true, if_true]
      cases chkList chkModule mmoduleKinds [(m.uuid, .ir)] m.modules with
      | error e => rfl
      | ok r =>
        simp only
        cases chkAll (chkEdge ((m.modules.flatMap mmoduleKinds).reverse ++ [(m.uuid, .ir)])) m.cfg.edges with
        | error e => rfl
        | ok r => simp only [ofMsg, hv]
    · simp [hv]

theorem fromMsg_ok_iff {m : MIR} {v : IRV} : fromMsg m = .ok v ↔ chkMsg m = .ok () ∧ v = ofMsg m :=
  fromMsg_check.ok_iff

theorem fromMsg_error_iff {m : MIR} {e : Err} : fromMsg m = .error e ↔ chkMsg m = .error e :=
  fromMsg_check.error_iff

end Gtirb.Msg
