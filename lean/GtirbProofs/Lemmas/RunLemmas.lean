import GtirbProofs.Lemmas.ForestDefs
/-! Histories: how `run` and `OpsOK` split at a cut, and the one induction by which an
invariant is carried along a history. Nothing here depends on a particular invariant. -/
namespace Gtirb.Forest

abbrev skipStep (g : G) (op : Op) : G :=
  match step g op with
  | .ok g' => g'
  | .error _ => g

theorem skipStep_cases {P : G → Prop} {g : G} {op : Op} (herr : P g)
    (hok : ∀ g', step g op = .ok g' → P g') : P (skipStep g op) := by
  unfold skipStep
  cases h : step g op with
  | ok g' => exact hok g' h
  | error _ => exact herr

theorem skipStep_ok {g g' : G} {op : Op} (h : step g op = .ok g') : skipStep g op = g' := by
  unfold skipStep; rw [h]

theorem run_cons (g : G) (op : Op) (ops : List Op) : run g (op :: ops) = run (skipStep g op) ops := rfl

theorem run_append (g : G) (a b : List Op) : run g (a ++ b) = run (run g a) b :=
  List.foldl_append

theorem run_invariant {I : G → List Op → Prop}
    (hstep : ∀ g op ops, I g (op :: ops) → I (skipStep g op) ops) :
    ∀ (pre : List Op) {suf : List Op} {g : G}, I g (pre ++ suf) → I (run g pre) suf
  | [], _, _, h => h
  | op :: pre, _, _, h => run_invariant hstep pre (hstep _ op _ h)

theorem run_invariant_end {I : G → List Op → Prop}
    (hstep : ∀ g op ops, I g (op :: ops) → I (skipStep g op) ops) {g : G} {ops : List Op} (h : I g ops) :
    I (run g ops) [] :=
  run_invariant hstep ops (suf := []) (by rwa [List.append_nil])

theorem OpsOK_append {g : G} {pre suf : List Op} (h : OpsOK g (pre ++ suf)) :
    OpsOK g pre ∧ OpsOK (run g pre) suf := by
  induction pre generalizing g with
  | nil => exact ⟨trivial, h⟩
  | cons op pre ih => exact ⟨⟨h.1, (ih h.2).1⟩, (ih h.2).2⟩

theorem OpsOK_prefix (pre ops : List Op) (g : G) (hpre : pre <+: ops) (hops : OpsOK g ops) : OpsOK g pre := by
  obtain ⟨suf, rfl⟩ := hpre
  exact (OpsOK_append hops).1

theorem DistinctAlong_head : ∀ {g : G} {ops : List Op}, DistinctAlong g ops → Distinct g
  | _, [], h => h
  | _, _ :: _, h => h.1

theorem prefixes_cons {P : G → Prop} {g : G} {op : Op} {ops : List Op}
    (h : ∀ pre, pre <+: op :: ops → P (run g pre)) :
    P g ∧ ∀ pre, pre <+: ops → P (run (skipStep g op) pre) :=
  ⟨h [] List.nil_prefix, fun pre hpre => h (op :: pre) (List.cons_prefix_cons.2 ⟨rfl, hpre⟩)⟩

theorem steps_cons {Q : G → Op → Prop} {g : G} {op : Op} {ops : List Op} :
    (∀ pre x, pre ++ [x] <+: op :: ops → Q (run g pre) x) ↔
      Q g op ∧ ∀ pre x, pre ++ [x] <+: ops → Q (run (skipStep g op) pre) x := by
  constructor
  · intro h
    exact ⟨h [] op (List.cons_prefix_cons.2 ⟨rfl, List.nil_prefix⟩),
      fun pre x hp => h (op :: pre) x (List.cons_prefix_cons.2 ⟨rfl, hp⟩)⟩
  · rintro ⟨h0, h⟩ pre x hp
    cases pre with
    | nil => obtain ⟨rfl, _⟩ := List.cons_prefix_cons.1 hp; exact h0
    | cons p pre => obtain ⟨rfl, hp'⟩ := List.cons_prefix_cons.1 hp; exact h pre x hp'

/-- An invariant `I` of states carried along a well-typed history. The step may use a fact `F` known of
every state of the history from elsewhere (before and after the operation), and a hypothesis `H` about the
state together with the rest of the history (for C03: distinct UUIDs at every later moment). -/
theorem run_induction_hist {I F : G → Prop} {H : G → List Op → Prop}
    (hH : ∀ g op ops, H g (op :: ops) → H (skipStep g op) ops)
    (hstep : ∀ g op ops, F g → F (skipStep g op) → H g (op :: ops) → I g → OpOK g op → I (skipStep g op))
    {g : G} {ops : List Op} (hI : I g) (hops : OpsOK g ops) (hH0 : H g ops)
    (hF : ∀ pre, pre <+: ops → F (run g pre)) : I (run g ops) :=
  (run_invariant_end (I := fun g ops => I g ∧ OpsOK g ops ∧ H g ops ∧ ∀ pre, pre <+: ops → F (run g pre))
    (fun g op ops ⟨hI, hops, hH', hF⟩ =>
      ⟨hstep g op ops (prefixes_cons hF).1 ((prefixes_cons hF).2 [] List.nil_prefix) hH' hI hops.1, hops.2,
        hH g op ops hH', (prefixes_cons hF).2⟩) ⟨hI, hops, hH0, hF⟩).1

/-- the same without a hypothesis on the rest of the history (for C10: `F` is `ForestInv`, supplied by C04) -/
theorem run_induction_along {I F : G → Prop}
    (hstep : ∀ g op, F g → I g → OpOK g op → ∀ g', step g op = .ok g' → I g')
    {g : G} {ops : List Op} (hI : I g) (hops : OpsOK g ops) (hF : ∀ pre, pre <+: ops → F (run g pre)) :
    I (run g ops) :=
  run_induction_hist (H := fun _ _ => True) (fun _ _ _ _ => trivial)
    (fun g op _ hf _ _ hi hop => skipStep_cases hi (hstep g op hf hi hop)) hI hops trivial hF

theorem run_induction {I : G → Prop}
    (hstep : ∀ g op, I g → OpOK g op → ∀ g', step g op = .ok g' → I g')
    {g : G} {ops : List Op} (hI : I g) (hops : OpsOK g ops) : I (run g ops) :=
  run_induction_along (F := fun _ => True) (fun g op _ => hstep g op) hI hops (fun _ _ => trivial)

end Gtirb.Forest
