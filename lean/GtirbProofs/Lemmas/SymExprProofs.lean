import GtirbModel.SymExpr
/-! Helper lemmas for C13: the sorted association-list store of
`ByteInterval.symbolic_expressions` behaves like a dict. -/
namespace Gtirb.SymExpr
open Gtirb.Index (Rng)

theorem sorted_iff_pairwise (s : Store) : Sorted s ↔ s.Pairwise (fun a b => a.1 < b.1) := by
  induction s with
  | nil => simp [Sorted]
  | cons a t ih =>
    cases t with
    | nil => simp [Sorted]
    | cons b t =>
      rw [Sorted, ih, List.pairwise_cons (a := a)]
      constructor
      · rintro ⟨hab, hp⟩
        refine ⟨?_, hp⟩
        intro x hx
        rcases List.mem_cons.1 hx with rfl | hx
        · exact hab
        · exact Nat.lt_trans hab ((List.pairwise_cons.1 hp).1 x hx)
      · rintro ⟨hall, hp⟩
        exact ⟨hall b (List.mem_cons_self ..), hp⟩

theorem sorted_nil : Sorted [] := trivial

theorem sorted_cons (a : Nat × Nat) (s : Store) :
    Sorted (a :: s) ↔ (∀ b ∈ s, a.1 < b.1) ∧ Sorted s := by
  rw [sorted_iff_pairwise, sorted_iff_pairwise, List.pairwise_cons]

theorem sorted_filter (p : Nat × Nat → Bool) {s : Store} (h : Sorted s) : Sorted (s.filter p) := by
  rw [sorted_iff_pairwise] at *
  exact h.filter p

theorem nodup_of_sorted {s : Store} (h : Sorted s) : s.Nodup :=
  ((sorted_iff_pairwise s).1 h).imp fun hlt e => by subst e; exact Nat.lt_irrefl _ hlt

@[simp] theorem get?_nil (k : Nat) : get? [] k = none := rfl

theorem get?_cons (a : Nat × Nat) (s : Store) (k : Nat) :
    get? (a :: s) k = if k = a.1 then some a.2 else get? s k := by
  unfold get?
  rw [List.find?_cons]
  by_cases h : k = a.1
  · simp [h]
  · simp [h, beq_false_of_ne (Ne.symm h)]

theorem mem_of_get? {s : Store} {k v : Nat} (h : get? s k = some v) : (k, v) ∈ s := by
  obtain ⟨a, ha, rfl⟩ := Option.map_eq_some_iff.1 h
  have hk : a.1 = k := by simpa using List.find?_some ha
  exact hk ▸ List.mem_of_find?_eq_some ha

theorem get?_eq_none_iff (s : Store) (k : Nat) : get? s k = none ↔ ∀ b ∈ s, b.1 ≠ k := by
  unfold get?
  rw [Option.map_eq_none_iff, List.find?_eq_none]
  simp only [beq_iff_eq, ne_eq]

theorem get?_of_mem {s : Store} (h : Sorted s) {k v : Nat} (hm : (k, v) ∈ s) : get? s k = some v := by
  induction s with
  | nil => simp at hm
  | cons a t ih =>
    rw [sorted_cons] at h
    rw [get?_cons]
    rcases List.mem_cons.1 hm with e | hm
    · subst e; simp
    · have := h.1 _ hm
      have hne : ¬ k = a.1 := by simp at this; omega
      rw [if_neg hne]
      exact ih h.2 hm

theorem get?_filter_ne (s : Store) (k k' : Nat) :
    get? (s.filter (·.1 != k)) k' = if k' = k then none else get? s k' := by
  unfold get?
  rw [List.find?_filter]
  by_cases hk : k' = k
  · subst hk
    rw [if_pos rfl, Option.map_eq_none_iff, List.find?_eq_none]
    intro a _; simp
  · rw [if_neg hk]
    congr 2; funext a
    by_cases ha : a.1 = k' <;> simp [ha, hk]

theorem get?_setItem (s : Store) (k v k' : Nat) :
    get? (setItem s k v) k' = if k' = k then some v else get? s k' := by
  induction s with
  | nil => simp [setItem, get?_cons]
  | cons a t ih =>
    obtain ⟨ka, va⟩ := a
    unfold setItem
    split
    · rw [get?_cons]
    · split
      · next e =>
        subst e
        rw [get?_cons, get?_cons]
        by_cases hk : k' = k <;> simp [hk]
      · next hlt hne =>
        rw [get?_cons, get?_cons, ih]
        by_cases hk : k' = k
        · subst hk
          have : ¬ k' = ka := by omega
          simp [this]
        · simp [hk]

theorem mem_setItem {s : Store} {k v : Nat} {b : Nat × Nat} (hb : b ∈ setItem s k v) :
    b = (k, v) ∨ b ∈ s := by
  induction s with
  | nil => simpa [setItem] using hb
  | cons a t ih =>
    obtain ⟨ka, va⟩ := a
    unfold setItem at hb
    split at hb
    · simpa using hb
    · split at hb
      · rcases List.mem_cons.1 hb with e | hb
        · exact Or.inl e
        · exact Or.inr (List.mem_cons_of_mem _ hb)
      · rcases List.mem_cons.1 hb with e | hb
        · exact Or.inr (e ▸ List.mem_cons_self ..)
        · rcases ih hb with e | hb
          · exact Or.inl e
          · exact Or.inr (List.mem_cons_of_mem _ hb)

theorem sorted_setItem {s : Store} (h : Sorted s) (k v : Nat) : Sorted (setItem s k v) := by
  induction s with
  | nil => simp [setItem, Sorted]
  | cons a t ih =>
    obtain ⟨ka, va⟩ := a
    have h' := (sorted_cons _ _).1 h
    unfold setItem
    split
    · next hlt =>
      rw [sorted_cons]
      refine ⟨?_, h⟩
      intro b hb
      rcases List.mem_cons.1 hb with e | hb
      · subst e; exact hlt
      · exact Nat.lt_trans hlt (h'.1 b hb)
    · split
      · next e =>
        subst e
        rw [sorted_cons]; exact h'
      · next hlt hne =>
        rw [sorted_cons]
        refine ⟨?_, ih h'.2⟩
        intro b hb
        rcases mem_setItem hb with e | hb
        · subst e; simp; omega
        · exact h'.1 b hb

theorem sorted_update {s : Store} (h : Sorted s) (kvs : List (Nat × Nat)) : Sorted (update s kvs) :=
  List.foldlRecOn kvs _ h fun _ hs _ _ => sorted_setItem hs _ _

theorem mem_scanAtAddr {st : Store} {addr : Option Nat} {r : Rng} {kv : Nat × Nat} :
    kv ∈ scanAtAddr st addr r ↔ kv ∈ st ∧ ∃ a, addr = some a ∧ r.mem ((a : Int) + kv.1) = true := by
  cases addr <;> simp [scanAtAddr, List.mem_filter]

end Gtirb.SymExpr
